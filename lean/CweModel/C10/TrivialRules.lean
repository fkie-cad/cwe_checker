/-
C10 pass 1 — the rewrite rules of `Expression::substitute_trivial_operations`
(trivial_operation_substitution.rs) as a relation: `SubstRule e e'` holds when one rule rewrites `e` to `e'`.
Every step of the model in `Trivial.lean` either returns its argument or applies one rule (`subst…_rule`), so
what holds of every rule holds of the rewriting (no new variable: `SubstRule.vars`, `substTrivial_inputVars`, at the
end of this file; same size, same value: `TrivialProofs.lean`).
A rule that looks for its pattern in either order of the operands of a commutative operation is stated for
one order, `SubstRule.swap` gives the other.
-/
import CweModel.C10.Trivial

namespace CweModel.C10
open CweModel CweModel.IR

/-- the commutative operations at which some rule tries both orders of the operands -/
def commOp : BinOpType → Bool
  | .IntAnd | .IntOr | .IntXOr | .BoolAnd | .BoolOr | .BoolXOr | .IntEqual | .IntNotEqual | .IntAdd => true
  | _ => false

/-- `PairRule outer opA opB newop`: `substitute_equivalent_comparison_ops` rewrites `(a opA b) outer (a opB b)`
to `a newop b` -/
inductive PairRule : BinOpType → BinOpType → BinOpType → BinOpType → Prop where
  | sle : PairRule .BoolOr .IntSLess .IntEqual .IntSLessEqual
  | ule : PairRule .BoolOr .IntLess .IntEqual .IntLessEqual
  | ult : PairRule .BoolAnd .IntLessEqual .IntNotEqual .IntLess
  | slt : PairRule .BoolAnd .IntSLessEqual .IntNotEqual .IntSLess

/-- `negatedComparison` as a relation: `¬(x iop y)` is `y nop x` -/
inductive NegCmp : BinOpType → BinOpType → Prop where
  | eq : NegCmp .IntEqual .IntNotEqual
  | ne : NegCmp .IntNotEqual .IntEqual
  | lt : NegCmp .IntLess .IntLessEqual
  | slt : NegCmp .IntSLess .IntSLessEqual
  | le : NegCmp .IntLessEqual .IntLess
  | sle : NegCmp .IntSLessEqual .IntSLess

inductive SubstRule : Expression → Expression → Prop where
  -- `substitute_binop_for_lhs_equal_rhs`
  | idem {op l} : op = .IntAnd ∨ op = .IntOr ∨ op = .BoolAnd ∨ op = .BoolOr → SubstRule (.BinOp op l l) l
  | xorSelf {op l} : op = .IntXOr ∨ op = .BoolXOr → SubstRule (.BinOp op l l) (.Const l.bytesize 0)
  | cmpSelfTrue {op l} : op = .IntEqual ∨ op = .IntLessEqual ∨ op = .IntSLessEqual →
      SubstRule (.BinOp op l l) (.Const 1 1)
  | cmpSelfFalse {op l} : op = .IntNotEqual ∨ op = .IntLess ∨ op = .IntSLess →
      SubstRule (.BinOp op l l) (.Const 1 0)
  -- `substitute_and_xor_or_with_constant`
  | orXorZero {op b x o} : op = .IntOr ∨ op = .IntXOr ∨ op = .BoolOr ∨ op = .BoolXOr → isZeroC b x = true →
      SubstRule (.BinOp op (.Const b x) o) o
  | andOnes {op b x o} : op = .IntAnd ∨ op = .BoolAnd → isAllOnesC b x = true →
      SubstRule (.BinOp op (.Const b x) o) o
  | boolAndZero {b x o} : isZeroC b x = true → SubstRule (.BinOp .BoolAnd (.Const b x) o) (.Const b x)
  | boolAndOne {b x o} : isOneC b x = true → SubstRule (.BinOp .BoolAnd (.Const b x) o) o
  | boolOrOne {b x o} : isOneC b x = true → SubstRule (.BinOp .BoolOr (.Const b x) o) (.Const b x)
  | boolXorOne {b x o} : isOneC b x = true →
      SubstRule (.BinOp .BoolXOr (.Const b x) o) (.UnOp .BoolNegate o)
  -- `substitute_equivalent_comparison_ops`
  | cmpZeroSub {op b x a c} : op = .IntEqual ∨ op = .IntNotEqual → isZeroC b x = true →
      SubstRule (.BinOp op (.Const b x) (.BinOp .IntSub a c)) (.BinOp op a c)
  | pair {outer opA opB newop a b c d} : PairRule outer opA opB newop → (a = c ∧ b = d) ∨ (a = d ∧ b = c) →
      SubstRule (.BinOp outer (.BinOp opA a b) (.BinOp opB c d)) (.BinOp newop a b)
  -- `substitute_complicated_a_less_than_b`
  | lessIdiom {op a b cb cx} : op = .IntNotEqual ∨ op = .IntEqual → isZeroC cb cx = true →
      SubstRule (.BinOp op (.BinOp .IntSLess (.BinOp .IntSub a b) (.Const cb cx)) (.BinOp .IntSBorrow a b))
        (if op = .IntNotEqual then .BinOp .IntSLess a b else .BinOp .IntSLessEqual b a)
  -- `substitute_arithmetics_with_constants`
  | foldConsts {op b₁ x₁ b₂ x₂ c} : op = .IntAdd ∨ op = .IntSub → foldConst op b₁ x₁ b₂ x₂ = some c →
      SubstRule (.BinOp op (.Const b₁ x₁) (.Const b₂ x₂)) c
  | constChain {op a bm xm br xr c} : op = .IntAdd ∨ op = .IntSub → foldConst .IntAdd bm xm br xr = some c →
      SubstRule (.BinOp op (.BinOp op a (.Const bm xm)) (.Const br xr)) (.BinOp op a c)
  | addConstAdd {a bm xm br xr c} : foldConst .IntAdd bm xm br xr = some c →
      SubstRule (.BinOp .IntAdd (.BinOp .IntAdd (.Const bm xm) a) (.Const br xr)) (.BinOp .IntAdd a c)
  -- the `Subpiece` arm
  | subpieceFull {a} : SubstRule (.Subpiece 0 a.bytesize a) a
  | subpieceExt {cop S a} : cop = .IntZExt ∨ cop = .IntSExt → SubstRule (.Subpiece 0 a.bytesize (.Cast cop S a)) a
  | subpiecePieceHigh {l r} : SubstRule (.Subpiece r.bytesize l.bytesize (.BinOp .Piece l r)) l
  | subpiecePieceLow {l r} : SubstRule (.Subpiece 0 r.bytesize (.BinOp .Piece l r)) r
  | subpieceSubpiece {lb s ilb m a} : SubstRule (.Subpiece lb s (.Subpiece ilb m a)) (.Subpiece (lb + ilb) s a)
  -- the `Cast` arm
  | castSame {op a} : op = .IntSExt ∨ op = .IntZExt → SubstRule (.Cast op a.bytesize a) a
  | castCast {op s m a} : op = .IntSExt ∨ op = .IntZExt → SubstRule (.Cast op s (.Cast op m a)) (.Cast op s a)
  -- the `UnOp` arm
  | unUn {op a} : op = .IntNegate ∨ op = .BoolNegate ∨ op = .Int2Comp → SubstRule (.UnOp op (.UnOp op a)) a
  | negCmp {iop nop l r} : NegCmp iop nop →
      SubstRule (.UnOp .BoolNegate (.BinOp iop l r)) (.BinOp nop r l)
  -- the other order of the operands
  | swap {op l r e'} : commOp op = true → SubstRule (.BinOp op r l) e' → SubstRule (.BinOp op l r) e'

theorem constAndOther_spec {g : Nat → Nat → Bool} {l r : Expression} {b x : Nat} {o : Expression}
    (h : constAndOther g l r = some (b, x, o)) :
    g b x = true ∧ ((l = .Const b x ∧ r = o) ∨ (l = o ∧ r = .Const b x)) := by
  unfold constAndOther at h
  split at h
  · split at h
    · next hg => cases h; exact ⟨hg, .inl ⟨rfl, rfl⟩⟩
    · split at h
      · split at h
        · next hg => cases h; exact ⟨hg, .inr ⟨rfl, rfl⟩⟩
        · cases h
      · cases h
  · split at h
    · split at h
      · next hg => cases h; exact ⟨hg, .inr ⟨rfl, rfl⟩⟩
      · cases h
    · cases h

theorem constAndSub_spec {g : Nat → Nat → Bool} {l r il ir : Expression} {b x : Nat}
    (h : constAndSub g l r = some (b, x, il, ir)) :
    g b x = true ∧ ((l = .Const b x ∧ r = .BinOp .IntSub il ir) ∨ (l = .BinOp .IntSub il ir ∧ r = .Const b x)) := by
  unfold constAndSub at h
  split at h
  · split at h
    · next hg => cases h; exact ⟨hg, .inl ⟨rfl, rfl⟩⟩
    · cases h
  · split at h
    · next hg => cases h; exact ⟨hg, .inr ⟨rfl, rfl⟩⟩
    · cases h
  · cases h

theorem pairOf_spec {opA opB : BinOpType} {l r a b : Expression} (h : pairOf opA opB l r = some (a, b)) :
    ∃ c d, ((a = c ∧ b = d) ∨ (a = d ∧ b = c)) ∧
      ((l = .BinOp opA a b ∧ r = .BinOp opB c d) ∨ (l = .BinOp opB c d ∧ r = .BinOp opA a b)) := by
  unfold pairOf at h
  simp only at h
  split at h
  · next p hp =>
    cases h
    split at hp
    · next o₁ aL aR o₂ bL bR =>
      split at hp
      · next hc =>
        cases hp
        obtain ⟨rfl, rfl, hg⟩ := hc
        exact ⟨bL, bR, by simpa using hg, .inl ⟨rfl, rfl⟩⟩
      · cases hp
    · cases hp
  · split at h
    · next o₁ bL bR o₂ aL aR _ =>
      split at h
      · next hc =>
        cases h
        obtain ⟨rfl, rfl, hg⟩ := hc
        exact ⟨bL, bR, by simpa using hg, .inr ⟨rfl, rfl⟩⟩
      · cases h
    · cases h

theorem unpackLess_spec {e a b : Expression} (h : unpackAMinusBLessThanZero e = some (a, b)) :
    ∃ cb cx, e = .BinOp .IntSLess (.BinOp .IntSub a b) (.Const cb cx) ∧ isZeroC cb cx = true := by
  unfold unpackAMinusBLessThanZero at h
  split at h
  · next a' b' cb cx =>
    split at h
    · next hz => cases h; exact ⟨cb, cx, rfl, hz⟩
    · cases h
  · cases h

theorem unpackLess_shape {e a b : Expression} (h : unpackAMinusBLessThanZero e = some (a, b)) :
    ∃ cb cx, e = .BinOp .IntSLess (.BinOp .IntSub a b) (.Const cb cx) :=
  let ⟨cb, cx, he, _⟩ := unpackLess_spec h
  ⟨cb, cx, he⟩

theorem unpackBorrow_spec {e a b : Expression} (h : unpackAIntSBorrowB e = some (a, b)) :
    e = .BinOp .IntSBorrow a b := by
  unfold unpackAIntSBorrowB at h
  split at h
  · cases h; rfl
  · cases h

theorem SubstRule.ofConstAndOther {g : Nat → Nat → Bool} {op : BinOpType} {l r o e' : Expression} {b x : Nat}
    (hop : commOp op = true) (h : constAndOther g l r = some (b, x, o))
    (hr : g b x = true → SubstRule (.BinOp op (.Const b x) o) e') : SubstRule (.BinOp op l r) e' := by
  obtain ⟨hg, ⟨rfl, rfl⟩ | ⟨rfl, rfl⟩⟩ := constAndOther_spec h
  · exact hr hg
  · exact .swap hop (hr hg)

theorem isOrXorOp_spec {op : BinOpType} (h : isOrXorOp op = true) :
    op = .IntOr ∨ op = .IntXOr ∨ op = .BoolOr ∨ op = .BoolXOr := by
  unfold isOrXorOp at h
  split at h
  · exact .inl rfl
  · exact .inr (.inl rfl)
  · exact .inr (.inr (.inl rfl))
  · exact .inr (.inr (.inr rfl))
  · cases h

theorem isAndOp_spec {op : BinOpType} (h : isAndOp op = true) : op = .IntAnd ∨ op = .BoolAnd := by
  unfold isAndOp at h
  split at h
  · exact .inl rfl
  · exact .inr rfl
  · cases h

theorem substBinopForLhsEqualRhs_rule (e : Expression) :
    substBinopForLhsEqualRhs e = e ∨ SubstRule e (substBinopForLhsEqualRhs e) := by
  unfold substBinopForLhsEqualRhs
  split
  · split
    · next h =>
      subst h
      split
      iterate 4 exact .inr (.idem (by decide))
      iterate 2 exact .inr (.xorSelf (by decide))
      iterate 3 exact .inr (.cmpSelfTrue (by decide))
      iterate 3 exact .inr (.cmpSelfFalse (by decide))
      exact .inl rfl
    · exact .inl rfl
  · exact .inl rfl

theorem substAndXorOrWithConstant_rule (e : Expression) :
    substAndXorOrWithConstant e = e ∨ SubstRule e (substAndXorOrWithConstant e) := by
  unfold substAndXorOrWithConstant
  split
  · split
    · next h =>
      obtain ⟨hop, h⟩ := Option.ite_none_right_eq_some.mp h
      have hop := isOrXorOp_spec hop
      exact .inr (.ofConstAndOther (by rcases hop with rfl | rfl | rfl | rfl <;> rfl) h (.orXorZero hop))
    split
    · next h =>
      obtain ⟨hop, h⟩ := Option.ite_none_right_eq_some.mp h
      have hop := isAndOp_spec hop
      exact .inr (.ofConstAndOther (by rcases hop with rfl | rfl <;> rfl) h (.andOnes hop))
    split
    · next h =>
      obtain ⟨rfl, h⟩ := Option.ite_none_right_eq_some.mp h
      exact .inr (.ofConstAndOther rfl h .boolAndZero)
    split
    · next h =>
      obtain ⟨rfl, h⟩ := Option.ite_none_right_eq_some.mp h
      exact .inr (.ofConstAndOther rfl h .boolAndOne)
    split
    · next h =>
      obtain ⟨rfl, h⟩ := Option.ite_none_right_eq_some.mp h
      exact .inr (.ofConstAndOther rfl h .boolOrOne)
    split
    · next h =>
      obtain ⟨rfl, h⟩ := Option.ite_none_right_eq_some.mp h
      exact .inr (.ofConstAndOther rfl h .boolXorOne)
    · exact .inl rfl
  · exact .inl rfl

theorem SubstRule.ofPairOf {outer opA opB newop : BinOpType} {l r a b : Expression}
    (hop : commOp outer = true) (hr : PairRule outer opA opB newop) (h : pairOf opA opB l r = some (a, b)) :
    SubstRule (.BinOp outer l r) (.BinOp newop a b) := by
  obtain ⟨c, d, hcd, ⟨rfl, rfl⟩ | ⟨rfl, rfl⟩⟩ := pairOf_spec h
  · exact .pair hr hcd
  · exact .swap hop (.pair hr hcd)

theorem substEquivalentComparisonOps_rule (e : Expression) :
    substEquivalentComparisonOps e = e ∨ SubstRule e (substEquivalentComparisonOps e) := by
  unfold substEquivalentComparisonOps
  split
  · split
    · next h =>
      obtain ⟨hop, h⟩ := Option.ite_none_right_eq_some.mp h
      obtain ⟨hg, ⟨rfl, rfl⟩ | ⟨rfl, rfl⟩⟩ := constAndSub_spec h
      · exact .inr (.cmpZeroSub hop hg)
      · exact .inr (.swap (by rcases hop with rfl | rfl <;> rfl) (.cmpZeroSub hop hg))
    split
    · next h =>
      obtain ⟨rfl, h⟩ := Option.ite_none_right_eq_some.mp h
      exact .inr (.ofPairOf rfl .sle h)
    split
    · next h =>
      obtain ⟨rfl, h⟩ := Option.ite_none_right_eq_some.mp h
      exact .inr (.ofPairOf rfl .ule h)
    split
    · next h =>
      obtain ⟨rfl, h⟩ := Option.ite_none_right_eq_some.mp h
      exact .inr (.ofPairOf rfl .ult h)
    split
    · next h =>
      obtain ⟨rfl, h⟩ := Option.ite_none_right_eq_some.mp h
      exact .inr (.ofPairOf rfl .slt h)
    · exact .inl rfl
  · exact .inl rfl

theorem substComplicatedALessThanB_rule (e : Expression) :
    substComplicatedALessThanB e = e ∨ SubstRule e (substComplicatedALessThanB e) := by
  unfold substComplicatedALessThanB
  split
  · next op l r =>
    split
    · next hop =>
      dsimp only
      split
      · next a b hab =>
        have hc : commOp op = true := by rcases hop with rfl | rfl <;> rfl
        split at hab
        · next h1 =>
          split at hab
          · next h2 =>
            split at hab
            · next he =>
              cases hab
              obtain ⟨rfl, rfl⟩ := he
              obtain ⟨cb, cx, rfl, hz⟩ := unpackLess_spec h1
              cases unpackBorrow_spec h2
              exact .inr (.lessIdiom hop hz)
            · cases hab
          · cases hab
        · split at hab
          · next h1 =>
            split at hab
            · next h2 =>
              split at hab
              · next he =>
                cases hab
                obtain ⟨rfl, rfl⟩ := he
                obtain ⟨cb, cx, rfl, hz⟩ := unpackLess_spec h2
                cases unpackBorrow_spec h1
                exact .inr (.swap hc (.lessIdiom hop hz))
              · cases hab
            · cases hab
          · cases hab
      · exact .inl rfl
    · exact .inl rfl
  · exact .inl rfl

theorem substArithmeticsWithConstants_rule (e : Expression) :
    substArithmeticsWithConstants e = e ∨ SubstRule e (substArithmeticsWithConstants e) := by
  unfold substArithmeticsWithConstants
  split
  · next b₁ x₁ b₂ x₂ =>
    cases h : foldConst .IntAdd b₁ x₁ b₂ x₂
    · exact .inl rfl
    · exact .inr (.foldConsts (.inl rfl) h)
  · next b₁ x₁ b₂ x₂ =>
    cases h : foldConst .IntSub b₁ x₁ b₂ x₂
    · exact .inl rfl
    · exact .inr (.foldConsts (.inr rfl) h)
  · split
    · next h => exact .inr (.constChain (.inr rfl) h)
    · exact .inl rfl
  · split
    · next h => exact .inr (.constChain (.inl rfl) h)
    · exact .inl rfl
  · split
    · next h => exact .inr (.addConstAdd h)
    · exact .inl rfl
  · exact .inl rfl

theorem substSubpiece_rule (lb s : Nat) (arg : Expression) :
    substSubpiece lb s arg = .Subpiece lb s arg ∨ SubstRule (.Subpiece lb s arg) (substSubpiece lb s arg) := by
  unfold substSubpiece
  split
  · next h => obtain ⟨rfl, rfl⟩ := h; exact .inr .subpieceFull
  split
  · split
    · next h => obtain ⟨hop, rfl, rfl⟩ := h; exact .inr (.subpieceExt hop)
    · exact .inl rfl
  · split
    · next h => obtain ⟨rfl, rfl⟩ := h; exact .inr .subpiecePieceHigh
    split
    · next h => obtain ⟨rfl, rfl⟩ := h; exact .inr .subpiecePieceLow
    · exact .inl rfl
  · exact .inr .subpieceSubpiece
  · exact .inl rfl

theorem substCast_rule (op : CastOpType) (s : Nat) (arg : Expression) :
    substCast op s arg = .Cast op s arg ∨ SubstRule (.Cast op s arg) (substCast op s arg) := by
  unfold substCast
  split
  · next h => obtain ⟨hop, rfl⟩ := h; exact .inr (.castSame hop)
  split
  · next hop =>
    split
    · split
      · next h => subst h; exact .inr (.castCast hop)
      · exact .inl rfl
    · exact .inl rfl
  · exact .inl rfl

theorem negatedComparison_spec {iop nop : BinOpType} (h : negatedComparison iop = some nop) : NegCmp iop nop := by
  unfold negatedComparison at h
  split at h <;> cases h <;> constructor

theorem substUnOp_rule (op : UnOpType) (arg : Expression) :
    substUnOp op arg = .UnOp op arg ∨ SubstRule (.UnOp op arg) (substUnOp op arg) := by
  unfold substUnOp
  split
  · split
    · next h => obtain ⟨rfl, hop⟩ := h; exact .inr (.unUn hop)
    · exact .inl rfl
  · split
    · next h =>
      subst h
      split
      · next hn => exact .inr (.negCmp (negatedComparison_spec hn))
      · exact .inl rfl
    · exact .inl rfl
  · exact .inl rfl

def VarsSub (f : Expression → Expression) : Prop := ∀ e v, v ∈ (f e).inputVars → v ∈ e.inputVars

theorem VarsSub.comp {f g : Expression → Expression} (hf : VarsSub f) (hg : VarsSub g) :
    VarsSub (fun e => f (g e)) :=
  fun e v hv => hg e v (hf (g e) v hv)

theorem foldConst_vars {op : BinOpType} {b₁ x₁ b₂ x₂ : Nat} {c : Expression}
    (h : foldConst op b₁ x₁ b₂ x₂ = some c) : c.inputVars = [] := by
  unfold foldConst at h
  split at h
  · cases h; rfl
  · cases h

theorem SubstRule.vars {e e' : Expression} (h : SubstRule e e') : e'.inputVars ⊆ e.inputVars := by
  induction h with
  | swap _ _ ih => intro v hv; simpa only [Expression.inputVars, List.mem_append, or_comm] using ih hv
  | foldConsts _ hf | constChain _ hf | addConstAdd hf => simp [Expression.inputVars, foldConst_vars hf]
  | lessIdiom hop => rcases hop with rfl | rfl <;> simp [Expression.inputVars]
  | _ => simp [Expression.inputVars]

theorem vars_of_rule {e e' : Expression} (h : e' = e ∨ SubstRule e e') : ∀ v ∈ e'.inputVars, v ∈ e.inputVars :=
  h.elim (fun h _ hv => h ▸ hv) fun h _ hv => h.vars hv

theorem varsSub_trivialBinops : VarsSub substTrivialBinops :=
  have step {f : Expression → Expression} (h : ∀ e, f e = e ∨ SubstRule e (f e)) : VarsSub f :=
    fun e => vars_of_rule (h e)
  (step substArithmeticsWithConstants_rule).comp <| (step substComplicatedALessThanB_rule).comp <|
    (step substEquivalentComparisonOps_rule).comp <| (step substAndXorOrWithConstant_rule).comp <|
    step substBinopForLhsEqualRhs_rule

/-- **C10-trivial-no-new-variable.** every variable read by `substitute_trivial_operations(e)` is read by `e` -/
theorem substTrivial_inputVars (e : Expression) : ∀ v ∈ (substTrivial e).inputVars, v ∈ e.inputVars := by
  induction e with
  | Var | Const | Unknown => exact fun _ hv => hv
  | Subpiece lb s a ih => exact fun v hv => ih v (vars_of_rule (substSubpiece_rule lb s _) v hv)
  | Cast op s a ih => exact fun v hv => ih v (vars_of_rule (substCast_rule op s _) v hv)
  | UnOp op a ih => exact fun v hv => ih v (vars_of_rule (substUnOp_rule op _) v hv)
  | BinOp op l r ihl ihr =>
    intro v hv
    have h := varsSub_trivialBinops _ v hv
    simp only [Expression.inputVars, List.mem_append] at h ⊢
    exact h.imp (ihl v) (ihr v)

/-- `x ^ x` is rewritten to a constant: the inclusion can be strict -/
example : (substTrivial (.BinOp .IntXOr (.Var ⟨"RAX", 8, false⟩) (.Var ⟨"RAX", 8, false⟩))).inputVars = [] := by
  decide

example : (substTrivial (.BinOp .IntAdd (.BinOp .IntAdd (.Var ⟨"RAX", 8, false⟩) (.Const 8 1)) (.Const 8 2))).inputVars
    = [⟨"RAX", 8, false⟩] := by
  decide

end CweModel.C10
