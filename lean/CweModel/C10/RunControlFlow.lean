/-
C10 pass 4 — `propagate_control_flow` on runs of the reference interpreter (model `propagateControlFlow`,
ControlFlow.lean: `retargetJumps (allRetargets p)`, then `removeNewOrphanedBlocks`), under the structural
hypotheses `CfOk` (Transport.lean).

Retargeting: every jump of the interpreter goes along an edge of the modelled CFG, and the condition the pass
reads off that edge holds in the state reached (`edge_of_goto`). So the block precondition holds after the defs of
every block a run enters (the invariant `EntryOk`), and a retargeted jump lands at a block that the original run
reaches later, in the same state and without an event (`Ahead`). The retargeted run is the original run with the
forwarding blocks left out: it needs less fuel, and the original trace is the new one cut off by the fuel marker
(`FuelLe`). Orphan removal: a block that a run enters has an incoming edge, so no removed block is ever entered.
-/
import CweModel.C10.Transport

namespace CweModel.C10
open CweModel CweModel.IR CweModel.Sem

namespace CF

deriving instance ReflBEq for Event

def FuelLe (a b : List Event) : Prop :=
  a = b ∨ ∃ pre rest, a = pre ++ [Event.outOfFuel] ∧ b = pre ++ rest

theorem FuelLe.refl (a : List Event) : FuelLe a a := .inl rfl

theorem FuelLe.fuel (b : List Event) : FuelLe [Event.outOfFuel] b := .inr ⟨[], b, rfl, rfl⟩

theorem FuelLe.prepend {a b : List Event} (x : List Event) (h : FuelLe a b) : FuelLe (x ++ a) (x ++ b) := by
  rcases h with rfl | ⟨pre, rest, rfl, rfl⟩
  · exact .inl rfl
  · exact .inr ⟨x ++ pre, rest, (List.append_assoc ..).symm, (List.append_assoc ..).symm⟩

theorem tracesAgree_self (a : List Event) : tracesAgree a a = true := by
  simp only [tracesAgree]
  split <;> exact beq_self_eq_true _

theorem tracesAgree_cons (x : Event) {a b : List Event} (h : tracesAgree a b = true) :
    tracesAgree (x :: a) (x :: b) = true := by
  simp only [tracesAgree, List.takeWhile_cons] at h ⊢
  cases x != Event.outOfFuel with
  | false => simp
  | true => simpa using h

theorem tracesAgree_of_fuelLe {a b : List Event} (h : FuelLe a b) : tracesAgree a b = true := by
  rcases h with rfl | ⟨pre, rest, rfl, rfl⟩
  · exact tracesAgree_self _
  · induction pre with
    | nil => rfl
    | cons x pre ih => exact tracesAgree_cons x ih

/-- The run that enters `t` in `(σ, c)` reaches `t'` in the same `(σ, c)` without an event, said through the traces:
from `t` it is the run from `t'` with less fuel (unless it runs out of fuel on the way, or gets stuck). -/
def Ahead (env : Env) (blocks : List (Term Blk)) (I : Tid → State → Nat → Prop) (t t' : Tid) (σ : State) (c : Nat) :
    Prop :=
  ∀ n, NoStuck (runBlocks env blocks n t σ c) →
    runBlocks env blocks n t σ c = [Event.outOfFuel] ∨
    ∃ n', n' ≤ n ∧ runBlocks env blocks n t σ c = runBlocks env blocks n' t' σ c ∧ I t' σ c

theorem Ahead.refl {env : Env} {blocks : List (Term Blk)} {I : Tid → State → Nat → Prop} {t : Tid} {σ : State}
    {c : Nat} (h : I t σ c) : Ahead env blocks I t t σ c :=
  fun n _ => .inr ⟨n, Nat.le_refl _, rfl, h⟩

theorem runBlocks_ahead (env : Env) (blocks : List (Term Blk)) (g : Term Blk → Term Blk)
    (hg : ∀ b, (g b).tid = b.tid ∧ (g b).term.defs = b.term.defs) (I : Tid → State → Nat → Prop)
    (hblk : ∀ t σ c b, I t σ c → blocks.find? (fun b => b.tid == t) = some b →
        ∀ σ₁ evs, execDefs σ b.term.defs = some (σ₁, evs) →
          (∀ evs₂, execJmps env σ₁ c b.term.jmps = (evs₂, .stop) →
            execJmps env σ₁ c (g b).term.jmps = (evs₂, .stop)) ∧
          (∀ evs₂ t₂ σ₂ c₂, execJmps env σ₁ c b.term.jmps = (evs₂, .goto t₂ σ₂ c₂) →
            ∃ t₂', execJmps env σ₁ c (g b).term.jmps = (evs₂, .goto t₂' σ₂ c₂) ∧
              Ahead env blocks I t₂ t₂' σ₂ c₂)) :
    ∀ n m t σ c, n ≤ m → I t σ c → NoStuck (runBlocks env blocks n t σ c) →
      FuelLe (runBlocks env blocks n t σ c) (runBlocks env (blocks.map g) m t σ c) := by
  intro n
  -- strong induction: the original run spends any number of blocks of fuel on the way from `t₂` to `t₂'`
  induction n using Nat.strongRecOn with
  | _ n ih =>
    intro m t σ c hnm hI hns
    cases n with
    | zero => exact FuelLe.fuel _
    | succ n =>
      obtain ⟨m, rfl⟩ : ∃ m', m = m' + 1 := ⟨m - 1, by omega⟩
      obtain ⟨b, σ₁, evs, hb, hd, _, hnsNext⟩ := hns.block
      have hb' : (blocks.map g).find? (fun b => b.tid == t) = some (g b) := by
        rw [find?_tid_map g (fun b => (hg b).1), hb]; rfl
      have hd' : execDefs σ (g b).term.defs = some (σ₁, evs) := by rw [(hg b).2]; exact hd
      obtain ⟨hstop, hgoto⟩ := hblk t σ c b hI hb σ₁ evs hd
      cases hjm : execJmps env σ₁ c b.term.jmps with
      | mk evs₂ nxt =>
        cases nxt with
        | stop =>
          rw [runBlocks_stop hb hd hjm, runBlocks_stop hb' hd' (hstop evs₂ hjm)]
          exact FuelLe.refl _
        | goto t₂ σ₂ c₂ =>
          obtain ⟨t₂', hj', hahead⟩ := hgoto evs₂ t₂ σ₂ c₂ hjm
          rw [runBlocks_goto hb hd hjm, runBlocks_goto hb' hd' hj']
          apply FuelLe.prepend
          have hns₃ := hnsNext _ _ _ _ hjm
          rcases hahead n hns₃ with h | ⟨n', hn', heq, hI'⟩
          · rw [h]; exact FuelLe.fuel _
          · rw [heq] at hns₃ ⊢
            exact ih n' (by omega) m t₂' σ₂ c₂ (by omega) hI' hns₃

theorem edge_of_single {env : Env} {σ σ₂ : State} {c c₂ : Nat} {t₂ : Tid} (p : Program) (a : Term Blk)
    (j : Term Jmp) (u : Option Jmp) (hco : ∀ d r, j.term ≠ .CallOther d (some r)) (hcall : CallRetOk p j)
    (hu : ∀ t₁ c₁, u = some (.CBranch t₁ c₁) → ∃ v, eval σ c₁ = some v ∧ v.toNat = 0)
    (hgo : JmpGoes env σ c j t₂ σ₂ c₂) :
    ∃ e ∈ edgesOfJmp p a t₂ (j.term, u), ∀ cnd, edgeCond e = some cnd → CondTrue σ₂ cnd := by
  unfold JmpGoes at hgo
  cases hj : j.term with
  | Branch t =>
    rw [hj] at hgo
    obtain ⟨rfl, rfl, _⟩ := hgo
    refine ⟨.jump (.Branch t) u, by simp [edgesOfJmp], fun cnd hc => ?_⟩
    cases u with
    | none => cases hc
    | some uj =>
      cases uj with
      | CBranch t₁ c₁ =>
        obtain ⟨v, hv, hz⟩ := hu t₁ c₁ rfl
        cases hc
        exact negateCondition_true hv hz
      | _ => cases hc
  | CBranch t cnd' =>
    rw [hj] at hgo
    obtain ⟨rfl, rfl, _, hct⟩ := hgo
    refine ⟨.jump (.CBranch t cnd') u, by simp [edgesOfJmp], fun cnd hc => ?_⟩
    cases u with
    | none => cases hc; exact hct
    | some uj => cases hc
  | Call callee r =>
    rw [hj] at hgo
    cases r with
    | none => cases hgo
    | some r =>
      obtain ⟨rfl, _⟩ := hgo
      refine ⟨.other, ?_, fun cnd hc => by cases hc⟩
      simp only [edgesOfJmp, beq_self_eq_true, if_true]
      rcases hcall callee r hj with hext | ⟨sc, hsc, hne⟩
      · simp [hext]
      · split
        · simp
        · rw [hsc]
          cases hl : sc.term.blocks.filter hasReturnJmp with
          | nil => exact absurd hl hne
          | cons x xs => exact List.mem_map.mpr ⟨x, by rw [hl]; exact List.mem_cons_self, rfl⟩
  | CallInd e r =>
    rw [hj] at hgo
    cases r with
    | none => cases hgo
    | some r =>
      obtain ⟨rfl, _⟩ := hgo
      exact ⟨.other, by simp [edgesOfJmp], fun cnd hc => by cases hc⟩
  | CallOther d r =>
    rw [hj] at hgo
    cases r with
    | none => cases hgo
    | some r => exact absurd hj (hco d r)
  | BranchInd e => rw [hj] at hgo; cases hgo
  | Return e => rw [hj] at hgo; cases hgo

theorem edge_of_goto {env : Env} {σ σ₂ : State} {c c₂ : Nat} {t₂ : Tid} {evs : List Event} (p : Program)
    (a : Term Blk) (hok : BlkOk p a) (h : execJmps env σ c a.term.jmps = (evs, .goto t₂ σ₂ c₂)) :
    ∃ e ∈ edgesFromBlock p a t₂, ∀ cnd, edgeCond e = some cnd → CondTrue σ₂ cnd := by
  obtain ⟨j, hj, u, hmem, hgo, hu⟩ := execJmps_goto_inv hok.shape.length_le h
  obtain ⟨e, he, hc⟩ := edge_of_single p a j u (hok.noCallOtherRet j hj) (hok.callRet j hj) (fun t₁ c₁ hu' => by
    obtain ⟨j₁, tgt, cnd, v, _, hu₁, hj₁, hv, hz⟩ := hu _ hu'
    rw [hj₁] at hu₁
    cases hu₁
    exact ⟨v, hv, hz⟩) hgo
  exact ⟨e, by rw [edgesFromBlock_eq]; exact List.mem_flatMap.mpr ⟨_, hmem, he⟩, hc⟩

theorem eval_execDefs_of_not_clobbered {cnd : Expression} {defs : List (Term Def)} {σ σ₁ : State}
    {evs : List Event} (h : execDefs σ defs = some (σ₁, evs)) (hnc : clobbers cnd defs = false) :
    eval σ₁ cnd = eval σ cnd := by
  induction defs generalizing σ evs with
  | nil => cases h; rfl
  | cons d ds ih =>
    obtain ⟨σ', e₁, σ₂, e₂, h1, h2, h3⟩ := execDefs_cons_some.mp h
    cases h3
    simp only [clobbers, List.any_cons, Bool.or_eq_false_iff] at hnc
    rw [ih h2 hnc.2]
    have heff := execDef_effect h1
    have hnc1 := hnc.1
    generalize d.term = dt at heff hnc1
    cases dt with
    | Store a e => obtain ⟨_, _, _, rfl⟩ := heff; exact eval_writeMem _ _ _ _ _
    | _ => obtain ⟨x, rfl⟩ := heff; exact eval_setReg_of_not_mem (by simpa using hnc1)

def EntryOk (p : Program) (s : Term Sub) (t : Tid) (σ : State) (_c : Nat) : Prop :=
  ∀ b, s.term.blocks.find? (fun b => b.tid == t) = some b →
    ∀ cnd, blockPreconditionAfterDefs p s b = some cnd →
      ∀ σ₁ evs, execDefs σ b.term.defs = some (σ₁, evs) → CondTrue σ₁ cnd

theorem entryOk_entry (p : Program) (s : Term Sub) (e : Term Blk) (rest : List (Term Blk))
    (hbl : s.term.blocks = e :: rest) (σ : State) (c : Nat) : EntryOk p s e.tid σ c := by
  intro b hb cnd hpre
  rw [hbl] at hb
  simp only [List.find?, beq_self_eq_true, Option.some.injEq] at hb
  subst hb
  exact absurd (beq_self_eq_true _) (Bool.eq_false_iff.mp ((blockPrecondition_spec hpre).2.2 e rest hbl))

/-- **C10-block-precondition-sound.** When a run of the function enters a block through the jumps of a block
`a` of the function, the precondition `get_block_precondition_after_defs` computes for the entered block holds
after its defs. -/
theorem entryOk_of_goto {env : Env} {σ σ₂ : State} {c c₂ : Nat} {t₂ : Tid} {evs : List Event} (p : Program)
    (s : Term Sub) (a : Term Blk) (ha : a ∈ s.term.blocks) (hok : BlkOk p a)
    (h : execJmps env σ c a.term.jmps = (evs, .goto t₂ σ₂ c₂)) : EntryOk p s t₂ σ₂ c₂ := by
  intro b hb cnd hpre σ₁ evs' hd
  obtain ⟨_, rfl⟩ := tid_of_find? hb
  obtain ⟨e, he, hc⟩ := edge_of_goto p a hok h
  obtain ⟨hedges, hncl, _⟩ := blockPrecondition_spec hpre
  obtain ⟨v, hv, hnz⟩ := hc cnd (hedges e (mem_incomingEdges (s := s) ha he))
  exact ⟨v, by rw [eval_execDefs_of_not_clobbered hd hncl]; exact hv, hnz⟩

theorem followChain_ahead (env : Env) (blocks : List (Term Blk)) (I : Tid → State → Nat → Prop)
    (conds : List Expression) {σ : State} (c : Nat) (hc : CondsHold σ conds)
    (hedge : ∀ b ∈ blocks, ∀ t, execJmps env σ c b.term.jmps = ([], .goto t σ c) → I t σ c) :
    ∀ fuel visited cur, I cur σ c → Ahead env blocks I cur (followChain blocks conds fuel visited cur) σ c := by
  intro fuel visited cur
  refine followChain_induct (P := fun x => I x σ c →
    Ahead env blocks I x (followChain blocks conds fuel visited cur) σ c) ?_ fuel visited cur Ahead.refl
  intro x b t hb hchk ih hI n hns
  cases n with
  | zero => exact .inl rfl
  | succ n =>
    rcases retargetable_step (env := env) (blocks := blocks) (c := c) hc hb hchk with ⟨hj, hrun⟩ | hstuck
    · rw [hrun] at hns ⊢
      rcases ih (hedge b (List.mem_of_find?_eq_some hb) t hj) n hns with h | ⟨n', hn', heq, hI'⟩
      · exact .inl h
      · exact .inr ⟨n', Nat.le_succ_of_le hn', heq, hI'⟩
    · exact absurd hns (hstuck n)

theorem findTarget_ahead (env : Env) (p : Program) (s : Term Sub) (hblks : ∀ b ∈ s.term.blocks, BlkOk p b)
    {σ : State} {c : Nat} {conds : List Expression} (hc : CondsHold σ conds) {target n : Tid}
    (hft : findTargetForRetargetableJump target s.term conds = some n) (hI : EntryOk p s target σ c) :
    Ahead env s.term.blocks (EntryOk p s) target n σ c := by
  unfold findTargetForRetargetableJump at hft
  simp only at hft
  split at hft
  · cases hft
    exact followChain_ahead env s.term.blocks (EntryOk p s) conds c hc
      (fun b hb t hj => entryOk_of_goto p s b hb (hblks b hb) hj) _ _ _ hI
  · cases hft

theorem condsHold_nil (σ : State) : CondsHold σ [] := fun _ h => nomatch h

theorem condsHold_append {σ : State} {a b : List Expression} (ha : CondsHold σ a) (hb : CondsHold σ b) :
    CondsHold σ (a ++ b) := List.forall_mem_append.mpr ⟨ha, hb⟩

theorem condsHold_singleton {σ : State} {c : Expression} (h : CondTrue σ c) : CondsHold σ [c] :=
  List.forall_mem_singleton.mpr h

theorem condsHold_preConds {p : Program} {s : Term Sub} {b : Term Blk} {σ : State}
    (h : ∀ cnd, blockPreconditionAfterDefs p s b = some cnd → CondTrue σ cnd) : CondsHold σ (preConds p s b) := by
  unfold preConds
  cases hpc : blockPreconditionAfterDefs p s b with
  | none => exact condsHold_nil σ
  | some cnd => exact condsHold_singleton (h cnd hpc)

/-- **C10-retarget-map-sound.** For a block `b` of a function of the program whose precondition holds in the
state `σ₁` after its defs: whenever the jumps of `b` continue at `t₂`, the retargeted jumps produce the same
events and continue, in the same state, at a block that the original run reaches from `t₂` silently. -/
theorem retarget_ahead (env : Env) (p : Program) (hu : JmpTidsUnique p) (s : Term Sub) (hs : s ∈ p.subs)
    (hblks : ∀ b ∈ s.term.blocks, BlkOk p b) (b : Term Blk) (hb : b ∈ s.term.blocks) {σ₁ σ₂ : State} {c c₂ : Nat}
    {evs₂ : List Event} {t₂ : Tid}
    (hpre : ∀ cnd, blockPreconditionAfterDefs p s b = some cnd → CondTrue σ₁ cnd)
    (hj : execJmps env σ₁ c b.term.jmps = (evs₂, .goto t₂ σ₂ c₂)) :
    ∃ t₂', execJmps env σ₁ c (b.term.jmps.map (retargetJmp (allRetargets p))) = (evs₂, .goto t₂' σ₂ c₂) ∧
      Ahead env s.term.blocks (EntryOk p s) t₂ t₂' σ₂ c₂ := by
  obtain ⟨pre, j, post, hjs, hun, hgo, hnew⟩ :=
    (execJmps_map_mapTarget env σ₁ c (fun j => newTgt (allRetargets p) j.tid) b.term.jmps).2 evs₂ t₂ σ₂ c₂ hj
  rw [retargetJmp_eq]
  refine ⟨_, hnew, ?_⟩
  have hI₂ : EntryOk p s t₂ σ₂ c₂ := entryOk_of_goto p s b hb (hblks b hb) hj
  have hjm : j ∈ b.term.jmps := by rw [hjs]; exact List.mem_append_right _ List.mem_cons_self
  unfold newTgt
  cases hm : (allRetargets p).find? (·.1 == j.tid) with
  | none => exact Ahead.refl hI₂
  | some kn =>
    obtain ⟨k, n⟩ := kn
    simp only
    unfold JmpGoes at hgo
    cases allRetargets_find hu hs hb hjm hm with
    | call r hjl hcr hft =>
      obtain rfl : r = t₂ := by
        rcases hcr with ⟨_, h⟩ | ⟨_, h⟩ | ⟨_, h⟩ <;> rw [h] at hgo <;> exact hgo.1
      exact findTarget_ahead env p s hblks (condsHold_nil σ₂) hft hI₂
    | branch t hjl hjt hft =>
      rw [hjt] at hgo
      obtain ⟨rfl, rfl, _⟩ := hgo
      exact findTarget_ahead env p s hblks (condsHold_preConds hpre) hft hI₂
    | cIf j₂ tIf tElse cnd hjl hjt hj2 hft =>
      rw [hjt] at hgo
      obtain ⟨rfl, rfl, _, hct⟩ := hgo
      exact findTarget_ahead env p s hblks (condsHold_append (condsHold_preConds hpre) (condsHold_singleton hct))
        hft hI₂
    | cElse j₁ tIf tElse cnd hjl hj1 hjt hft =>
      rw [hjt] at hgo
      obtain ⟨rfl, rfl, _⟩ := hgo
      -- the conditional jump `j₁` in front of `j` was not taken
      rw [hjl] at hjs
      match pre, hjs, hun with
      | [], hjs, _ => obtain ⟨rfl, _⟩ := List.cons.inj hjs; rw [hj1] at hjt; cases hjt
      | x :: _, hjs, hun =>
        obtain ⟨_, _, v, hx, hv, hvz⟩ := hun x List.mem_cons_self
        obtain ⟨rfl, _⟩ := List.cons.inj hjs
        rw [hj1] at hx
        cases hx
        exact findTarget_ahead env p s hblks
          (condsHold_append (condsHold_preConds hpre) (condsHold_singleton (negateCondition_true hv hvz))) hft hI₂

/-- **C10-retarget-run (blocks).** The run of the original blocks with fuel `n` is the run of the retargeted
blocks with fuel `m ≥ n`, cut off by the fuel marker. -/
theorem retarget_runBlocks (env : Env) (p : Program) (hu : JmpTidsUnique p) (s : Term Sub) (hs : s ∈ p.subs)
    (hblks : ∀ b ∈ s.term.blocks, BlkOk p b) :
    ∀ n m t σ c, n ≤ m → EntryOk p s t σ c → NoStuck (runBlocks env s.term.blocks n t σ c) →
      FuelLe (runBlocks env s.term.blocks n t σ c)
        (runBlocks env (s.term.blocks.map (retBlk (allRetargets p))) m t σ c) := by
  refine runBlocks_ahead env s.term.blocks (retBlk (allRetargets p)) (fun _ => ⟨rfl, rfl⟩) (EntryOk p s) ?_
  intro t σ c b hI hb σ₁ evs hd
  refine ⟨fun evs₂ hj => ?_, fun evs₂ t₂ σ₂ c₂ hj => ?_⟩
  · rw [retBlk, retargetJmp_eq]
    exact (execJmps_map_mapTarget env σ₁ c _ b.term.jmps).1 evs₂ hj
  · exact retarget_ahead env p hu s hs hblks b (List.mem_of_find?_eq_some hb)
      (fun cnd hc => hI b hb cnd hc σ₁ evs hd) hj

theorem find?_congr_mem {α : Type} {l : List α} {f g : α → Bool} (h : ∀ x ∈ l, f x = g x) :
    l.find? f = l.find? g := by
  induction l with
  | nil => rfl
  | cons a as ih =>
    simp only [List.find?, h a List.mem_cons_self]
    rw [ih (fun x hx => h x (List.mem_cons_of_mem _ hx))]

theorem not_orphan_of_goto {env : Env} {p : Program} (hu : BlkTidsUnique p) {s : Term Sub} (hs : s ∈ p.subs)
    (hblks : ∀ b ∈ s.term.blocks, BlkOk p b) {a : Term Blk} (ha : a ∈ s.term.blocks) {σ σ₂ : State} {c c₂ : Nat}
    {evs : List Event} {t₂ : Tid} (hj : execJmps env σ c a.term.jmps = (evs, .goto t₂ σ₂ c₂))
    {b₂ : Term Blk} (hb₂ : b₂ ∈ s.term.blocks) (ht : b₂.tid = t₂) : t₂ ∉ orphanTids p := by
  intro horph
  simp only [orphanTids, List.mem_flatMap, List.mem_map, List.mem_filter] at horph
  obtain ⟨s₀, hs₀, b₀, ⟨hb₀, hinc⟩, htid⟩ := horph
  obtain ⟨rfl, rfl⟩ := hu s hs b₂ hb₂ s₀ hs₀ b₀ hb₀ (by rw [htid, ht])
  obtain ⟨e, he, _⟩ := edge_of_goto p a (hblks a ha) hj
  have := mem_incomingEdges (s := s₀) (b := b₀) ha (by rw [htid]; exact he)
  simp only [List.isEmpty_iff] at hinc
  rw [hinc] at this
  cases this

/-- **C10-orphan-removal-run.** Removing, from a function of a program, blocks (other than the first) whose
tids are in `orphanTids` does not change any run that starts at a block that is kept. -/
theorem removeNewOrphanedBlocks_runBlocks (env : Env) (p : Program) (hu : BlkTidsUnique p) (s : Term Sub) (hs : s ∈ p.subs)
    (hblks : ∀ b ∈ s.term.blocks, BlkOk p b) (newOrphans : List Tid) (hno : ∀ t ∈ newOrphans, t ∈ orphanTids p)
    (e : Term Blk) (rest : List (Term Blk)) (hbl : s.term.blocks = e :: rest) (n : Nat) (σ : State) (c : Nat) :
    runBlocks env (e :: rest.filter (fun b => !(newOrphans.contains b.tid))) n e.tid σ c =
      runBlocks env (e :: rest) n e.tid σ c := by
  -- the invariant: the block the run is at is the first block, or was not removed
  let I (t : Tid) : Prop := t = e.tid ∨ ∀ x ∈ rest, x.tid = t → t ∉ newOrphans
  have hfind : ∀ t, I t → (e :: rest.filter (fun b => !(newOrphans.contains b.tid))).find? (fun b => b.tid == t) =
      (e :: rest).find? (fun b => b.tid == t) := by
    intro t ht
    simp only [List.find?]
    cases het : e.tid == t with
    | true => rfl
    | false =>
      simp only
      rw [List.find?_filter]
      refine find?_congr_mem fun x hx => ?_
      cases hxt : x.tid == t with
      | false => simp
      | true =>
        have hxt' : x.tid = t := by simpa using hxt
        rcases ht with rfl | ht
        · simp at het
        · simpa [hxt'] using ht x hx hxt'
  refine runBlocks_congr env (e :: rest) _ (fun t _ => I t) (fun t _ hI h => (hfind t hI).trans h)
    (fun t _ b hI h => ⟨b, (hfind t hI).trans h, rfl, rfl⟩) ?_ n e.tid σ c (.inl rfl)
  intro t σ' c' a σ₁ evs evs₂ t₂ σ₂ c₂ _ ha _ hj
  refine .inr fun x hx hxt hmem => ?_
  rw [← hbl] at ha
  exact not_orphan_of_goto hu hs hblks (List.mem_of_find?_eq_some ha) hj (b₂ := x)
    (by rw [hbl]; exact List.mem_cons_of_mem _ hx) hxt (hno t₂ hmem)

end CF

open CF

/-- **C10-retarget-run.** `retarget_jumps` with the map computed by the pass: the run of the original
function with fuel `n` is the run of the retargeted function with the same fuel, cut off by the fuel marker
(the retargeted run skips def-free forwarding blocks and so gets further with the same fuel). -/
theorem retargetJumps_runSub (env : Env) (p : Program) (hcfg : CfOk p) (s : Term Sub) (hs : s ∈ p.subs)
    (σ : State) (fuel : Nat) (hns : NoStuck (runSub env s.term σ fuel)) :
    FuelLe (runSub env s.term σ fuel)
      (runSub env (mapSubBlocks (retBlk (allRetargets p)) s).term σ fuel) := by
  rw [runSub_mapBlocks env (retBlk (allRetargets p)) (fun _ => rfl)]
  unfold runSub
  cases hbl : s.term.blocks with
  | nil => exact FuelLe.refl _
  | cons e rest =>
    have := retarget_runBlocks env p hcfg.jmpTids s hs (hcfg.blks s hs) fuel fuel e.tid σ 0 (Nat.le_refl _)
      (entryOk_entry p s e rest hbl σ 0) (noStuck_runBlocks_of_runSub hbl hns)
    rw [hbl] at this
    exact this

/-- **C10-orphan-removal-run (function).** `remove_new_orphaned_blocks` does not change the run of a function. -/
theorem removeNewOrphanedBlocks_runSub (env : Env) (p : Program) (hu : BlkTidsUnique p)
    (hblks : ∀ s ∈ p.subs, ∀ b ∈ s.term.blocks, BlkOk p b) (before : List Tid) (s : Term Sub) (hs : s ∈ p.subs)
    (σ : State) (fuel : Nat) :
    runSub env (remSub ((orphanTids p).filter (fun t => !(before.contains t))) s).term σ fuel =
      runSub env s.term σ fuel := by
  unfold runSub remSub
  cases hbl : s.term.blocks with
  | nil => simp only [hbl]
  | cons e rest =>
    simp only
    exact removeNewOrphanedBlocks_runBlocks env p hu s hs (hblks s hs) _ (fun t ht => (List.mem_filter.mp ht).1) e rest hbl
      fuel σ 0

theorem propagateControlFlow_eq (p : Program) :
    propagateControlFlow p =
      mapProgramSubs (remSub ((orphanTids (retargetJumps (allRetargets p) p)).filter
        (fun t => !((orphanTids p).contains t)))) (retargetJumps (allRetargets p) p) := rfl

def cfSub (p : Program) (s : Term Sub) : Term Sub :=
  remSub ((orphanTids (retargetJumps (allRetargets p) p)).filter (fun t => !((orphanTids p).contains t)))
    (mapSubBlocks (retBlk (allRetargets p)) s)

theorem propagateControlFlow_subs (p : Program) : (propagateControlFlow p).subs = p.subs.map (cfSub p) := by
  rw [propagateControlFlow_eq, retargetJumps_eq]
  simp only [mapCfg, mapProgramSubs, List.map_map]
  rfl

/-- **C10-control-flow-run (fuel form).** The run of the original function is the run of its image under
`propagate_control_flow` with the same fuel, cut off by the fuel marker. -/
theorem propagateControlFlow_fuelLe (env : Env) (p : Program) (hcfg : CfOk p) (s : Term Sub) (hs : s ∈ p.subs)
    (σ : State) (fuel : Nat) (hns : NoStuck (runSub env s.term σ fuel)) :
    FuelLe (runSub env s.term σ fuel) (runSub env (cfSub p s).term σ fuel) := by
  have hcfg₁ : CfOk (retargetJumps (allRetargets p) p) := cfOk_keeps (keepsCfg_retarget _) hcfg
  unfold cfSub
  rw [removeNewOrphanedBlocks_runSub env _ hcfg₁.blkTids hcfg₁.blks (orphanTids p)
    (mapSubBlocks (retBlk (allRetargets p)) s) (mem_mapCfg_subs.mpr ⟨s, hs, rfl⟩) σ fuel]
  exact retargetJumps_runSub env p hcfg s hs σ fuel hns

/-- **C10-control-flow-run.** `propagate_control_flow` preserves the observable behaviour of every function:
for every program satisfying the structural hypotheses `CfOk`, every function `ss.1` and its image `ss.2`,
every initial state and every fuel, if the run of the original function does not get stuck, the two traces
agree (`Sem.tracesAgree`: equal, or equal up to the point where the original run — which executes the skipped
forwarding blocks and therefore consumes more fuel — runs out of fuel). -/
theorem propagateControlFlow_runSub (env : Env) (p : Program) (hcfg : CfOk p)
    (ss : Term Sub × Term Sub) (hss : ss ∈ p.subs.zip (propagateControlFlow p).subs)
    (σ : State) (fuel : Nat) (_hσ : StateWF σ)
    (hns : NoStuck (runSub env ss.1.term σ fuel)) :
    tracesAgree (runSub env ss.1.term σ fuel) (runSub env ss.2.term σ fuel) = true := by
  rw [propagateControlFlow_subs] at hss
  obtain ⟨hmem, himg⟩ := List.zip_map_mem _ _ ss hss
  rw [himg]
  exact tracesAgree_of_fuelLe (propagateControlFlow_fuelLe env p hcfg ss.1 hmem σ fuel hns)

/-! ### non-vacuity -/

/-- a function whose first block jumps to a def-free forwarding block -/
private def exProgram : Program :=
  { subs := [⟨⟨"f", "0"⟩, { name := "f", blocks := [
      ⟨⟨"b0", "0"⟩, { defs := [], jmps := [⟨⟨"j0", "0"⟩, .Branch ⟨"b1", "0"⟩⟩] }⟩,
      ⟨⟨"b1", "0"⟩, { defs := [], jmps := [⟨⟨"j1", "0"⟩, .Branch ⟨"b2", "0"⟩⟩] }⟩,
      ⟨⟨"b2", "0"⟩, { defs := [], jmps := [⟨⟨"j2", "0"⟩, .Return (.Const 8 0)⟩] }⟩] }⟩],
    externSymbols := [], entryPoints := [] }

/-- the hypotheses of `propagateControlFlow_runSub` hold for it … -/
example : CfOk exProgram := cfOkB_sound (by decide +kernel)

/-- … and the pass retargets the jump of the first block and removes the forwarding block -/
example : (propagateControlFlow exProgram).subs.map (fun s => s.term.blocks.map (fun b => (b.tid.id, b.term.jmps.map (·.term)))) =
    [[("b0", [.Branch ⟨"b2", "0"⟩]), ("b2", [.Return (.Const 8 0)])]] := by decide +kernel

private def zf : Expression := .Var ⟨"ZF", 1, false⟩

/-- a conditional jump to a block that tests the same condition again -/
private def exProgram₂ : Program :=
  { subs := [⟨⟨"g", "0"⟩, { name := "g", blocks := [
      ⟨⟨"b0", "0"⟩, { defs := [], jmps := [⟨⟨"j0", "0"⟩, .CBranch ⟨"b1", "0"⟩ zf⟩, ⟨⟨"j1", "0"⟩, .Branch ⟨"b2", "0"⟩⟩] }⟩,
      ⟨⟨"b1", "0"⟩, { defs := [], jmps := [⟨⟨"j2", "0"⟩, .CBranch ⟨"b3", "0"⟩ zf⟩, ⟨⟨"j3", "0"⟩, .Branch ⟨"b4", "0"⟩⟩] }⟩,
      ⟨⟨"b2", "0"⟩, { defs := [], jmps := [⟨⟨"j4", "0"⟩, .Return (.Const 8 0)⟩] }⟩,
      ⟨⟨"b3", "0"⟩, { defs := [], jmps := [⟨⟨"j5", "0"⟩, .Return (.Const 8 0)⟩] }⟩,
      ⟨⟨"b4", "0"⟩, { defs := [], jmps := [⟨⟨"j6", "0"⟩, .Return (.Const 8 0)⟩] }⟩] }⟩],
    externSymbols := [], entryPoints := [] }

example : CfOk exProgram₂ := cfOkB_sound (by decide +kernel)

/-- the conditional jump of `b0` is retargeted to `b3` (the condition is known to hold in `b1`), `b1` goes -/
example : (propagateControlFlow exProgram₂).subs.map (fun s => s.term.blocks.map (fun b => (b.tid.id, b.term.jmps.map (·.term)))) =
    [[("b0", [.CBranch ⟨"b3", "0"⟩ zf, .Branch ⟨"b2", "0"⟩]), ("b2", [.Return (.Const 8 0)]),
      ("b3", [.Return (.Const 8 0)]), ("b4", [.Return (.Const 8 0)])]] := by decide +kernel

end CweModel.C10
