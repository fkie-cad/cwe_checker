/-
C10 pass 3 — what the set operations and the two transfer functions of the liveness model (DeadVars.lean) do, as
statements about membership, stated once for the properties that walk them: soundness of the removal (DeadVarsProofs,
RunDeadVars), termination of the iteration (AliveFixpoint), sizes (C12/Optimize). `defExprs` (what a def reads; the
counterpart of `jmpExprs` in Spec.lean) stands here because `inputVars_alive` is what ties it to `updateAliveByDef`.
-/
import CweModel.C10.DeadVars
import CweModel.C10.Spec

namespace CweModel.C10
open CweModel CweModel.IR

theorem mem_insertAll {s : VarSet} {vs : List Variable} {v : Variable} :
    v ∈ s.insertAll vs ↔ v ∈ s ∨ v ∈ vs := by
  unfold VarSet.insertAll
  induction vs generalizing s with
  | nil => simp
  | cons x xs ih =>
    rw [List.foldl_cons, ih, List.mem_cons]
    split
    · next hx =>
      refine ⟨Or.imp_right .inr, ?_⟩
      rintro (h | rfl | h)
      · exact .inl h
      · exact .inl hx
      · exact .inr h
    · rw [List.mem_append, List.mem_singleton, or_assoc]

theorem insertAll_subset_iff {U s : VarSet} {vs : List Variable} :
    (∀ v ∈ s.insertAll vs, v ∈ U) ↔ (∀ v ∈ s, v ∈ U) ∧ ∀ v ∈ vs, v ∈ U := by
  simp only [mem_insertAll, or_imp, forall_and]

theorem mem_remove {s : VarSet} {v w : Variable} : v ∈ s.remove w ↔ v ∈ s ∧ v ≠ w := by
  simp [VarSet.remove, List.mem_filter]

theorem subset_iff {a b : VarSet} : a.subset b = true ↔ ∀ v ∈ a, v ∈ b := by
  simp [VarSet.subset, List.all_eq_true]

theorem exists_mem_cons_iff {α : Type} {p : α → Prop} {a : α} {l : List α} :
    (∃ x, x ∈ a :: l ∧ p x) ↔ p a ∨ ∃ x, x ∈ l ∧ p x := by
  simp only [List.mem_cons, or_and_right, exists_or, exists_eq_left]

theorem mem_foldl_insertAll {l : List VarSet} {init : VarSet} {v : Variable} :
    v ∈ l.foldl (fun acc s => acc.insertAll s) init ↔ v ∈ init ∨ ∃ s ∈ l, v ∈ s := by
  induction l generalizing init with
  | nil => simp
  | cons x xs ih => rw [List.foldl_cons, ih, mem_insertAll, exists_mem_cons_iff, or_assoc]

def defExprs : Def → List Expression
  | .Assign _ e => [e]
  | .Load _ a => [a]
  | .Store a e => [a, e]

def assignedVar : Def → Option Variable
  | .Assign v _ => some v
  | .Load v _ => some v
  | .Store _ _ => none

theorem inputVars_alive {A : VarSet} {d : Def} (hk : keepDef A d = true) :
    ∀ e ∈ defExprs d, ∀ v ∈ e.inputVars, v ∈ updateAliveByDef A d := by
  intro e he v hv
  cases d with
  | Assign w x =>
    obtain rfl := List.mem_singleton.mp he
    rw [updateAliveByDef, if_pos (of_decide_eq_true hk)]
    exact mem_insertAll.mpr (.inr hv)
  | Load w a =>
    obtain rfl := List.mem_singleton.mp he
    exact mem_insertAll.mpr (.inr hv)
  | Store a x =>
    rcases List.mem_cons.mp he with rfl | he
    · exact mem_insertAll.mpr (.inl (mem_insertAll.mpr (.inr hv)))
    · obtain rfl := List.mem_singleton.mp he
      exact mem_insertAll.mpr (.inr hv)

theorem mem_assigned_or_alive {A : VarSet} (d : Def) {v : Variable} (hv : v ∈ A) :
    v ∈ (assignedVar d).toList ++ updateAliveByDef A d := by
  have hrm : ∀ (w : Variable) (vs : List Variable), v ∈ w :: (A.remove w).insertAll vs := fun w vs =>
    (Decidable.em (v = w)).elim (fun e => e ▸ List.mem_cons_self)
      fun hne => List.mem_cons_of_mem _ (mem_insertAll.mpr (.inl (mem_remove.mpr ⟨hv, hne⟩)))
  cases d with
  | Assign w x =>
    simp only [assignedVar, updateAliveByDef, Option.toList, List.singleton_append]
    split
    · exact hrm w _
    · exact List.mem_cons_of_mem _ hv
  | Load w a => exact hrm w _
  | Store a x => exact mem_insertAll.mpr (.inl (mem_insertAll.mpr (.inl hv)))

theorem keepDef_false {A : VarSet} {d : Def} (hk : ¬ keepDef A d = true) :
    ∃ v e, d = .Assign v e ∧ v ∉ A ∧ updateAliveByDef A d = A := by
  cases d with
  | Assign v e =>
    have hv : v ∉ A := fun h => hk (decide_eq_true h)
    exact ⟨v, e, rfl, hv, if_neg hv⟩
  | Load v a => exact absurd rfl hk
  | Store a e => exact absurd rfl hk

theorem removeDeadDefs_snd (A : VarSet) (defs : List (Term Def)) :
    (removeDeadDefs A defs).2 = aliveBeforeDefs A defs := by
  induction defs with
  | nil => rfl
  | cons d ds ih => simp only [removeDeadDefs, aliveBeforeDefs, List.foldr] at ih ⊢; rw [ih]

theorem removeDeadDefs_cons (A : VarSet) (d : Term Def) (ds : List (Term Def)) :
    (removeDeadDefs A (d :: ds)).1 =
      if keepDef (aliveBeforeDefs A ds) d.term = true then d :: (removeDeadDefs A ds).1
      else (removeDeadDefs A ds).1 := by
  have h := removeDeadDefs_snd A ds
  simp only [removeDeadDefs, List.foldr] at h ⊢
  rw [h]

theorem removeDeadDefs_sublist (A : VarSet) (defs : List (Term Def)) : (removeDeadDefs A defs).1.Sublist defs := by
  induction defs with
  | nil => exact .slnil
  | cons d ds ih =>
    rw [removeDeadDefs_cons]
    split
    · exact ih.cons_cons d
    · exact ih.cons d

/-- what the fold over the known targets of an indirect jump collects -/
theorem mem_branchInd_fold {aliveStart : Tid → VarSet} {cv uv : List Variable} {v : Variable} (ts : List Tid)
    (acc : VarSet) :
    v ∈ ts.foldl (fun acc t => ((acc.insertAll (aliveStart t)).insertAll cv).insertAll uv) acc ↔
      v ∈ acc ∨ ∃ t ∈ ts, v ∈ aliveStart t ∨ v ∈ cv ∨ v ∈ uv := by
  induction ts generalizing acc with
  | nil => simp
  | cons t ts ih =>
    rw [List.foldl_cons, ih, mem_insertAll, mem_insertAll, mem_insertAll, exists_mem_cons_iff]
    simp only [or_assoc]

theorem mem_deadEndAlive {phys : VarSet} {v : Variable} (jmps : List (Term Jmp)) :
    v ∈ deadEndAlive phys jmps ↔ v ∈ phys ∨ ∃ j ∈ jmps, ∃ e ∈ jmpExprs j.term, v ∈ e.inputVars := by
  unfold deadEndAlive
  generalize phys = acc
  induction jmps generalizing acc with
  | nil => simp
  | cons j js ih =>
    rw [List.foldl_cons, ih, exists_mem_cons_iff, ← or_assoc]
    refine or_congr_left ?_
    cases j.term <;>
      simp only [jmpExprs, mem_insertAll, List.mem_singleton, exists_eq_left, List.not_mem_nil, false_and,
        exists_false, or_false]

theorem mem_present {D : VarSet} {cs : List (Option VarSet)} {s : VarSet} {v : Variable} (hs : some s ∈ cs)
    (hv : v ∈ s) :
    v ∈ (if (cs.filterMap id).isEmpty then D else (cs.filterMap id).foldl (fun acc s => acc.insertAll s) []) := by
  have hm : s ∈ cs.filterMap id := List.mem_filterMap.mpr ⟨_, hs, rfl⟩
  rw [if_neg fun he => List.ne_nil_of_mem hm (List.isEmpty_iff.mp he)]
  exact mem_foldl_insertAll.mpr (.inr ⟨s, hm, hv⟩)

theorem isCBranchJmp_iff {j : Jmp} : isCBranchJmp j = true ↔ ∃ t c, j = .CBranch t c := by
  cases j <;> simp [isCBranchJmp]

end CweModel.C10
