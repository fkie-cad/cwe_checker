/-
C10 pass 5 — `substitute_and_on_stackpointer` on runs of the reference interpreter (model `saSub` /
`substituteAndOnStackpointer`, StackAlign.lean).

`substituteAnd_eval_pow` (StackAlignProofs.lean) needs a state in which the stack pointer is its function-entry value,
aligned to the expected alignment `2^k`, plus the journaled offset. That the block the pass rewrites is entered in such a state on every
run, however often other blocks are executed, comes from the way `get_first_blk_with_defs` finds it: it walks from
the first block of the function, which no jump targets, along first-jump `Branch`es through def-free blocks each
targeted by exactly one jump (`Chain`, StackAlignCases.lean), and `count_jumps_to_blk` counts every jump through which
the interpreter can continue at a block. So a chain block is entered only from its predecessor on the chain, with the
entry stack pointer. In the rewritten block the def loop keeps "SP = entry + journaled, or the loop has given up", and every def
it produces executes exactly like the original one, also when that gets stuck: the trace is unchanged without a
no-stuck hypothesis.
-/
import CweModel.C10.StackAlignProofs

namespace CweModel.C10
open CweModel CweModel.IR CweModel.Sem

theorem execJmps_goto_counted {env : Env} {jmps : List (Term Jmp)} {σ σ₂ : State} {c c₂ : Nat} {evs : List Event}
    {t : Tid} (hj : execJmps env σ c jmps = (evs, .goto t σ₂ c₂)) : ∃ j ∈ jmps, countedTo t j = true := by
  obtain ⟨⟨jt, jterm⟩, hm, hgo⟩ := execJmps_goto_mem hj
  refine ⟨_, hm, ?_⟩
  -- `countedTo` lists the jumps that go somewhere, with the same target
  rcases jterm with _ | _ | _ | ⟨_, _ | _⟩ | ⟨_, _ | _⟩ | _ | ⟨_, _ | _⟩ <;>
    first | exact beq_iff_eq.mpr hgo.1 | cases hgo

theorem execJmps_firstBranch {env : Env} {b : Term Blk} {t : Tid} (h : firstBranchTid b = some t) (σ : State) (c : Nat) :
    execJmps env σ c b.term.jmps = ([], .goto t σ c) ∧ ∃ j ∈ b.term.jmps, countedTo t j = true := by
  unfold firstBranchTid at h
  split at h
  · next j js hjs =>
    split at h
    · next x hx =>
      cases h
      rw [hjs]
      refine ⟨by simp only [Sem.execJmps, hx], j, List.mem_cons_self, by simp [countedTo, hx]⟩
    · cases h
  · cases h

/-- One block of the interpreter keeps the invariant "the stack pointer has its entry value `R` whenever a chain
block is entered": a chain block is entered only from its predecessor on the chain, which has no defs. -/
theorem chain_step {env : Env} {s : Sub} {R : Bv} {t t₂ : Tid} {σ σ₁ σ₂ : State} {c c₂ : Nat} {b : Term Blk}
    {evs evs₂ : List Event}
    (hI : Chain s t → σ.getReg env.sp = R)
    (hb : s.blocks.find? (fun b => b.tid == t) = some b)
    (hd : execDefs σ b.term.defs = some (σ₁, evs))
    (hj : execJmps env σ₁ c b.term.jmps = (evs₂, .goto t₂ σ₂ c₂)) :
    Chain s t₂ → σ₂.getReg env.sp = R := by
  intro hc
  obtain ⟨j, hjm, hjc⟩ := execJmps_goto_counted hj
  have hbm : b ∈ s.blocks := List.mem_of_find?_eq_some hb
  cases hc with
  | entry b0 bs _ hs h0 ht =>
    have := countJumpsToBlk_pos hbm hjm hjc
    omega
  | step t' _ blk hc' hf hd' hfb h1 =>
    obtain ⟨hex, j', hjm', hjc'⟩ := execJmps_firstBranch (env := env) hfb σ₁ c
    have hblkm : blk ∈ s.blocks := List.mem_of_find?_eq_some hf
    have heq : blk = b := countJumpsToBlk_one_unique h1 hblkm hbm hjm' hjc' hjm hjc
    subst heq
    have ht : t' = t := by rw [← (tid_of_find? hf).2, ← (tid_of_find? hb).2]
    subst ht
    rw [hd'] at hd
    simp only [Sem.execDefs, Option.some.injEq, Prod.mk.injEq] at hd
    obtain ⟨rfl, _⟩ := hd
    rw [hex] at hj
    cases hj
    exact hI hc'

theorem runBlocks_replace_chain (env : Env) (s : Sub) (idx : Nat) (tb blk' : Term Blk) (R : Bv)
    (hfi : s.blocks.findIdx? (fun b => b.tid == tb.tid) = some idx)
    (hf : s.blocks.find? (fun b => b.tid == tb.tid) = some tb) (hc : Chain s tb.tid)
    (htid : blk'.tid = tb.tid) (hjmps : blk'.term.jmps = tb.term.jmps)
    (hdefs : ∀ σ, σ.getReg env.sp = R → execDefs σ blk'.term.defs = execDefs σ tb.term.defs) :
    ∀ fuel t σ c, (Chain s t → σ.getReg env.sp = R) →
      runBlocks env (s.blocks.set idx blk') fuel t σ c = runBlocks env s.blocks fuel t σ c := by
  refine runBlocks_congr env s.blocks _ (fun t σ => Chain s t → σ.getReg env.sp = R) ?_ ?_ ?_
  · intro t _ _ hn
    rw [find?_set_first htid hfi t, hn, if_neg]
    intro ht
    rw [← eq_of_beq ht, hf] at hn
    cases hn
  · intro t σ b hI hb
    rw [find?_set_first htid hfi t]
    split
    · next ht =>
      obtain rfl := eq_of_beq ht
      rw [hf] at hb
      cases hb
      exact ⟨blk', rfl, hjmps, hdefs σ (hI hc)⟩
    · exact ⟨b, hb, rfl, rfl⟩
  · intro t σ c b σ₁ evs evs₂ t₂ σ₂ c₂ hI hb hd hj
    exact chain_step hI hb hd hj

def SaInv (sp : Variable) (S : BitVec 64) (acc : SaAcc) (σ : State) : Prop :=
  acc.stop = true ∨ σ.getReg sp = ⟨64, S + acc.journaled⟩

theorem execDef_keeps_sp {σ σ₁ : State} {sp : Variable} {d : Def} {evs : List Event}
    (hne : match d with | .Assign v _ => v ≠ sp | .Load v _ => v ≠ sp | .Store _ _ => True)
    (hd : execDef σ d = some (σ₁, evs)) : σ₁.getReg sp = σ.getReg sp := by
  have heff := execDef_effect hd
  cases d with
  | Store a e => obtain ⟨_, _, _, rfl⟩ := heff; exact getReg_writeMem _ _ _ _ _
  | _ => obtain ⟨x, rfl⟩ := heff; exact getReg_setReg_ne σ x (Ne.symm hne)

theorem journalSpValue_sound {σ : State} {sp : Variable} {S j j' : BitVec 64} {isPlus : Bool} {l r : Expression}
    {v : Bv} (hreg : σ.getReg sp = ⟨64, S + j⟩) (hj : journalSpValue j isPlus l r sp = some j')
    (hv : eval σ (.BinOp (if isPlus then .IntAdd else .IntSub) l r) = some v) : v = ⟨64, S + j'⟩ := by
  have hadd := @eval_sp_const_iff _ _ _ hreg .IntAdd Ref.add (fun _ _ => rfl)
  have hsub := @eval_sp_const_iff _ _ _ hreg .IntSub Ref.sub (fun _ _ => rfl)
  unfold journalSpValue at hj
  split at hj
  · split at hj
    · next hw =>
      subst hw
      cases hj
      cases isPlus
      · obtain ⟨rfl, rfl⟩ := hsub.1.mp hv
        rw [← C01.sub_eq, constToI64_8, BitVec.sub_eq_add_neg, BitVec.sub_eq_add_neg, BitVec.add_assoc]; rfl
      · obtain ⟨rfl, rfl⟩ := hadd.1.mp hv
        rw [← C01.add_eq, constToI64_8, BitVec.add_assoc]; rfl
    · cases hj
  · split at hj
    · next hw =>
      obtain ⟨rfl, rfl⟩ := hw
      cases hj
      obtain ⟨rfl, rfl⟩ := hadd.2.mp hv
      rw [← C01.add_eq, constToI64_8, BitVec.add_comm, BitVec.add_assoc]
    · cases hj
  · cases hj

theorem saStepDef_sound (sp : Variable) (S : BitVec 64) {k : Nat} (hk : k ≤ 64) {ea : BitVec 64} (hea : -ea = alignMask k)
    (hS : S.toNat % 2 ^ k = 0) (acc : SaAcc) (d : Term Def) :
    ∃ d', (saStepDef sp ea acc d).defs = d' :: acc.defs ∧
      ∀ σ, SaInv sp S acc σ → execDef σ d'.term = execDef σ d.term ∧
        ∀ σ₁ evs, execDef σ d.term = some (σ₁, evs) → SaInv sp S (saStepDef sp ea acc d) σ₁ := by
  obtain ⟨j, lg, s, ds⟩ := acc
  have hreg : s = false → ∀ σ, SaInv sp S ⟨j, lg, s, ds⟩ σ → σ.getReg sp = ⟨64, S + j⟩ :=
    fun hs σ h => h.resolve_left (by rw [hs]; exact Bool.false_ne_true)
  refine saStepDef_cases (P := fun F => ∃ d', (F lg).defs = d' :: ds ∧
      ∀ σ, SaInv sp S ⟨j, lg, s, ds⟩ σ → execDef σ d'.term = execDef σ d.term ∧
        ∀ σ₁ evs, execDef σ d.term = some (σ₁, evs) → SaInv sp S (F lg) σ₁) sp ea j s ds d ?_ ?_ ?_ ?_ ?_
  · exact fun hs => ⟨d, rfl, fun _ _ => ⟨rfl, fun _ _ _ => .inl hs⟩⟩
  · exact fun hs hne => ⟨d, rfl, fun σ hi => ⟨rfl, fun σ₁ evs hex =>
      .inr (by rw [execDef_keeps_sp hne hex]; exact hreg hs σ hi)⟩⟩
  · intro isPlus l r j' hs hdt hj
    refine ⟨d, rfl, fun σ hi => ⟨rfl, fun σ₁ evs hex => .inr ?_⟩⟩
    rw [hdt] at hex
    obtain ⟨xv, hev, _, hr⟩ := execDef_assign.mp hex
    cases hr
    rw [getReg_setReg_self]
    exact journalSpValue_sound (hreg hs σ hi) hj hev
  · exact fun _ _ => ⟨d, rfl, fun _ _ => ⟨rfl, fun _ _ _ => .inl rfl⟩⟩
  · intro e hs hdt
    rcases substituteAnd_cases sp e ea j with ⟨_, _, b, x, _, _, _, h⟩ | ⟨msg, h⟩
    · -- the masking is replaced by a subtraction that evaluates to the same value
      have he := fun σ hi => substituteAnd_eval_pow hk hea hS (hreg hs σ hi) e (by rw [h])
      rw [h] at he ⊢
      refine ⟨_, rfl, fun σ hi => ?_⟩
      rw [hdt]
      refine ⟨by simp only [Sem.execDef, he σ hi], fun σ₁ evs hex => .inr ?_⟩
      obtain ⟨xv, hev, _, hr⟩ := execDef_assign.mp hex
      cases hr
      rw [← he σ hi] at hev
      obtain ⟨rfl, rfl⟩ :=
        (eval_sp_const_iff (hreg hs σ hi) (op := .IntSub) (g := Ref.sub) (fun _ _ => rfl)).1.mp hev
      rw [getReg_setReg_self, ← C01.sub_eq, ofNat_i64ToConst_8, align_journal]
    · rw [h]
      exact ⟨_, rfl, fun σ _ => ⟨by rw [hdt], fun _ _ _ => .inl rfl⟩⟩

theorem saFold_sound (sp : Variable) (S : BitVec 64) {k : Nat} (hk : k ≤ 64) {ea : BitVec 64} (hea : -ea = alignMask k)
    (hS : S.toNat % 2 ^ k = 0) (defs : List (Term Def)) :
    ∀ acc : SaAcc, ∃ out, (defs.foldl (saStepDef sp ea) acc).defs = out.reverse ++ acc.defs ∧
      ∀ σ, SaInv sp S acc σ → execDefs σ out = execDefs σ defs := by
  induction defs with
  | nil => intro acc; exact ⟨[], rfl, fun _ _ => rfl⟩
  | cons d ds ih =>
    intro acc
    obtain ⟨d', hd', hstep⟩ := saStepDef_sound sp S hk hea hS acc d
    obtain ⟨out, hout, hrest⟩ := ih (saStepDef sp ea acc d)
    refine ⟨d' :: out, ?_, fun σ hi => ?_⟩
    · simp only [List.foldl, hout, hd', List.reverse_cons, List.append_assoc, List.singleton_append]
    · obtain ⟨h1, h2⟩ := hstep σ hi
      simp only [Sem.execDefs, h1]
      cases hex : execDef σ d.term with
      | none => rfl
      | some r =>
        obtain ⟨σ₁, e₁⟩ := r
        simp only [Option.bind_eq_bind, Option.bind_some]
        rw [hrest σ₁ (h2 σ₁ e₁ hex)]

/-- The general form of `saSub_runSub`: any expected alignment `ea = 2^k` with `k ≤ 64` (`-ea` is the mask), any
initial state whose stack pointer register holds a 64-bit multiple of `2^k`. -/
theorem saSub_runSub_pow (env : Env) (s : Term Sub) (logs : List String) (σ : State) (fuel : Nat) {k : Nat} (hk : k ≤ 64)
    {ea : BitVec 64} (hea : -ea = alignMask k) (hw : (σ.getReg env.sp).w = 64)
    (halign : (σ.getReg env.sp).toNat % 2 ^ k = 0) :
    runSub env (saSub env.sp ea logs s).1.term σ fuel = runSub env s.term σ fuel := by
  unfold saSub
  split
  · rfl
  · next idx hidx =>
    split
    · rfl
    · next blk hblk =>
      obtain ⟨tb, htb, hfi, hf, hc⟩ := firstBlkWithDefs_chain hidx
      rw [hblk] at htb; cases htb
      obtain ⟨S, hS⟩ : ∃ S : BitVec 64, σ.getReg env.sp = ⟨64, S⟩ := by
        generalize σ.getReg env.sp = r at hw
        obtain ⟨w, v⟩ := r
        simp only at hw; subst hw
        exact ⟨v, rfl⟩
      obtain ⟨out, hout, hexec⟩ := saFold_sound env.sp S hk hea (by rw [hS] at halign; exact halign) blk.term.defs
        { journaled := 0, logs := logs, stop := false, defs := [] }
      simp only [List.append_nil] at hout
      have key := runBlocks_replace_chain env s.term idx blk
        { blk with term := { blk.term with defs := out } } ⟨64, S⟩ hfi hf hc rfl rfl
        (fun σ' hr => hexec σ' (.inr (by rw [hr]; simp)))
      simp only [hout, List.reverse_reverse, replaceAt, runSub]
      cases hbl : s.term.blocks with
      | nil => rfl
      | cons b bs =>
        have hrun := key fuel b.tid σ 0 (fun _ => hS)
        rw [hbl] at hrun hblk
        cases idx with
        | zero =>
          simp only [List.getElem?_cons_zero, Option.some.injEq] at hblk
          subst hblk
          simpa [List.set] using hrun
        | succ i => simpa [List.set] using hrun

/-- **C10-stack-alignment-run.** For every function, every fuel and every well-formed initial state in which the
8-byte stack pointer is 16-byte aligned, the function produced by `substitute_and_on_stackpointer` (expected
alignment 16) has exactly the same observable trace as the original function: the substituted block is entered
only with the function-entry stack pointer, so the substitution `SP & -16 ↦ SP - c` is valid on every run.
No no-stuck hypothesis: defs that get stuck get stuck identically in both functions. -/
theorem saSub_runSub (env : Env) (s : Term Sub) (logs : List String) (σ : State) (fuel : Nat)
    (hsp : env.sp.size = 8) (hσ : StateWF σ) (halign : (σ.getReg env.sp).toNat % 16 = 0) :
    runSub env (saSub env.sp 16#64 logs s).1.term σ fuel = runSub env s.term σ fuel :=
  saSub_runSub_pow env s logs σ fuel (k := 4) (by decide) (by decide) (by rw [hσ env.sp, hsp]) halign

/-- **C10-stack-alignment-run (program).** On x86_64 every function of the output of
`substitute_and_on_stackpointer` has the same trace as the corresponding input function, from every well-formed
state in which the 8-byte stack pointer is 16-byte aligned at function entry. -/
theorem substituteAndOnStackpointer_runSub (env : Env) (p : Program) (σ : State) (fuel : Nat)
    (hsp : env.sp.size = 8) (hσ : StateWF σ) (halign : (σ.getReg env.sp).toNat % 16 = 0) :
    ∀ ss ∈ p.subs.zip (substituteAndOnStackpointer "x86_64" env.sp p).1.subs,
      runSub env ss.2.term σ fuel = runSub env ss.1.term σ fuel := by
  intro ss hss
  rw [substituteAndOnStackpointer_subs] at hss
  rw [(List.zip_map_mem _ _ ss hss).2, expectedAlignmentOf_x86_64]
  exact saSub_runSub env ss.1 [] σ fuel hsp hσ halign

/-! ### non-vacuity -/

namespace RunStackAlignExample

private def rsp : Variable := { name := "RSP", size := 8, isTemp := false }
private def mask : Nat := 0xfffffffffffffff0
private def blk0 : Term Blk :=
  { tid := { id := "blk0" },
    term := { defs := [], jmps := [{ tid := { id := "j0" }, term := .Branch { id := "blk1" } }] } }
private def blk1 : Term Blk :=
  { tid := { id := "blk1" },
    term := {
      defs := [{ tid := { id := "d0" }, term := .Assign rsp (.BinOp .IntSub (.Var rsp) (.Const 8 8)) },
               { tid := { id := "d1" }, term := .Assign rsp (.BinOp .IntAnd (.Var rsp) (.Const 8 mask)) }],
      jmps := [{ tid := { id := "j1" }, term := .Return (.Const 8 0) }] } }

/-- `blk0: goto blk1;  blk1: RSP = RSP - 8; RSP = RSP & 0xffff_ffff_ffff_fff0; return` -/
private def fn : Term Sub := { tid := { id := "sub" }, term := { name := "f", blocks := [blk0, blk1] } }

/-- the pass really rewrites the masking: `RSP & -16` becomes `RSP - 8` -/
example : ((saSub rsp 16#64 [] fn).1.term.blocks.map (fun b => b.term.defs.map (·.term))) =
    [[], [.Assign rsp (.BinOp .IntSub (.Var rsp) (.Const 8 8)),
          .Assign rsp (.BinOp .IntSub (.Var rsp) (.Const 8 8))]] := by decide +kernel

/-- the hypotheses of `saSub_runSub` are satisfiable: a well-formed state with a 16-byte aligned stack pointer -/
example : StateWF (State.setReg { seed := 0 } rsp ⟨64, 0x7ffd00001230#64⟩) ∧
    ((State.setReg { seed := 0 } rsp ⟨64, 0x7ffd00001230#64⟩).getReg rsp).toNat % 16 = 0 :=
  ⟨(stateWF_default 0).setReg _ _ rfl, by rw [getReg_setReg_self]; decide⟩

end RunStackAlignExample
end CweModel.C10
