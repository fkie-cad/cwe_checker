/-
C10 — the passes that keep the machine states: merging of assignments, block-local insertion of propagation tables,
trivial expression substitution. The run-time hypothesis H2 (`RunLocals`) beside H1 (`RunOk`, RunLemmas.lean); one
block-wise premise (`BlockRef`) and one induction on the fuel (`runBlocks_refines`) that gives the trace of the new
blocks and both hypotheses for their run; the relation between a function and its image (`SubRefines`) through which
the composition chains such passes. The instances for trivial substitution and merging are here, the one for the
tables in RunPropagation.lean.
-/
import CweModel.C10.PropagationProofs

namespace CweModel.C10
open CweModel CweModel.IR CweModel.Sem CweModel.C12

/-- H2 on one expression: every variable read is physical or assigned since the last call -/
def ExprLocal (phys : VarSet) (D : List Variable) (e : Expression) : Prop :=
  ∀ v ∈ e.inputVars, v ∈ phys ∨ v ∈ D

def defdAfterDef (D : List Variable) (d : Def) : List Variable :=
  match assignedVar d with
  | some v => v :: D
  | none => D

def DefLocal (phys : VarSet) (D : List Variable) (d : Def) : Prop := ∀ e ∈ defExprs d, ExprLocal phys D e

def DefsLocal (phys : VarSet) : List Variable → List (Term Def) → Prop
  | _, [] => True
  | D, d :: ds => DefLocal phys D d.term ∧ DefsLocal phys (defdAfterDef D d.term) ds

def defdAfter (D : List Variable) (defs : List (Term Def)) : List Variable :=
  defs.foldl (fun D d => defdAfterDef D d.term) D

def JmpsLocal (phys : VarSet) (D : List Variable) (jmps : List (Term Jmp)) : Prop :=
  ∀ j ∈ jmps, ∀ e ∈ jmpExprs j.term, ExprLocal phys D e

/-- the run-time hypothesis H2 along a run of at most `n` blocks starting at block `t` in state `σ`, `D` being
the variables assigned since the last call: every variable read is physical or in `D` -/
def RunLocals (env : Env) (phys : VarSet) (blocks : List (Term Blk)) : Nat → Tid → State → Nat → List Variable → Prop
  | 0, _, _, _, _ => True
  | n + 1, t, σ, c, D => ∀ b, blocks.find? (fun b => b.tid == t) = some b →
      ∀ σ₁ evs, execDefs σ b.term.defs = some (σ₁, evs) →
        DefsLocal phys D b.term.defs ∧
        (∀ j ∈ b.term.jmps, ∀ e ∈ jmpExprs j.term, ExprLocal phys (defdAfter D b.term.defs) e) ∧
        ∀ evs₂ t₂ σ₂ c₂, execJmps env σ₁ c b.term.jmps = (evs₂, .goto t₂ σ₂ c₂) →
          RunLocals env phys blocks n t₂ σ₂ c₂ (if c₂ = c then defdAfter D b.term.defs else [])

theorem ExprLocal.mono {phys : VarSet} {D D' : List Variable} {e : Expression} (hs : D ⊆ D')
    (h : ExprLocal phys D e) : ExprLocal phys D' e := fun v hv => (h v hv).imp_right fun h' => hs h'

theorem DefLocal.mono {phys : VarSet} {D D' : List Variable} {d : Def} (hs : D ⊆ D') (h : DefLocal phys D d) :
    DefLocal phys D' d := fun e he => (h e he).mono hs

theorem JmpsLocal.mono {phys : VarSet} {D D' : List Variable} {jmps : List (Term Jmp)} (hs : D ⊆ D')
    (h : JmpsLocal phys D jmps) : JmpsLocal phys D' jmps := fun j hj e he => (h j hj e he).mono hs

theorem mem_defdAfterDef {D : List Variable} {d : Def} {v : Variable} :
    v ∈ defdAfterDef D d ↔ v ∈ (assignedVar d).toList ∨ v ∈ D := by
  unfold defdAfterDef
  cases assignedVar d <;> simp

theorem defdAfter_cons (D : List Variable) (d : Term Def) (ds : List (Term Def)) :
    defdAfter D (d :: ds) = defdAfter (defdAfterDef D d.term) ds := rfl

theorem defdAfterDef_subset {D D' : List Variable} (h : D ⊆ D') {d d' : Def}
    (ha : assignedVar d' = assignedVar d) : defdAfterDef D d ⊆ defdAfterDef D' d' := by
  unfold C10.defdAfterDef
  rw [ha]
  cases assignedVar d with
  | none => exact h
  | some v => exact List.cons_subset_cons v h

theorem subset_defdAfterDef (D : List Variable) (d : Def) : D ⊆ defdAfterDef D d := by
  unfold defdAfterDef
  cases assignedVar d with
  | none => exact List.Subset.refl _
  | some v => exact List.subset_cons_self v D

theorem defsLocal_mono {phys : VarSet} : ∀ (defs : List (Term Def)) {D D' : List Variable}, D ⊆ D' →
    DefsLocal phys D defs → DefsLocal phys D' defs ∧ (defdAfter D defs) ⊆ (defdAfter D' defs) := by
  intro defs
  induction defs with
  | nil => intro D D' hs _; exact ⟨trivial, hs⟩
  | cons d ds ih =>
    intro D D' hs hl
    obtain ⟨ih1, ih2⟩ := ih (defdAfterDef_subset hs (d := d.term) (d' := d.term) rfl) hl.2
    exact ⟨⟨hl.1.mono hs, ih1⟩, ih2⟩

theorem mem_inputVars_of_mem_substVar {e x : Expression} {v w : Variable} (h : w ∈ (e.substVar v x).inputVars) :
    (w ∈ e.inputVars ∧ w ≠ v) ∨ w ∈ x.inputVars := by
  induction e with
  | Var u =>
    simp only [Expression.substVar] at h
    split at h
    · exact .inr h
    · next hne =>
      simp only [Expression.inputVars, List.mem_singleton] at h ⊢
      subst h
      exact .inl ⟨rfl, hne⟩
  | Const _ _ => simp [Expression.substVar, Expression.inputVars] at h
  | Unknown _ _ => simp [Expression.substVar, Expression.inputVars] at h
  | BinOp op l r ihl ihr =>
    simp only [Expression.substVar, Expression.inputVars, List.mem_append] at h ⊢
    rcases h with h | h
    · rcases ihl h with ⟨h1, h2⟩ | h1
      · exact .inl ⟨.inl h1, h2⟩
      · exact .inr h1
    · rcases ihr h with ⟨h1, h2⟩ | h1
      · exact .inl ⟨.inr h1, h2⟩
      · exact .inr h1
  | UnOp op a ih => simp only [Expression.substVar, Expression.inputVars] at h ⊢; exact ih h
  | Cast op sz a ih => simp only [Expression.substVar, Expression.inputVars] at h ⊢; exact ih h
  | Subpiece lb sz a ih => simp only [Expression.substVar, Expression.inputVars] at h ⊢; exact ih h

theorem ExprLocal.substVar {phys : VarSet} {D : List Variable} {e x : Expression} (he : ExprLocal phys D e)
    (hx : ExprLocal phys D x) (v : Variable) : ExprLocal phys D (e.substVar v x) := by
  intro w hw
  rcases mem_inputVars_of_mem_substVar hw with ⟨h, _⟩ | h
  · exact he w h
  · exact hx w h

theorem ExprLocal.substTrivial {phys : VarSet} {D : List Variable} {e : Expression} (he : ExprLocal phys D e) :
    ExprLocal phys D (substTrivial e) := fun w hw => he w (substTrivial_inputVars e w hw)

theorem assignedVar_map (f : Expression → Expression) (d : Def) : assignedVar (mapDefExprs f d) = assignedVar d := by
  cases d <;> rfl

theorem defsLocal_map {phys : VarSet} {f : Expression → Expression} (hf : VarsSub f) :
    ∀ (defs : List (Term Def)) {D D' : List Variable}, D ⊆ D' → DefsLocal phys D defs →
      DefsLocal phys D' (defs.map fun d => { d with term := mapDefExprs f d.term }) ∧
      (defdAfter D defs) ⊆ (defdAfter D' (defs.map fun d => { d with term := mapDefExprs f d.term })) := by
  intro defs
  induction defs with
  | nil => intro D D' hs _; exact ⟨trivial, hs⟩
  | cons d ds ih =>
    intro D D' hs hl
    have hs' : (defdAfterDef D d.term) ⊆ (defdAfterDef D' (mapDefExprs f d.term)) :=
      defdAfterDef_subset hs (assignedVar_map f d.term)
    obtain ⟨ih1, ih2⟩ := ih hs' hl.2
    refine ⟨⟨?_, ih1⟩, ih2⟩
    intro e' he'
    simp only [defExprs_mapDefExprs, List.mem_map] at he'
    obtain ⟨e, he, rfl⟩ := he'
    exact fun w hw => (hl.1 e he).mono hs w (hf e w hw)

theorem jmpExprs_map (f : Expression → Expression) (j : Jmp) : jmpExprs (mapJmpExprs f j) = (jmpExprs j).map f := by
  cases j <;> rfl

theorem jmpsLocal_map {phys : VarSet} {f : Expression → Expression} (hf : VarsSub f) {D : List Variable}
    {jmps : List (Term Jmp)} (h : JmpsLocal phys D jmps) :
    JmpsLocal phys D (jmps.map fun j => { j with term := mapJmpExprs f j.term }) := by
  intro j' hj' e' he'
  obtain ⟨j, hj, rfl⟩ := List.mem_map.mp hj'
  simp only [jmpExprs_map, List.mem_map] at he'
  obtain ⟨e, he, rfl⟩ := he'
  exact fun w hw => h j hj e he w (hf e w hw)

theorem Merges.local {phys : VarSet} {l l' : List (Term Def)} (h : Merges l l') : ∀ {D D' : List Variable},
    D ⊆ D' → DefsLocal phys D l →
    DefsLocal phys D' l' ∧ (defdAfter D l) ⊆ (defdAfter D' l') := by
  induction h with
  | refl l => exact fun hs hl => defsLocal_mono l hs hl
  | cons d _ ih =>
    intro D D' hs hl
    obtain ⟨ih1, ih2⟩ := ih (defdAfterDef_subset hs (d := d.term) (d' := d.term) rfl) hl.2
    exact ⟨⟨hl.1.mono hs, ih1⟩, ih2⟩
  | @merge ld d v e₁ e₂ ds l' hlt hdt _ ih =>
    intro D D' hs hl
    have hl1 : DefLocal phys D ld.term := hl.1
    have hl2 : DefLocal phys (defdAfterDef D ld.term) d.term := hl.2.1
    have hl3 : DefsLocal phys (defdAfterDef (defdAfterDef D ld.term) d.term) ds := hl.2.2
    rw [hlt] at hl1 hl2 hl3
    rw [hdt] at hl2 hl3
    -- the merged assignment `v = e₂[v ↦ e₁]` reads the variables of `e₁` and those of `e₂` other than `v`
    have hmerged : ExprLocal phys D (e₂.substVar v e₁) := by
      intro w hw
      rcases mem_inputVars_of_mem_substVar hw with ⟨h, hne⟩ | h
      · exact (hl2 e₂ List.mem_cons_self w h).imp_right fun h' => (List.mem_cons.mp h').resolve_left hne
      · exact hl1 e₁ List.mem_cons_self w h
    obtain ⟨m1, m2⟩ := defsLocal_mono ds (List.cons_subset.mpr ⟨List.mem_cons_self, List.Subset.refl _⟩) hl3
    obtain ⟨ih1, ih2⟩ := ih hs (show DefsLocal phys D ({ d with term := .Assign v (e₂.substVar v e₁) } :: ds) from
      ⟨fun e he => List.mem_singleton.mp he ▸ hmerged, m1⟩)
    refine ⟨ih1, List.Subset.trans ?_ ih2⟩
    simp only [defdAfter_cons, hlt, hdt]
    exact m2

/-- What a block `b'` that replaces `b` owes when `b` is entered in `σ` under the invariant, its defs lead to `σ₁` and
its jumps do not get stuck there. `K`: whether H1 is carried to the new run; `J t D'`: what the pass needs to know of
the variables `D'` the NEW run has assigned since the last call when it enters block `t`. -/
structure BlkRef (env : Env) (phys : VarSet) (K : Prop) (J : Tid → List Variable → Prop)
    (Inext : Tid → State → Nat → Prop) (t : Tid) (σ σ₁ : State) (c : Nat) (evs : List Event) (b b' : Term Blk) :
    Prop where
  boolDefs : K → DefsBoolOk b'.term.defs σ
  defs : execDefs σ b'.term.defs = some (σ₁, evs)
  boolJmps : K → ∀ j ∈ b'.term.jmps, ∀ e ∈ jmpExprs j.term, boolOk σ₁ e = true
  jmps : execJmps env σ₁ c b'.term.jmps = execJmps env σ₁ c b.term.jmps
  inv : ∀ evs₂ t₂ σ₂ c₂, execJmps env σ₁ c b.term.jmps = (evs₂, .goto t₂ σ₂ c₂) → Inext t₂ σ₂ c₂
  loc : ∀ D D', D ⊆ D' → J t D' → DefsLocal phys D b.term.defs →
    JmpsLocal phys (defdAfter D b.term.defs) b.term.jmps →
      DefsLocal phys D' b'.term.defs ∧ defdAfter D b.term.defs ⊆ defdAfter D' b'.term.defs ∧
      JmpsLocal phys (defdAfter D' b'.term.defs) b'.term.jmps ∧
      ∀ evs₂ t₂ σ₂ c₂, execJmps env σ₁ c b.term.jmps = (evs₂, .goto t₂ σ₂ c₂) →
        J t₂ (if c₂ = c then defdAfter D' b'.term.defs else [])

/-- the premise of `runBlocks_refines`. `I n t σ c`: the run invariant at the entry of block `t` with remaining fuel
`n`, state `σ` and call counter `c`. -/
def BlockRef (env : Env) (phys : VarSet) (K : Prop) (blocks blocks' : List (Term Blk))
    (I : Nat → Tid → State → Nat → Prop) (J : Tid → List Variable → Prop) : Prop :=
  ∀ n t σ c b b', I (n + 1) t σ c → blocks.find? (fun b => b.tid == t) = some b →
    blocks'.find? (fun b => b.tid == t) = some b' →
    ∀ σ₁ evs, execDefs σ b.term.defs = some (σ₁, evs) → NoStuck (execJmps env σ₁ c b.term.jmps).1 →
      BlkRef env phys K J (I n) t σ σ₁ c evs b b'

/-- **C10-same-state-simulation.** Under `BlockRef`, a run of the original blocks that does not get stuck is reproduced
event by event by the new blocks; the new run keeps the boolean discipline (H1, if `K`), and it keeps H2 if the
original run does. -/
theorem runBlocks_refines (env : Env) (phys : VarSet) (K : Prop) (blocks blocks' : List (Term Blk))
    (I : Nat → Tid → State → Nat → Prop) (J : Tid → List Variable → Prop)
    (hfind : ∀ t, (blocks'.find? (fun b => b.tid == t)).isSome = (blocks.find? (fun b => b.tid == t)).isSome)
    (hblk : BlockRef env phys K blocks blocks' I J) :
    ∀ fuel t σ c, I fuel t σ c → NoStuck (runBlocks env blocks fuel t σ c) →
      runBlocks env blocks' fuel t σ c = runBlocks env blocks fuel t σ c ∧ (K → RunOk env blocks' fuel t σ c) ∧
      ∀ D D', D ⊆ D' → J t D' → RunLocals env phys blocks fuel t σ c D →
        RunLocals env phys blocks' fuel t σ c D' := by
  intro fuel
  induction fuel with
  | zero => intro t σ c _ _; exact ⟨rfl, fun _ => trivial, fun _ _ _ _ _ => trivial⟩
  | succ n ih =>
    intro t σ c hI hns
    obtain ⟨b, σ₁, evs, hb, hd, hnj, hnsNext⟩ := hns.block
    obtain ⟨b', hb'⟩ := Option.isSome_iff_exists.mp ((hfind t).trans (by rw [hb]; rfl))
    have h := hblk n t σ c b b' hI hb hb' σ₁ evs hd hnj
    have hnext := fun evs₂ t₂ σ₂ c₂ (hjm : execJmps env σ₁ c b.term.jmps = (evs₂, .goto t₂ σ₂ c₂)) =>
      ih t₂ σ₂ c₂ (h.inv evs₂ t₂ σ₂ c₂ hjm) (hnsNext evs₂ t₂ σ₂ c₂ hjm)
    refine ⟨?_, fun hK b'' hb'' => ?_, fun D D' hs hJ hrl b'' hb'' σ₁' evs' hd'' => ?_⟩
    · cases hjm : execJmps env σ₁ c b.term.jmps with
      | mk evs₂ nxt =>
        cases nxt with
        | stop => rw [runBlocks_stop hb hd hjm, runBlocks_stop hb' h.defs (h.jmps.trans hjm)]
        | goto t₂ σ₂ c₂ =>
          rw [runBlocks_goto hb hd hjm, runBlocks_goto hb' h.defs (h.jmps.trans hjm), (hnext _ _ _ _ hjm).1]
    · cases hb'.symm.trans hb''
      refine ⟨h.boolDefs hK, fun σ₁' evs' hd'' => ?_⟩
      cases h.defs.symm.trans hd''
      exact ⟨h.boolJmps hK, fun evs₂ t₂ σ₂ c₂ hg => (hnext _ _ _ _ (h.jmps.symm.trans hg)).2.1 hK⟩
    · cases hb'.symm.trans hb''
      cases h.defs.symm.trans hd''
      obtain ⟨hdl, hjl, hrlNext⟩ := hrl b hb σ₁ evs hd
      obtain ⟨hdl', hs₁, hjl', hJnext⟩ := h.loc D D' hs hJ hdl hjl
      refine ⟨hdl', hjl', fun evs₂ t₂ σ₂ c₂ hg => ?_⟩
      have hjm := h.jmps.symm.trans hg
      refine (hnext _ _ _ _ hjm).2.2 _ _ ?_ (hJnext _ _ _ _ hjm) (hrlNext _ _ _ _ hjm)
      split
      · exact hs₁
      · exact List.nil_subset _

theorem runSub_mapBlocks (env : Env) (g : Term Blk → Term Blk) (hg : ∀ b, (g b).tid = b.tid) (s : Term Sub)
    (σ : State) (fuel : Nat) :
    runSub env (mapSubBlocks g s).term σ fuel =
      match s.term.blocks with
      | [] => [.deadEnd (σ.snapshot env.physRegs)]
      | b :: _ => runBlocks env (s.term.blocks.map g) fuel b.tid σ 0 := by
  unfold runSub
  simp only [mapSubBlocks]
  cases hbl : s.term.blocks with
  | nil => rfl
  | cons b bs => simp only [List.map, hg]

theorem noStuck_runBlocks_of_runSub {env : Env} {s : Term Sub} {σ : State} {fuel : Nat} {b : Term Blk}
    {bs : List (Term Blk)} (hbl : s.term.blocks = b :: bs) (hns : NoStuck (runSub env s.term σ fuel)) :
    NoStuck (runBlocks env s.term.blocks fuel b.tid σ 0) := by
  rw [runSub, hbl] at hns; rw [hbl]; exact hns

theorem runSub_mapBlocks_ok {env : Env} (g : Term Blk → Term Blk) (hg : ∀ b, (g b).tid = b.tid) (s : Term Sub)
    (σ : State) (fuel : Nat)
    (h : ∀ b bs, s.term.blocks = b :: bs →
      runBlocks env (s.term.blocks.map g) fuel b.tid σ 0 = runBlocks env s.term.blocks fuel b.tid σ 0 ∧
        RunOk env (s.term.blocks.map g) fuel b.tid σ 0) :
    runSub env (mapSubBlocks g s).term σ fuel = runSub env s.term σ fuel ∧
      ∀ b bs, (mapSubBlocks g s).term.blocks = b :: bs →
        RunOk env (mapSubBlocks g s).term.blocks fuel b.tid σ 0 := by
  rw [runSub_mapBlocks env g hg]
  unfold runSub
  show _ ∧ ∀ b bs, s.term.blocks.map g = b :: bs → RunOk env (s.term.blocks.map g) fuel b.tid σ 0
  cases hbl : s.term.blocks with
  | nil => exact ⟨rfl, fun _ _ e => by cases e⟩
  | cons b bs =>
    have hb := h b bs hbl
    rw [hbl] at hb
    exact ⟨hb.1, fun b' bs' e => by cases e; rw [hg]; exact hb.2⟩

theorem find?_isSome_mapBlk (g : Term Blk → Term Blk) (hg : ∀ b, (g b).tid = b.tid) (blocks : List (Term Blk)) (t : Tid) :
    ((blocks.map g).find? (fun b => b.tid == t)).isSome = (blocks.find? (fun b => b.tid == t)).isSome := by
  rw [find?_tid_map g hg]
  cases blocks.find? (fun b => b.tid == t) <;> rfl

theorem mapSubBlocks_cons {g : Term Blk → Term Blk} {s : Term Sub} {b' : Term Blk} {bs' : List (Term Blk)}
    (h : (mapSubBlocks g s).term.blocks = b' :: bs') :
    ∃ b bs, s.term.blocks = b :: bs ∧ b' = g b := by
  simp only [mapSubBlocks] at h
  cases hbl : s.term.blocks with
  | nil => rw [hbl] at h; cases h
  | cons b bs =>
    rw [hbl] at h
    simp only [List.map, List.cons.injEq] at h
    exact ⟨b, bs, rfl, h.1.symm⟩

/-- exact trace preservation for one function, with the run-time hypothesis H1 transported to the new function -/
def SubPreservesOk (env : Env) (s s' : Term Sub) : Prop :=
  ∀ (σ : State) (fuel : Nat), StateWF σ →
    (∀ b bs, s.term.blocks = b :: bs → RunOk env s.term.blocks fuel b.tid σ 0) →
    NoStuck (runSub env s.term σ fuel) →
    runSub env s'.term σ fuel = runSub env s.term σ fuel ∧
      (∀ b bs, s'.term.blocks = b :: bs → RunOk env s'.term.blocks fuel b.tid σ 0)

theorem SubPreservesOk.trans {env : Env} {s s' s'' : Term Sub} (h₁ : SubPreservesOk env s s')
    (h₂ : SubPreservesOk env s' s'') : SubPreservesOk env s s'' := by
  intro σ fuel hσ hok hns
  obtain ⟨e₁, ok₁⟩ := h₁ σ fuel hσ hok hns
  obtain ⟨e₂, ok₂⟩ := h₂ σ fuel hσ ok₁ (by rw [e₁]; exact hns)
  exact ⟨e₂.trans e₁, ok₂⟩

def RunOkSub (env : Env) (s : Term Sub) (σ : State) (fuel : Nat) : Prop :=
  ∀ b bs, s.term.blocks = b :: bs → RunOk env s.term.blocks fuel b.tid σ 0

def RunLocalsSub (env : Env) (phys : VarSet) (s : Term Sub) (σ : State) (fuel : Nat) : Prop :=
  ∀ b bs, s.term.blocks = b :: bs → RunLocals env phys s.term.blocks fuel b.tid σ 0 []

/-- **The relation between a function and its image under a pass that keeps the machine states.** From every
well-formed initial state and for every fuel: if the run of `s` keeps the boolean discipline (H1) and does not get
stuck (H3), `s'` has the same trace, and its run keeps H2 if the run of `s` does. -/
def SubRefines (env : Env) (phys : VarSet) (s s' : Term Sub) : Prop :=
  ∀ (σ : State) (fuel : Nat), StateWF σ → RunOkSub env s σ fuel → NoStuck (runSub env s.term σ fuel) →
    runSub env s'.term σ fuel = runSub env s.term σ fuel ∧
      (RunLocalsSub env phys s σ fuel → RunLocalsSub env phys s' σ fuel)

/-- the second pass needs H1 of the run of `s'`: the first has to carry it over (`SubPreservesOk`) -/
theorem SubRefines.trans {env : Env} {phys : VarSet} {s s' s'' : Term Sub} (h₁ : SubRefines env phys s s')
    (ok₁ : SubPreservesOk env s s') (h₂ : SubRefines env phys s' s'') : SubRefines env phys s s'' := by
  intro σ fuel hσ hok hns
  obtain ⟨e₁, loc₁⟩ := h₁ σ fuel hσ hok hns
  obtain ⟨e₂, loc₂⟩ := h₂ σ fuel hσ (ok₁ σ fuel hσ hok hns).2 (by rw [e₁]; exact hns)
  exact ⟨e₂.trans e₁, fun h => loc₂ (loc₁ h)⟩

theorem subRefines_mapBlocks {env : Env} {phys : VarSet} {K : Prop} (g : Term Blk → Term Blk)
    (hg : ∀ b, (g b).tid = b.tid) (s : Term Sub) (I : Nat → Tid → State → Nat → Prop)
    (J : Tid → List Variable → Prop) (hblk : BlockRef env phys K s.term.blocks (s.term.blocks.map g) I J)
    (hentry : ∀ σ fuel b bs, s.term.blocks = b :: bs → StateWF σ → RunOk env s.term.blocks fuel b.tid σ 0 →
      I fuel b.tid σ 0 ∧ J b.tid []) :
    SubRefines env phys s (mapSubBlocks g s) ∧ (K → SubPreservesOk env s (mapSubBlocks g s)) := by
  have key := fun σ fuel (hσ : StateWF σ) (hok : RunOkSub env s σ fuel) (hns : NoStuck (runSub env s.term σ fuel))
      b bs (hbl : s.term.blocks = b :: bs) =>
    runBlocks_refines env phys K _ _ I J (find?_isSome_mapBlk g hg s.term.blocks) hblk fuel b.tid σ 0
      (hentry σ fuel b bs hbl hσ (hok b bs hbl)).1 (noStuck_runBlocks_of_runSub hbl hns)
  refine ⟨fun σ fuel hσ hok hns => ⟨?_, fun hrl b' bs' h => ?_⟩, fun hK σ fuel hσ hok hns => ?_⟩
  · rw [runSub_mapBlocks env g hg]
    unfold runSub
    cases hbl : s.term.blocks with
    | nil => rfl
    | cons b bs => have := (key σ fuel hσ hok hns b bs hbl).1; rwa [hbl] at this
  · obtain ⟨b, bs, hbl, rfl⟩ := mapSubBlocks_cons h
    rw [hg]
    exact (key σ fuel hσ hok hns b bs hbl).2.2 [] [] (List.Subset.refl _) (hentry σ fuel b bs hbl hσ (hok b bs hbl)).2
      (hrl b bs hbl)
  · exact runSub_mapBlocks_ok g hg s σ fuel fun b bs hbl =>
      ⟨(key σ fuel hσ hok hns b bs hbl).1, (key σ fuel hσ hok hns b bs hbl).2.1 hK⟩

/-- H1 is not carried over: `substTrivial_eval` gives the discipline of a rewritten expression only where the original
one evaluates, and a run does not evaluate every jump expression of a block. -/
theorem substTrivial_blockRef (env : Env) (phys : VarSet) {ptr : Nat} (blocks : List (Term Blk))
    (hws : ∀ b ∈ blocks, WellSizedBlk ptr b.term) :
    BlockRef env phys False blocks (blocks.map (mapBlkExprs substTrivial))
      (fun n t σ c => StateWF σ ∧ RunOk env blocks n t σ c) (fun _ _ => True) := by
  intro n t σ c b b' ⟨hσ, hok⟩ hb hb' σ₁ evs hd hns₂
  obtain rfl := find?_mapBlk_some hb hb' fun _ => rfl
  have hwb := hws b (List.mem_of_find?_eq_some hb)
  obtain ⟨hdefs, hrest⟩ := hok b hb
  obtain ⟨hj, hnext⟩ := hrest σ₁ evs hd
  have hσ₁ := hσ.execDefs hd
  exact {
    boolDefs := False.elim
    boolJmps := False.elim
    defs := execDefs_map hd (defsRefine_substTrivial hσ hwb.1 hdefs)
    jmps := execJmps_map (fun j hjm e he =>
      refines_substTrivial hσ₁ (wellSized_of_jmpExprs (hwb.2 j hjm) e he) (hj j hjm e he)) hns₂
    inv := fun evs₂ t₂ σ₂ c₂ hjm => ⟨hσ₁.execJmps hjm, hnext evs₂ t₂ σ₂ c₂ hjm⟩
    loc := fun D D' hs _ hdl hjl =>
      have h := defsLocal_map (phys := phys) substTrivial_inputVars b.term.defs hs hdl
      ⟨h.1, h.2, jmpsLocal_map substTrivial_inputVars (hjl.mono h.2), fun _ _ _ _ _ => trivial⟩ }

theorem substTrivial_subRefines (env : Env) (phys : VarSet) {ptr : Nat} (s : Term Sub) (hws : WellSizedSub ptr s.term) :
    SubRefines env phys s (mapSubBlocks (mapBlkExprs substTrivial) s) :=
  (subRefines_mapBlocks (mapBlkExprs substTrivial) (fun _ => rfl) s _ _
    (substTrivial_blockRef env phys s.term.blocks hws) fun _ _ _ _ _ hσ hok => ⟨⟨hσ, hok⟩, trivial⟩).1

/-- **C10-trivial-run.** Replacing every expression of a function by its `substitute_trivial_operations`
form does not change the observable trace: for every well-sized function, every well-formed initial state
and every fuel, if the run of the original function keeps the boolean discipline (H1) and does not get
stuck, both runs produce the same events (memory accesses, calls, jumps, returns, dead ends with their
state snapshots). -/
theorem substTrivial_runBlocks (env : Env) {ptr : Nat} (blocks : List (Term Blk))
    (hws : ∀ b ∈ blocks, WellSizedBlk ptr b.term) (fuel : Nat) (t : Tid) (σ : State) (c : Nat)
    (hσ : StateWF σ) (hok : RunOk env blocks fuel t σ c)
    (hns : NoStuck (runBlocks env blocks fuel t σ c)) :
    runBlocks env (blocks.map (mapBlkExprs substTrivial)) fuel t σ c = runBlocks env blocks fuel t σ c :=
  (runBlocks_refines env [] False _ _ _ _ (find?_isSome_mapBlk (mapBlkExprs substTrivial) (fun _ => rfl) blocks)
    (substTrivial_blockRef env [] blocks hws) fuel t σ c ⟨hσ, hok⟩ hns).1

/-- the same for `Sem.runSub` (a function started at its first block) -/
theorem substTrivial_runSub (env : Env) {ptr : Nat} (s : Term Sub) (hws : WellSizedSub ptr s.term)
    (σ : State) (fuel : Nat) (hσ : StateWF σ)
    (hok : ∀ b bs, s.term.blocks = b :: bs → RunOk env s.term.blocks fuel b.tid σ 0)
    (hns : NoStuck (runSub env s.term σ fuel)) :
    runSub env (mapSubBlocks (mapBlkExprs substTrivial) s).term σ fuel = runSub env s.term σ fuel :=
  (substTrivial_subRefines env [] s hws σ fuel hσ hok hns).1

theorem mergeAssignments_blockRef (env : Env) (phys : VarSet) (K : Prop) (blocks : List (Term Blk)) :
    BlockRef env phys K blocks (blocks.map mergeDefAssignmentsToSameVar)
      (fun n t σ c => K → RunOk env blocks n t σ c) (fun _ _ => True) := by
  intro n t σ c b b' hok hb hb' σ₁ evs hd _
  obtain rfl := find?_mapBlk_some hb hb' fun _ => rfl
  obtain ⟨hex, hbo⟩ := mergeDefsLoop_sim b.term.defs none σ _ hd
  exact {
    boolDefs := fun hK => hbo (hok hK b hb).1
    boolJmps := fun hK => ((hok hK b hb).2 σ₁ evs hd).1
    defs := hex
    jmps := rfl
    inv := fun evs₂ t₂ σ₂ c₂ hjm hK => ((hok hK b hb).2 σ₁ evs hd).2 evs₂ t₂ σ₂ c₂ hjm
    loc := fun D D' hs _ hdl hjl =>
      have h := (mergeDefsLoop_merges b.term.defs none).local (phys := phys) hs hdl
      ⟨h.1, h.2, hjl.mono h.2, fun _ _ _ _ _ => trivial⟩ }

/-- **C10-merge-assignments-run.** `merge_def_assignments_to_same_var` keeps the trace and the run-time hypotheses. -/
theorem mergeAssignments_subRefines (env : Env) (phys : VarSet) (s : Term Sub) :
    SubRefines env phys s (mapSubBlocks mergeDefAssignmentsToSameVar s) ∧
      SubPreservesOk env s (mapSubBlocks mergeDefAssignmentsToSameVar s) :=
  have h := subRefines_mapBlocks (phys := phys) mergeDefAssignmentsToSameVar (fun _ => rfl) s _ _
    (mergeAssignments_blockRef env phys True s.term.blocks) fun _ _ _ _ _ _ hok => ⟨fun _ => hok, trivial⟩
  ⟨h.1, h.2 trivial⟩

theorem mergeAssignments_runSub (env : Env) (s : Term Sub) (σ : State) (fuel : Nat)
    (hok : ∀ b bs, s.term.blocks = b :: bs → RunOk env s.term.blocks fuel b.tid σ 0)
    (hns : NoStuck (runSub env s.term σ fuel)) :
    runSub env (mapSubBlocks mergeDefAssignmentsToSameVar s).term σ fuel = runSub env s.term σ fuel ∧
      (∀ b bs, (mapSubBlocks mergeDefAssignmentsToSameVar s).term.blocks = b :: bs →
        RunOk env (mapSubBlocks mergeDefAssignmentsToSameVar s).term.blocks fuel b.tid σ 0) :=
  runSub_mapBlocks_ok mergeDefAssignmentsToSameVar (fun _ => rfl) s σ fuel fun b bs hbl =>
    have h := runBlocks_refines env [] True _ _ _ _ (find?_isSome_mapBlk mergeDefAssignmentsToSameVar (fun _ => rfl) _)
      (mergeAssignments_blockRef env [] True s.term.blocks) fuel b.tid σ 0 (fun _ => hok b bs hbl)
      (noStuck_runBlocks_of_runSub hbl hns)
    ⟨h.1, h.2.1 trivial⟩

end CweModel.C10
