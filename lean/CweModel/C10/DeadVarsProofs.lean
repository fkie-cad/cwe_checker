/-
C10 pass 3 — soundness of the backward transfer of dead-variable elimination
(`update_alive_vars_by_def`, `remove_dead_var_assignments_of_block`): two machine states that agree on
the variables alive before a block's defs produce the same memory events when one executes the original
defs and the other the cleaned defs, and afterwards agree on the variables alive at the end of the block.
The agreement relation `AgreeOn` is also what the run-level proof (RunDeadVars) reasons with.
-/
import CweModel.C10.RunLemmas

namespace CweModel.C10
open CweModel CweModel.IR CweModel.Sem

structure AgreeOn (A : VarSet) (σ₁ σ₂ : State) : Prop where
  seed : σ₁.seed = σ₂.seed
  mem : σ₁.mem = σ₂.mem
  le : σ₁.littleEndian = σ₂.littleEndian
  ptr : σ₁.ptrBytes = σ₂.ptrBytes
  regs : ∀ v ∈ A, σ₁.getReg v = σ₂.getReg v

theorem AgreeOn.refl (A : VarSet) (σ : State) : AgreeOn A σ σ := ⟨rfl, rfl, rfl, rfl, fun _ _ => rfl⟩

theorem AgreeOn.mono {A B : VarSet} {σ₁ σ₂ : State} (h : AgreeOn A σ₁ σ₂) (hBA : ∀ v ∈ B, v ∈ A) : AgreeOn B σ₁ σ₂ :=
  ⟨h.seed, h.mem, h.le, h.ptr, fun v hv => h.regs v (hBA v hv)⟩

theorem AgreeOn.eval {A : VarSet} {σ₁ σ₂ : State} (h : AgreeOn A σ₁ σ₂) {e : Expression}
    (he : ∀ v ∈ e.inputVars, v ∈ A) : eval σ₁ e = eval σ₂ e :=
  eval_agree h.seed (fun v hv => h.regs v (he v hv))

theorem AgreeOn.readMem {A : VarSet} {σ₁ σ₂ : State} (h : AgreeOn A σ₁ σ₂) (a n : Nat) :
    σ₁.readMem a n = σ₂.readMem a n := by
  simp only [State.readMem, State.wrapAddr, State.getByte, State.memDefault, h.ptr, h.le, h.seed, h.mem]

theorem AgreeOn.setReg_both {A : VarSet} {σ₁ σ₂ : State} (h : AgreeOn A σ₁ σ₂) (v : Variable) (x : Bv) :
    AgreeOn (v :: A) (σ₁.setReg v x) (σ₂.setReg v x) := by
  refine ⟨h.seed, h.mem, h.le, h.ptr, fun w hw => ?_⟩
  rw [getReg_setReg, getReg_setReg]
  split
  · rfl
  · next hne => exact h.regs w ((List.mem_cons.mp hw).resolve_left hne)

theorem AgreeOn.setReg_left {A : VarSet} {σ₁ σ₂ : State} (h : AgreeOn A σ₁ σ₂) {v : Variable} (hv : v ∉ A) (x : Bv) :
    AgreeOn A (σ₁.setReg v x) σ₂ := by
  refine ⟨h.seed, h.mem, h.le, h.ptr, fun w hw => ?_⟩
  rw [getReg_setReg, if_neg fun (e : w = v) => hv (e ▸ hw)]
  exact h.regs w hw

theorem AgreeOn.setByte {A : VarSet} {σ₁ σ₂ : State} (h : AgreeOn A σ₁ σ₂) (a b : Nat) :
    AgreeOn A (σ₁.setByte a b) (σ₂.setByte a b) :=
  ⟨h.seed, congrArg (_ :: List.filter _ ·) h.mem, h.le, h.ptr, h.regs⟩

theorem AgreeOn.writeMem {A : VarSet} {σ₁ σ₂ : State} (h : AgreeOn A σ₁ σ₂) (a n val : Nat) :
    AgreeOn A (σ₁.writeMem a n val) (σ₂.writeMem a n val) :=
  writeMem_rel (fun _ _ a b hs => hs.setByte a b) h h.le h.ptr a n val

theorem AgreeOn.havoc {A : VarSet} {σ₁ σ₂ : State} (h : AgreeOn A σ₁ σ₂) (regs : List Variable) (sp : Variable)
    (site : String) (nth : Nat) : AgreeOn A (havoc σ₁ regs sp site nth) (havoc σ₂ regs sp site nth) :=
  havoc_rel (fun _ _ v x hs => (hs.setReg_both v x).mono fun _ hw => List.mem_cons_of_mem _ hw) h h.seed regs sp site nth

theorem AgreeOn.snapshot {A : VarSet} {σ₁ σ₂ : State} (h : AgreeOn A σ₁ σ₂) {regs : List Variable}
    (hregs : ∀ v ∈ regs, v ∈ A) : σ₁.snapshot regs = σ₂.snapshot regs :=
  snapshot_congr h.seed h.mem fun v hv => h.regs v (hregs v hv)

theorem AgreeOn.execDef {A : VarSet} {σ₁ σ₂ σ₁' : State} {d : Def} {evs : List Event} (h : AgreeOn A σ₁ σ₂)
    (hr : ∀ e ∈ defExprs d, ∀ v ∈ e.inputVars, v ∈ A) (hd : execDef σ₁ d = some (σ₁', evs)) :
    ∃ σ₂', execDef σ₂ d = some (σ₂', evs) ∧ AgreeOn ((assignedVar d).toList ++ A) σ₁' σ₂' := by
  cases d with
  | Assign v e =>
    obtain ⟨x, hx, hw, rfl, rfl⟩ := execDef_assign.mp hd
    rw [h.eval (hr e List.mem_cons_self)] at hx
    exact ⟨_, execDef_assign.mpr ⟨x, hx, hw, rfl⟩, h.setReg_both v x⟩
  | Load v a =>
    obtain ⟨x, hx, rfl, rfl⟩ := execDef_load.mp hd
    rw [h.eval (hr a List.mem_cons_self)] at hx
    rw [h.readMem]
    exact ⟨_, execDef_load.mpr ⟨x, hx, rfl⟩, h.setReg_both v _⟩
  | Store a e =>
    obtain ⟨x, hx, y, hy, rfl, rfl⟩ := execDef_store.mp hd
    rw [h.eval (hr a List.mem_cons_self)] at hx
    rw [h.eval (hr e (List.mem_cons_of_mem _ List.mem_cons_self))] at hy
    exact ⟨_, execDef_store.mpr ⟨x, hx, y, hy, rfl⟩, h.writeMem _ _ _⟩

theorem AgreeOn.execDef_left {A : VarSet} {σ₁ σ₂ σ₁' : State} {v : Variable} {e : Expression} {evs : List Event}
    (h : AgreeOn A σ₁ σ₂) (hv : v ∉ A) (hd : Sem.execDef σ₁ (.Assign v e) = some (σ₁', evs)) :
    evs = [] ∧ AgreeOn A σ₁' σ₂ := by
  obtain ⟨x, _, _, rfl, rfl⟩ := execDef_assign.mp hd
  exact ⟨rfl, h.setReg_left hv x⟩

/-- **C10-dead-variables.** Soundness of the backward transfer: if `σ₁` and `σ₂` agree on the variables
alive before the defs of a block (`aliveBeforeDefs A defs`, computed by `update_alive_vars_by_def`) and the
original defs execute from `σ₁`, then the cleaned defs (`remove_dead_var_assignments_of_block`) execute from
`σ₂` with the same memory events and the final states agree on the variables `A` alive at the end. -/
theorem removeDeadDefs_sound (A : VarSet) (defs : List (Term Def)) {σ₁ σ₂ σ₁' : State} {evs : List Event}
    (h : AgreeOn (aliveBeforeDefs A defs) σ₁ σ₂) (hd : execDefs σ₁ defs = some (σ₁', evs)) :
    ∃ σ₂', execDefs σ₂ (removeDeadDefs A defs).1 = some (σ₂', evs) ∧ AgreeOn A σ₁' σ₂' := by
  induction defs generalizing σ₁ σ₂ evs with
  | nil => cases hd; exact ⟨σ₂, rfl, h⟩
  | cons d ds ih =>
    obtain ⟨σm, e₁, σe, e₂, h1, h2, hr⟩ := execDefs_cons_some.mp hd
    cases hr
    change AgreeOn (updateAliveByDef (aliveBeforeDefs A ds) d.term) σ₁ σ₂ at h
    rw [removeDeadDefs_cons]
    split
    · next hk =>
      obtain ⟨σ₂m, hx, hag⟩ := h.execDef (inputVars_alive hk) h1
      obtain ⟨σ₂', hy, hag'⟩ := ih (hag.mono fun v => mem_assigned_or_alive d.term) h2
      exact ⟨σ₂', execDefs_cons_some.mpr ⟨_, _, _, _, hx, hy, rfl⟩, hag'⟩
    · next hk =>
      obtain ⟨v, e, hdt, hv, hA⟩ := keepDef_false hk
      rw [hA] at h
      rw [hdt] at h1
      obtain ⟨rfl, hag⟩ := h.execDef_left hv h1
      exact ih hag h2

end CweModel.C10
