/-
C10 pass 4 — the core facts behind `propagate_control_flow`:
  * `negate_condition`: if a condition is true (non-zero) in a state, its negation evaluates to zero there
    (or does not evaluate at all), and if it evaluates to zero its negation is true;
  * following a chain of def-free blocks under conditions known to be true (`find_target_for_retargetable_jump`)
    reaches the computed target in the same machine state without any observable event, or gets stuck in one of
    the skipped blocks;
  * `remove_new_orphaned_blocks` keeps the first block of every function, and removes only blocks with the tid of
    a block that has no incoming control-flow edge after the retargeting.
-/
import CweModel.C10.RunLemmas

namespace CweModel.C10
open CweModel CweModel.IR CweModel.Sem

def CondTrue (σ : State) (c : Expression) : Prop := ∃ v, eval σ c = some v ∧ v.toNat ≠ 0

/-- **C10-negate-condition.** If `c` is true in `σ`, then `negate_condition(c)` evaluates to zero in `σ`
whenever it evaluates. -/
theorem negateCondition_false {σ : State} {c : Expression} (h : CondTrue σ c) :
    ∀ w, eval σ (negateCondition c) = some w → w.toNat = 0 := by
  obtain ⟨v, hv, hnz⟩ := h
  intro w hw
  unfold negateCondition at hw
  split at hw
  · -- `c = BoolNegate arg`, the negation is `arg`
    obtain ⟨x, hx, hxv⟩ := eval_unOp_some.mp hv
    cases hx.symm.trans hw
    exact Decidable.not_not.mp (mt (ref_boolNegate_truth hxv).mpr hnz)
  · -- the negation is `BoolNegate c`
    obtain ⟨x, hx, hxw⟩ := eval_unOp_some.mp hw
    cases hv.symm.trans hx
    exact (ref_boolNegate_truth hxw).mpr hnz

theorem negateCondition_true {σ : State} {c : Expression} {v : Bv} (h : eval σ c = some v) (hz : v.toNat = 0) :
    CondTrue σ (negateCondition c) := by
  unfold negateCondition
  split
  · obtain ⟨x, hx, hxv⟩ := eval_unOp_some.mp h
    exact ⟨x, hx, (ref_boolNegate_truth hxv).mp hz⟩
  · exact ⟨Bv.ofBool true, eval_unOp_some.mpr ⟨v, h, ref_boolNegate_zero hz⟩, by decide⟩

def CondsHold (σ : State) (conds : List Expression) : Prop := ∀ c ∈ conds, CondTrue σ c

theorem execDefs_nil_of_isEmpty {σ : State} {defs : List (Term Def)} (h : defs.isEmpty = true) :
    execDefs σ defs = some (σ, []) := by
  cases defs with
  | nil => rfl
  | cons d ds => cases h

/-- The second alternative: the block branches on `negate_condition(tc)`, and `BOOL_NEGATE` is stuck on a true
condition `tc` whose value is not the one-byte 1. -/
theorem checkForRetargetableBlock_step {env : Env} {σ : State} {c : Nat} {b : Term Blk} {conds : List Expression}
    {t : Tid} (hc : CondsHold σ conds) (h : checkForRetargetableBlock b conds = some t) :
    execDefs σ b.term.defs = some (σ, []) ∧
      (execJmps env σ c b.term.jmps = ([], .goto t σ c) ∨ ¬ NoStuck (execJmps env σ c b.term.jmps).1) := by
  unfold checkForRetargetableBlock at h
  split at h
  · cases h
  · next hdefs =>
    refine ⟨execDefs_nil_of_isEmpty (by simpa using hdefs), ?_⟩
    split at h
    · next j hjl =>
      split at h
      · next t' hjt =>
        cases h
        rw [hjl]
        simp only [Sem.execJmps, hjt]
        exact .inl trivial
      · cases h
    · next j₁ j₂ hjl =>
      split at h
      · next tIf cnd tElse hj1 hj2 =>
        obtain ⟨tc, htc, hres⟩ := List.exists_of_findSome?_eq_some h
        have htrue := hc tc htc
        rw [hjl]
        simp only [Sem.execJmps, hj1, hj2]
        split at hres
        · next heq =>
          cases hres
          obtain ⟨v, hv, hnz⟩ := htrue
          rw [heq, hv]
          simp only [bne_iff_ne.mpr hnz, if_true]
          exact .inl trivial
        · split at hres
          · next heq =>
            cases hres
            rw [heq]
            cases hw : eval σ (negateCondition tc) with
            | none => exact .inr (not_noStuck_stuck _)
            | some w =>
              simp only [show (w.toNat != 0) = false by rw [negateCondition_false htrue w hw]; rfl]
              exact .inl rfl
          · cases hres
      · cases h
    · cases h

theorem retargetable_step {env : Env} {blocks : List (Term Blk)} {conds : List Expression} {σ : State} {c : Nat}
    {cur t : Tid} {b : Term Blk} (hc : CondsHold σ conds) (hb : blocks.find? (fun b => b.tid == cur) = some b)
    (h : checkForRetargetableBlock b conds = some t) :
    (execJmps env σ c b.term.jmps = ([], .goto t σ c) ∧
      ∀ n, runBlocks env blocks (n + 1) cur σ c = runBlocks env blocks n t σ c) ∨
    ∀ n, ¬ NoStuck (runBlocks env blocks (n + 1) cur σ c) := by
  obtain ⟨hd, hj | hj⟩ := checkForRetargetableBlock_step (env := env) (c := c) hc h
  · exact .inl ⟨hj, fun n => by rw [runBlocks_goto hb hd hj]; rfl⟩
  · exact .inr fun n hns => hj (hns.jmps hb hd)

theorem followChain_induct {blocks : List (Term Blk)} {conds : List Expression} {P : Tid → Prop}
    (step : ∀ cur b t, blocks.find? (fun b => b.tid == cur) = some b → checkForRetargetableBlock b conds = some t →
      P t → P cur) :
    ∀ fuel visited cur, P (followChain blocks conds fuel visited cur) → P cur := by
  intro fuel
  induction fuel with
  | zero => exact fun _ _ h => h
  | succ f ih =>
    intro visited cur
    simp only [followChain]
    cases hb : blocks.find? (fun b => b.tid == cur) with
    | none => exact id
    | some b =>
      simp only
      cases hchk : checkForRetargetableBlock b conds with
      | none => exact id
      | some t =>
        simp only
        split
        · exact id
        · exact fun h => step cur b t hb hchk (ih (t :: visited) t h)

/-- **C10-follow-chain.** `find_target_for_retargetable_jump`: under conditions that hold in `σ`, the run
that enters the original target `cur` in `σ` reaches the computed target `followChain …` in the same state,
with the same call counter and without any event, after consuming `k` blocks of fuel — or it gets stuck in
one of the skipped blocks. -/
theorem followChain_run (env : Env) (blocks : List (Term Blk)) (conds : List Expression) {σ : State} (c : Nat)
    (hc : CondsHold σ conds) :
    ∀ fuel visited cur, ∃ k, ∀ n,
      runBlocks env blocks (n + k) cur σ c = runBlocks env blocks n (followChain blocks conds fuel visited cur) σ c ∨
      ¬ NoStuck (runBlocks env blocks (n + k) cur σ c) := by
  intro fuel visited cur
  refine followChain_induct (P := fun x => ∃ k, ∀ n,
    runBlocks env blocks (n + k) x σ c = runBlocks env blocks n (followChain blocks conds fuel visited cur) σ c ∨
    ¬ NoStuck (runBlocks env blocks (n + k) x σ c)) ?_ fuel visited cur ⟨0, fun n => .inl rfl⟩
  intro x b t hb hchk ⟨k, hk⟩
  refine ⟨k + 1, fun n => ?_⟩
  rcases retargetable_step (env := env) (blocks := blocks) (c := c) hc hb hchk with ⟨_, hrun⟩ | hstuck
  · rw [← Nat.add_assoc, hrun]; exact hk n
  · exact .inr (hstuck (n + k))

/-- **C10-entry-kept.** `remove_new_orphaned_blocks` (repaired code) keeps the first block of every function. -/
theorem removeNewOrphanedBlocks_head (p : Program) (before after : List Tid) :
    (removeNewOrphanedBlocks p before after).subs.map (fun s => s.term.blocks.head?) =
      p.subs.map (fun s => s.term.blocks.head?) := by
  simp only [removeNewOrphanedBlocks, mapProgramSubs, List.map_map]
  apply List.map_congr_left
  intro s _
  simp only [Function.comp]
  split
  · next h => rw [h]
  · next e rest h => rw [h]; rfl

/-- **C10-removed-unreachable.** `remove_new_orphaned_blocks` removes by tid: a block it removes from a function
has the tid of a block of the retargeted program (the block itself, when block tids are unique) that has no
incoming control-flow edge: no jump, conditional jump or indirect-jump hint of its function targets it, no call
returns to it, and it is not a called function's first block. -/
theorem removeNewOrphanedBlocks_removed (p' : Program) (before : List Tid) (s : Term Sub) (hs : s ∈ p'.subs)
    (b : Term Blk) (hb : b ∈ s.term.blocks)
    (hgone : ∀ s' ∈ (removeNewOrphanedBlocks p' before (orphanTids p')).subs, s'.tid = s.tid → b ∉ s'.term.blocks) :
    ∃ s₀ ∈ p'.subs, ∃ b₀ ∈ s₀.term.blocks, b₀.tid = b.tid ∧ incomingEdges p' s₀ b₀ = [] := by
  -- the image of `s` does not contain `b`, so `b.tid` is a new orphan
  have himg := hgone (CF.remSub ((orphanTids p').filter (fun t => !(before.contains t))) s)
    (List.mem_map.mpr ⟨s, hs, rfl⟩) (by unfold CF.remSub; split <;> rfl)
  unfold CF.remSub at himg
  have horph : b.tid ∈ orphanTids p' := by
    cases hbl : s.term.blocks with
    | nil => rw [hbl] at hb; cases hb
    | cons e rest =>
      rw [hbl] at himg hb
      simp only [List.mem_cons, List.mem_filter, not_or, not_and] at himg
      rcases List.mem_cons.mp hb with rfl | hr
      · exact absurd rfl himg.1
      · have := himg.2 hr
        simp only [Bool.not_eq_true', Bool.not_eq_false] at this
        have hmem := List.contains_iff_mem.mp this
        exact (List.mem_filter.mp hmem).1
  simp only [orphanTids, List.mem_flatMap, List.mem_map, List.mem_filter] at horph
  obtain ⟨s₀, hs₀, b₀, ⟨hb₀, hinc⟩, htid⟩ := horph
  exact ⟨s₀, hs₀, b₀, hb₀, htid, by simpa using hinc⟩

end CweModel.C10
