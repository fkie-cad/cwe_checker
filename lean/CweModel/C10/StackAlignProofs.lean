/-
C10 pass 5 — the arithmetic behind `substitute_and_on_stackpointer`: if the stack pointer at function
entry is a multiple of `2^k` and the current stack pointer is `entry + j` (the journaled offset), then
`SP & -2^k = SP - (j - (j & -2^k))`, which is exactly what the pass substitutes, and the new journaled
offset `j & -2^k` again describes the stack pointer. From this, the expression that `substituteAnd` writes
evaluates like the masking expression it replaces (`substituteAnd_eval`).
-/
import CweModel.C10.RunLemmas
import CweModel.C12.Optimize
import CweModel.C10.StackAlignCases

namespace CweModel.C10
open CweModel CweModel.IR CweModel.Sem

/-- the alignment mask `-2^k` -/
def alignMask (k : Nat) : BitVec 64 := BitVec.allOnes 64 <<< k

theorem alignMask_16 : alignMask 4 = 0xfffffffffffffff0#64 := by decide
theorem alignMask_4 : alignMask 2 = 0xfffffffffffffffc#64 := by decide

theorem toNat_and_alignMask (x : BitVec 64) (k : Nat) :
    (x &&& alignMask k).toNat = x.toNat - x.toNat % 2 ^ k := by
  unfold alignMask
  rw [← BitVec.shiftLeft_ushiftRight]
  simp only [BitVec.toNat_shiftLeft, BitVec.toNat_ushiftRight, Nat.shiftLeft_eq, Nat.shiftRight_eq_div_pow]
  rw [← Nat.sub_eq_of_eq_add (Nat.div_add_mod' x.toNat (2 ^ k)).symm]
  exact Nat.mod_eq_of_lt (Nat.lt_of_le_of_lt (Nat.sub_le _ _) x.isLt)

theorem alignOffset_toNat (j : BitVec 64) (k : Nat) : (alignOffset j (alignMask k)).toNat = j.toNat % 2 ^ k := by
  unfold alignOffset
  rw [BitVec.toNat_sub_of_le (BitVec.le_def.mpr (by rw [toNat_and_alignMask]; exact Nat.sub_le _ _)),
    toNat_and_alignMask, Nat.sub_sub_self (Nat.mod_le _ _)]

theorem alignOffset_le (j : BitVec 64) (k : Nat) : alignOffset j (alignMask k) ≤ j :=
  BitVec.le_def.mpr (by rw [alignOffset_toNat]; exact Nat.mod_le _ _)

/-- **C10-stack-alignment.** Let the stack pointer at function entry `S` be a multiple of `2^k` (`k ≤ 64`)
and the current stack pointer be `S + j`. Then masking with `-2^k` subtracts `j - (j & -2^k)`:
`(S + j) & -2^k = (S + j) - (j - (j & -2^k))` — the expression `substitute_and_on_stackpointer` writes. -/
theorem align_eq_sub (S j : BitVec 64) (k : Nat) (hk : k ≤ 64) (hS : S.toNat % 2 ^ k = 0) :
    (S + j) &&& alignMask k = (S + j) - alignOffset j (alignMask k) := by
  apply BitVec.eq_of_toNat_eq
  have hT : (S + j).toNat % 2 ^ k = j.toNat % 2 ^ k := by
    rw [BitVec.toNat_add, Nat.mod_mod_of_dvd _ (Nat.pow_dvd_pow 2 hk), Nat.add_mod, hS, Nat.zero_add, Nat.mod_mod]
  have hr : alignOffset j (alignMask k) ≤ S + j :=
    BitVec.le_def.mpr (by rw [alignOffset_toNat, ← hT]; exact Nat.mod_le _ _)
  rw [toNat_and_alignMask, BitVec.toNat_sub_of_le hr, alignOffset_toNat, hT]

/-- the journaled offset after the substitution describes the new stack pointer -/
theorem align_journal (S j : BitVec 64) (m : BitVec 64) :
    (S + j) - alignOffset j m = S + (j - alignOffset j m) := by
  rw [BitVec.sub_eq_add_neg, BitVec.sub_eq_add_neg, BitVec.add_assoc]

/-- ... and is a multiple of `2^k`, so the stack pointer is aligned again -/
theorem align_journal_aligned (j : BitVec 64) (k : Nat) :
    (j - alignOffset j (alignMask k)).toNat % 2 ^ k = 0 := by
  rw [BitVec.toNat_sub_of_le (alignOffset_le j k), alignOffset_toNat]
  exact Nat.sub_mod_eq_zero_of_mod_eq (Nat.mod_mod _ _).symm

/-- non-vacuity: journaled offset `-0x28`, the mask subtracts 8 -/
example : alignOffset (0 - 0x28#64) (alignMask 4) = 8#64 := by decide

/-- An operation of the kind of `INT_ADD`, `INT_SUB`, `INT_AND` on the 8-byte stack pointer `a` and a constant
evaluates only for an 8-byte constant, to the 64-bit operation. -/
theorem eval_sp_const_iff {σ : State} {sp : Variable} {a : BitVec 64} (hreg : σ.getReg sp = ⟨64, a⟩)
    {op : BinOpType} {g : {w : Nat} → BitVec w → BitVec w → BitVec w}
    (hop : ∀ u v, Ref.binOp op u v = sameW u v fun p q => valV (g p q)) {b x : Nat} {v : Bv} :
    (eval σ (.BinOp op (.Var sp) (.Const b x)) = some v ↔ b = 8 ∧ v = ⟨64, g a (.ofNat 64 x)⟩) ∧
    (eval σ (.BinOp op (.Const b x) (.Var sp)) = some v ↔ b = 8 ∧ v = ⟨64, g (.ofNat 64 x) a⟩) := by
  have hl : eval σ (.BinOp op (.Var sp) (.Const b x)) =
      resToOpt (sameW ⟨64, a⟩ (Bv.ofBytes b x) fun p q => valV (g p q)) := by rw [eval_binOp, ← hop, ← hreg]; rfl
  have hr : eval σ (.BinOp op (.Const b x) (.Var sp)) =
      resToOpt (sameW (Bv.ofBytes b x) ⟨64, a⟩ fun p q => valV (g p q)) := by rw [eval_binOp, ← hop, ← hreg]; rfl
  rw [hl, hr, resToOpt_some, resToOpt_some]
  by_cases hb : b = 8
  · subst hb
    rw [show Bv.ofBytes 8 x = ⟨64, .ofNat 64 x⟩ from rfl, sameW_mk, sameW_mk]
    simp only [valV, Res.val.injEq, true_and, eq_comm]
  · have hw : (⟨64, a⟩ : Bv).w ≠ (Bv.ofBytes b x).w := by simp only [Bv.ofBytes_w]; omega
    simp only [sameW, dif_neg hw, dif_neg (Ne.symm hw), hb, false_and, reduceCtorEq, and_self]

theorem constToI64_8 (x : Nat) : constToI64 8 x = BitVec.ofNat 64 x := by
  simp only [constToI64, Nat.lt_irrefl, if_false]

theorem ofNat_i64ToConst_8 (o : BitVec 64) : BitVec.ofNat 64 (i64ToConst 8 o) = o := by
  apply BitVec.eq_of_toNat_eq
  simp [i64ToConst, Nat.mod_eq_of_lt o.isLt]

theorem mask_of_negConst {x : Nat} {ea : BitVec 64} (h : negConstToI64 8 x = ea) : BitVec.ofNat 64 x = -ea := by
  simp only [negConstToI64, Nat.lt_irrefl, if_false] at h
  rw [← h, BitVec.neg_neg]

/-- `substituteAnd_eval` below, for every expected alignment `ea = 2^k`, `k ≤ 64`. -/
theorem substituteAnd_eval_pow {σ : State} {sp : Variable} {S j : BitVec 64} {k : Nat} (hk : k ≤ 64) {ea : BitVec 64}
    (hea : -ea = alignMask k) (hS : S.toNat % 2 ^ k = 0) (hreg : σ.getReg sp = ⟨64, S + j⟩) (e : Expression)
    (hsub : (substituteAnd sp e ea j).2.1 = []) :
    eval σ (substituteAnd sp e ea j).1 = eval σ e := by
  rcases substituteAnd_cases sp e ea j with ⟨l, r, b, x, rfl, hp, hneg, h⟩ | ⟨msg, h⟩
  · rw [h]
    -- both expressions evaluate to `v` iff `b = 8` and `v` is the masked stack pointer
    apply Option.ext
    intro v
    have hand := eval_sp_const_iff hreg (op := .IntAnd) (g := fun p q => p &&& q) (fun _ _ => rfl) (b := b) (x := x)
      (v := v)
    rw [(eval_sp_const_iff hreg (op := .IntSub) (g := Ref.sub) (fun _ _ => rfl)).1]
    have hmask : b = 8 → ((S + j) - BitVec.ofNat 64 (i64ToConst b (alignOffset j (constToI64 b x))) =
        (S + j) &&& BitVec.ofNat 64 x) := by
      rintro rfl
      rw [ofNat_i64ToConst_8, constToI64_8, mask_of_negConst hneg, hea, align_eq_sub S j k hk hS]
    rcases spConstPair_spec hp with ⟨rfl, rfl⟩ | ⟨rfl, rfl⟩
    · rw [hand.1, ← C01.sub_eq]
      exact and_congr_right fun hb => by rw [hmask hb]
    · rw [hand.2, ← C01.sub_eq, BitVec.and_comm]
      exact and_congr_right fun hb => by rw [hmask hb]
  · rw [h] at hsub; cases hsub

/-- **C10-stack-alignment-model.** In a state in which the 8-byte stack pointer register holds `S + j` with
`S` (the value at function entry) a multiple of 16 and `j` the journaled offset, the expression the pass
writes evaluates exactly like the masking expression it replaces. -/
theorem substituteAnd_eval {σ : State} {sp : Variable} {S j : BitVec 64}
    (hS : S.toNat % 2 ^ 4 = 0) (hreg : σ.getReg sp = ⟨64, S + j⟩) (e : Expression)
    (hsub : (substituteAnd sp e 16#64 j).2.1 = []) :
    eval σ (substituteAnd sp e 16#64 j).1 = eval σ e :=
  substituteAnd_eval_pow (k := 4) (by decide) (by decide) hS hreg e hsub

end CweModel.C10
