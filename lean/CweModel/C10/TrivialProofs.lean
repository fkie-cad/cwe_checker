/-
C10 pass 1 — proofs about `substTrivial` (model of `Expression::substitute_trivial_operations`):
on every well-sized expression it keeps the size, stays well-sized, and — in every well-formed state in
which the expression evaluates under the boolean discipline — evaluates to the same value.
This holds of every rewrite rule (`SubstRule.sound`) and is kept by the operations around the rewritten operands.
-/
import CweModel.C10.BvLemmas
import CweModel.C12.SizePreserving

namespace CweModel.C10
open CweModel CweModel.IR CweModel.Sem CweModel.C12

/-- `e'` may replace the well-sized expression `e` in state `σ` -/
structure Sound (σ : State) (e e' : Expression) : Prop where
  ws : WellSized e'
  size : e'.bytesize = e.bytesize
  sem : ∀ v, boolOk σ e = true → eval σ e = some v → eval σ e' = some v ∧ boolOk σ e' = true

theorem Sound.refl {σ : State} {e : Expression} (hw : WellSized e) : Sound σ e e :=
  ⟨hw, rfl, fun _ hb hv => ⟨hv, hb⟩⟩

theorem Sound.trans {σ : State} {e e' e'' : Expression} (h₁ : Sound σ e e') (h₂ : Sound σ e' e'') : Sound σ e e'' :=
  ⟨h₂.ws, h₂.size.trans h₁.size, fun v hb hv =>
    let ⟨hv', hb'⟩ := h₁.sem v hb hv
    h₂.sem v hb' hv'⟩

theorem wellSized_pos : ∀ {e : Expression}, WellSized e → 0 < e.bytesize := by
  intro e
  induction e with
  | Var | Const | Unknown => exact id
  | Cast | Subpiece => exact fun h => h.2.1
  | BinOp op l r ihl =>
    intro h
    have hl := ihl h.1
    cases op <;> first | exact hl | exact Nat.one_pos | exact Nat.add_pos_left hl _
  | UnOp op a ih =>
    intro h
    cases op <;> first | exact ih h.1 | exact Nat.one_pos

theorem boolOk_binOp {σ : State} {op : BinOpType} {l r : Expression} :
    boolOk σ (.BinOp op l r) = true ↔
      boolOk σ l = true ∧ boolOk σ r = true ∧
        (isBoolOp op = true → isBoolVal (eval σ l) = true ∧ isBoolVal (eval σ r) = true) := by
  simp only [boolOk, Bool.and_eq_true, and_assoc]
  cases isBoolOp op <;> simp

theorem boolOk_unOp {σ : State} {op : UnOpType} {a : Expression} : boolOk σ (.UnOp op a) = boolOk σ a := rfl
theorem boolOk_cast {σ : State} {op : CastOpType} {s : Nat} {a : Expression} :
    boolOk σ (.Cast op s a) = boolOk σ a := rfl
theorem boolOk_subpiece {σ : State} {lb s : Nat} {a : Expression} :
    boolOk σ (.Subpiece lb s a) = boolOk σ a := rfl
theorem boolOk_const {σ : State} {b x : Nat} : boolOk σ (.Const b x) = true := rfl

theorem Sound.binOp {σ : State} {op : BinOpType} {l l' r r' : Expression}
    (hw : WellSized (.BinOp op l r)) (hl : Sound σ l l') (hr : Sound σ r r') :
    Sound σ (.BinOp op l r) (.BinOp op l' r') := by
  refine ⟨⟨hl.ws, hr.ws, ?_⟩, C12.bytesize_binOp_congr hl.size hr.size, fun v hb hv => ?_⟩
  · rw [hl.size, hr.size]; exact hw.2.2
  · obtain ⟨hbl, hbr, hbo⟩ := boolOk_binOp.mp hb
    obtain ⟨a, b, ha, hb', hab⟩ := eval_binOp_some.mp hv
    obtain ⟨ha', hbl'⟩ := hl.sem a hbl ha
    obtain ⟨hb'', hbr'⟩ := hr.sem b hbr hb'
    refine ⟨eval_binOp_some.mpr ⟨a, b, ha', hb'', hab⟩, boolOk_binOp.mpr ⟨hbl', hbr', ?_⟩⟩
    rw [ha', hb'', ← ha, ← hb']; exact hbo

theorem Sound.unOp {σ : State} {op : UnOpType} {a a' : Expression}
    (hw : WellSized (.UnOp op a)) (ha : Sound σ a a') : Sound σ (.UnOp op a) (.UnOp op a') := by
  refine ⟨⟨ha.ws, ?_⟩, ?_, fun v hb hv => ?_⟩
  · rw [ha.size]; exact hw.2
  · simp only [Expression.bytesize, ha.size]
  · obtain ⟨x, hx, hxv⟩ := eval_unOp_some.mp hv
    obtain ⟨hx', hb'⟩ := ha.sem x hb hx
    exact ⟨eval_unOp_some.mpr ⟨x, hx', hxv⟩, hb'⟩

theorem Sound.cast {σ : State} {op : CastOpType} {s : Nat} {a a' : Expression}
    (hw : WellSized (.Cast op s a)) (ha : Sound σ a a') : Sound σ (.Cast op s a) (.Cast op s a') := by
  refine ⟨⟨ha.ws, hw.2.1, ?_⟩, rfl, fun v hb hv => ?_⟩
  · rw [ha.size]; exact hw.2.2
  · obtain ⟨x, hx, hxv⟩ := eval_cast_some.mp hv
    obtain ⟨hx', hb'⟩ := ha.sem x hb hx
    exact ⟨eval_cast_some.mpr ⟨x, hx', hxv⟩, hb'⟩

theorem Sound.subpiece {σ : State} {lb s : Nat} {a a' : Expression}
    (hw : WellSized (.Subpiece lb s a)) (ha : Sound σ a a') : Sound σ (.Subpiece lb s a) (.Subpiece lb s a') := by
  refine ⟨⟨ha.ws, hw.2.1, ?_⟩, rfl, fun v hb hv => ?_⟩
  · rw [ha.size]; exact hw.2.2
  · obtain ⟨x, hx, hxv⟩ := eval_subpiece_some.mp hv
    obtain ⟨hx', hb'⟩ := ha.sem x hb hx
    exact ⟨eval_subpiece_some.mpr ⟨x, hx', hxv⟩, hb'⟩

theorem ref_bool_width {op : BinOpType} (hop : binClass op = .bool) {a b r : Bv}
    (h : Ref.binOp op a b = .val r) : a.w = b.w :=
  ref_same_width (by rw [hop]; decide) h

theorem pairRule_classes {outer opA opB newop : BinOpType} (h : PairRule outer opA opB newop) :
    binClass opA = .same ∧ binClass newop = .same ∧ isBoolOp opA = false ∧ isBoolOp newop = false ∧
    (Expression.BinOp outer (.Var default) (.Var default)).bytesize = 1 ∧
    (Expression.BinOp newop (.Var default) (.Var default)).bytesize = 1 := by
  cases h <;> exact ⟨rfl, rfl, rfl, rfl, rfl, rfl⟩

theorem binSizesOk_comm {op : BinOpType} (hop : commOp op = true) {l r : Nat} (h : binSizesOk op l r) :
    l = r ∧ binSizesOk op r l := by
  cases op <;> cases hop
  case BoolAnd | BoolOr | BoolXOr => exact ⟨h.1.trans h.2.symm, h.2, h.1⟩
  all_goals exact ⟨h, Eq.symm h⟩

theorem Sound.comm {σ : State} {op : BinOpType} {l r : Expression} (hop : commOp op = true)
    (hw : WellSized (.BinOp op l r)) : Sound σ (.BinOp op l r) (.BinOp op r l) := by
  obtain ⟨hs, hs'⟩ := binSizesOk_comm hop hw.2.2
  refine ⟨⟨hw.2.1, hw.1, hs'⟩, C12.bytesize_binOp_congr hs.symm hs, fun v hb hv => ⟨?_, ?_⟩⟩
  · obtain ⟨a, b, ha, hb, hab⟩ := eval_binOp_some.mp hv
    exact eval_binOp_some.mpr ⟨b, a, hb, ha, ref_binOp_comm hop a b ▸ hab⟩
  · obtain ⟨h1, h2, h3⟩ := boolOk_binOp.mp hb
    exact boolOk_binOp.mpr ⟨h2, h1, fun ho => (h3 ho).symm⟩

theorem eval_const (σ : State) (b x : Nat) : eval σ (.Const b x) = some (Bv.ofBytes b x) := rfl

theorem ofBytes_toNat (b x : Nat) : (Bv.ofBytes b x).toNat = cval b x := Bv.ofBytes_toNat b x

theorem zero_of_isZeroC {b x : Nat} (h : isZeroC b x = true) : (Bv.ofBytes b x).toNat = 0 := by
  rw [ofBytes_toNat]; simpa [isZeroC] using h
theorem one_of_isOneC {b x : Nat} (h : isOneC b x = true) : (Bv.ofBytes b x).toNat = 1 := by
  rw [ofBytes_toNat]; simpa [isOneC] using h
theorem ones_of_isAllOnesC {b x : Nat} (h : isAllOnesC b x = true) :
    (Bv.ofBytes b x).toNat = 2 ^ (Bv.ofBytes b x).w - 1 := by
  rw [ofBytes_toNat, Bv.ofBytes_w]; simpa [isAllOnesC] using h

theorem eval_const_binOp {σ : State} {op : BinOpType} {b x : Nat} {o : Expression} {v : Bv}
    (hb : boolOk σ (.BinOp op (.Const b x) o) = true) (hv : eval σ (.BinOp op (.Const b x) o) = some v) :
    ∃ a, eval σ o = some a ∧ Ref.binOp op (Bv.ofBytes b x) a = .val v ∧ boolOk σ o = true ∧
      (isBoolOp op = true → a.toNat ≤ 1) := by
  obtain ⟨_, a, hz, ha, h⟩ := eval_binOp_some.mp hv
  cases hz
  obtain ⟨_, hbo, hbv⟩ := boolOk_binOp.mp hb
  refine ⟨a, ha, h, hbo, fun hop => ?_⟩
  simpa [ha, isBoolVal] using (hbv hop).2

theorem foldConst_spec {op : BinOpType} (hop : op = .IntAdd ∨ op = .IntSub) {b₁ x₁ b₂ x₂ : Nat} {c : Expression}
    (h : foldConst op b₁ x₁ b₂ x₂ = some c) :
    b₂ = b₁ ∧ ∃ n, c = .Const b₁ n ∧ Ref.binOp op (Bv.ofBytes b₁ x₁) (Bv.ofBytes b₂ x₂) = .val (Bv.ofBytes b₁ n) := by
  unfold foldConst at h
  split at h
  · next r hr =>
    cases h
    have hw : (Bv.ofBytes b₁ x₁).w = (Bv.ofBytes b₂ x₂).w := by
      rcases hop with rfl | rfl <;> simp only [Impl.binOp] at hr <;> exact sameW_val hr
    rw [C01.binOp_eq_ref op _ _ (by rcases hop with rfl | rfl <;> exact hw)] at hr
    have hrw : r.w = 8 * b₁ := (ref_binOp_w hr).trans (by rcases hop with rfl | rfl <;> rfl)
    exact ⟨by simp only [Bv.ofBytes_w] at hw; omega, r.toNat, by rw [Bv.bytes_of_w hrw],
      by rw [Bv.ofBytes_toNat_self hrw, hr]⟩
  · cases h

theorem eval_same_operands {σ : State} {op : BinOpType} {l : Expression} {v : Bv}
    (hv : eval σ (.BinOp op l l) = some v) : ∃ a, eval σ l = some a ∧ Ref.binOp op a a = .val v := by
  obtain ⟨a, b, ha, hb, hab⟩ := eval_binOp_some.mp hv
  cases ha.symm.trans hb
  exact ⟨a, ha, hab⟩

theorem sound_constChain {σ : State} {op : BinOpType} (hop : op = .IntAdd ∨ op = .IntSub) {a c : Expression}
    {bm xm br xr : Nat} (hf : foldConst .IntAdd bm xm br xr = some c)
    (hw : WellSized (.BinOp op (.BinOp op a (.Const bm xm)) (.Const br xr))) :
    Sound σ (.BinOp op (.BinOp op a (.Const bm xm)) (.Const br xr)) (.BinOp op a c) := by
  obtain ⟨_, n, rfl, hr⟩ := foldConst_spec (.inl rfl) hf
  refine ⟨by rcases hop with rfl | rfl <;> exact hw.1, by rcases hop with rfl | rfl <;> rfl, fun v hb hv => ?_⟩
  obtain ⟨t, _, ht, hz, h2⟩ := eval_binOp_some.mp hv
  cases hz
  obtain ⟨va, _, ha, hz, h1⟩ := eval_binOp_some.mp ht
  cases hz
  exact ⟨eval_binOp_some.mpr ⟨va, _, ha, rfl, ref_assoc hop h1 h2 hr⟩,
    boolOk_binOp.mpr ⟨(boolOk_binOp.mp (boolOk_binOp.mp hb).1).1, rfl, by rcases hop with rfl | rfl <;> nofun⟩⟩

theorem sound_pair {σ : State} {outer opA opB newop : BinOpType} (hr : PairRule outer opA opB newop)
    {a b : Expression} (hw : WellSized (.BinOp outer (.BinOp opA a b) (.BinOp opB a b))) :
    Sound σ (.BinOp outer (.BinOp opA a b) (.BinOp opB a b)) (.BinOp newop a b) := by
  refine ⟨by cases hr <;> exact hw.1, by cases hr <;> rfl, fun v hb hv => ?_⟩
  obtain ⟨p, q, hp, hq, hO⟩ := eval_binOp_some.mp hv
  obtain ⟨va, vb, ha, hb', hA⟩ := eval_binOp_some.mp hp
  obtain ⟨va', vb', ha', hb'', hB⟩ := eval_binOp_some.mp hq
  cases ha.symm.trans ha'
  cases hb'.symm.trans hb''
  obtain ⟨hba, hbb, _⟩ := boolOk_binOp.mp (boolOk_binOp.mp hb).1
  exact ⟨eval_binOp_some.mpr ⟨va, vb, ha, hb', ref_pair_rule hr hA hB hO⟩,
    boolOk_binOp.mpr ⟨hba, hbb, by cases hr <;> nofun⟩⟩

theorem SubstRule.sound {σ : State} (hσ : StateWF σ) {e e' : Expression} (h : SubstRule e e') (hw : WellSized e) :
    Sound σ e e' := by
  induction h with
  | swap hop _ ih => exact (Sound.comm hop hw).trans (ih (Sound.comm (σ := σ) hop hw).ws)
  | idem hop =>
    refine ⟨hw.1, by rcases hop with rfl | rfl | rfl | rfl <;> first | rfl | exact hw.2.2.1, fun v hb hv => ?_⟩
    obtain ⟨a, ha, h⟩ := eval_same_operands hv
    cases (ref_idem hop a).symm.trans h
    exact ⟨ha, (boolOk_binOp.mp hb).1⟩
  | xorSelf hop =>
    refine ⟨wellSized_pos hw.1, by rcases hop with rfl | rfl <;> first | rfl | exact hw.2.2.1, fun v hb hv => ?_⟩
    obtain ⟨a, ha, h⟩ := eval_same_operands hv
    cases (ref_xor_self hop a).symm.trans h
    exact ⟨by rw [eval_const, eval_width hσ hw.1 ha]; rfl, rfl⟩
  | cmpSelfTrue hop =>
    refine ⟨Nat.one_pos, by rcases hop with rfl | rfl | rfl <;> rfl, fun v hb hv => ?_⟩
    obtain ⟨a, ha, h⟩ := eval_same_operands hv
    cases (ref_cmp_self_true hop a).symm.trans h
    exact ⟨rfl, rfl⟩
  | cmpSelfFalse hop =>
    refine ⟨Nat.one_pos, by rcases hop with rfl | rfl | rfl <;> rfl, fun v hb hv => ?_⟩
    obtain ⟨a, ha, h⟩ := eval_same_operands hv
    cases (ref_cmp_self_false hop a).symm.trans h
    exact ⟨rfl, rfl⟩
  | orXorZero hop hg =>
    refine ⟨hw.2.1, by rcases hop with rfl | rfl | rfl | rfl <;> first | exact hw.2.2.symm | exact hw.2.2.2,
      fun v hb hv => ?_⟩
    obtain ⟨a, ha, h, hbo, _⟩ := eval_const_binOp hb hv
    cases ref_orxor_zero hop (zero_of_isZeroC hg) h
    exact ⟨ha, hbo⟩
  | andOnes hop hg =>
    refine ⟨hw.2.1, by rcases hop with rfl | rfl <;> first | exact hw.2.2.symm | exact hw.2.2.2, fun v hb hv => ?_⟩
    obtain ⟨a, ha, h, hbo, _⟩ := eval_const_binOp hb hv
    cases ref_and_ones hop (ones_of_isAllOnesC hg) h
    exact ⟨ha, hbo⟩
  | boolAndZero hg =>
    refine ⟨hw.1, hw.2.2.1, fun v hb hv => ?_⟩
    obtain ⟨a, ha, h, _⟩ := eval_const_binOp hb hv
    cases ref_booland_zero (zero_of_isZeroC hg) h
    exact ⟨rfl, rfl⟩
  | boolAndOne hg =>
    refine ⟨hw.2.1, hw.2.2.2, fun v hb hv => ?_⟩
    obtain ⟨a, ha, h, hbo, hbv⟩ := eval_const_binOp hb hv
    cases (ref_bool_one (one_of_isOneC hg) (hbv rfl)).1 h
    exact ⟨ha, hbo⟩
  | boolOrOne hg =>
    refine ⟨hw.1, hw.2.2.1, fun v hb hv => ?_⟩
    obtain ⟨a, ha, h, hbo, hbv⟩ := eval_const_binOp hb hv
    cases (ref_bool_one (one_of_isOneC hg) (hbv rfl)).2.1 h
    exact ⟨rfl, rfl⟩
  | boolXorOne hg =>
    refine ⟨⟨hw.2.1, hw.2.2.2⟩, hw.2.2.2, fun v hb hv => ?_⟩
    obtain ⟨a, ha, h, hbo, hbv⟩ := eval_const_binOp hb hv
    have hw8 : a.w = 8 := by rw [eval_width hσ hw.2.1 ha, hw.2.2.2]
    exact ⟨eval_unOp_some.mpr ⟨a, ha, (ref_bool_one (one_of_isOneC hg) (hbv rfl)).2.2 hw8 h⟩, hbo⟩
  | cmpZeroSub hop hg =>
    refine ⟨by rcases hop with rfl | rfl <;> exact hw.2.1, by rcases hop with rfl | rfl <;> rfl, fun v hb hv => ?_⟩
    obtain ⟨d, hd, h, hbo, _⟩ := eval_const_binOp hb hv
    obtain ⟨va, vc, ha, hc, hs⟩ := eval_binOp_some.mp hd
    obtain ⟨hba, hbc, _⟩ := boolOk_binOp.mp hbo
    exact ⟨eval_binOp_some.mpr ⟨va, vc, ha, hc, ref_cmp_zero_sub hop (zero_of_isZeroC hg) hs h⟩,
      boolOk_binOp.mpr ⟨hba, hbc, by rcases hop with rfl | rfl <;> nofun⟩⟩
  | pair hr hcd =>
    rcases hcd with ⟨rfl, rfl⟩ | ⟨rfl, rfl⟩
    · exact sound_pair hr hw
    · have hc := Sound.binOp (σ := σ) hw (.refl hw.1) (.comm (by cases hr <;> rfl) hw.2.1)
      exact hc.trans (sound_pair hr hc.ws)
  | lessIdiom hop hg =>
    refine ⟨?_, by rcases hop with rfl | rfl <;> rfl, fun v hb hv => ?_⟩
    · rcases hop with rfl | rfl
      · exact hw.2.1
      · exact ⟨hw.2.1.2.1, hw.2.1.1, Eq.symm hw.2.1.2.2⟩
    · obtain ⟨p, q, hp, hq, hO⟩ := eval_binOp_some.mp hv
      obtain ⟨d, _, hd, hz, hl⟩ := eval_binOp_some.mp hp
      cases hz
      obtain ⟨va, vb, ha, hb', hs⟩ := eval_binOp_some.mp hd
      obtain ⟨va', vb', ha', hb'', hq⟩ := eval_binOp_some.mp hq
      cases ha.symm.trans ha'
      cases hb'.symm.trans hb''
      obtain ⟨hba, hbb, _⟩ := boolOk_binOp.mp (boolOk_binOp.mp hb).2.1
      have hpos : 0 < va.w := by
        rw [eval_width hσ hw.2.1.1 ha]; exact Nat.mul_pos (by decide) (wellSized_pos hw.2.1.1)
      have idiom := ref_sless_idiom hpos (zero_of_isZeroC hg) hs hl hq
      rcases hop with rfl | rfl
      · exact ⟨eval_binOp_some.mpr ⟨va, vb, ha, hb', idiom.1 hO⟩, boolOk_binOp.mpr ⟨hba, hbb, nofun⟩⟩
      · exact ⟨eval_binOp_some.mpr ⟨vb, va, hb', ha, idiom.2 hO⟩, boolOk_binOp.mpr ⟨hbb, hba, nofun⟩⟩
  | foldConsts hop hf =>
    obtain ⟨_, n, rfl, hr⟩ := foldConst_spec hop hf
    refine ⟨hw.1, by rcases hop with rfl | rfl <;> rfl, fun v hb hv => ?_⟩
    obtain ⟨_, ha, h, _⟩ := eval_const_binOp hb hv
    cases ha
    exact ⟨congrArg some (Res.val.inj (hr.symm.trans h)), rfl⟩
  | constChain hop hf => exact sound_constChain hop hf hw
  | addConstAdd hf =>
    have hc := Sound.binOp (σ := σ) hw (.comm rfl hw.1) (.refl hw.2.1)
    exact hc.trans (sound_constChain (.inl rfl) hf hc.ws)
  | subpieceFull =>
    refine ⟨hw.1, rfl, fun v hb hv => ?_⟩
    obtain ⟨x, hx, h⟩ := eval_subpiece_some.mp hv
    cases ref_subpiece_full (eval_width hσ hw.1 hx) h
    exact ⟨hx, hb⟩
  | subpieceExt hop =>
    refine ⟨hw.1.1, rfl, fun v hb hv => ?_⟩
    obtain ⟨y, hy, h⟩ := eval_subpiece_some.mp hv
    obtain ⟨x, hx, hc⟩ := eval_cast_some.mp hy
    cases ref_subpiece_ext hop (eval_width hσ hw.1.1 hx) hc h
    exact ⟨hx, hb⟩
  | subpiecePieceHigh =>
    refine ⟨hw.1.1, rfl, fun v hb hv => ?_⟩
    obtain ⟨y, hy, h⟩ := eval_subpiece_some.mp hv
    obtain ⟨vl, vr, hl, hr, hp⟩ := eval_binOp_some.mp hy
    cases ref_subpiece_piece_high hp h (eval_width hσ hw.1.2.1 hr).symm (eval_width hσ hw.1.1 hl).symm
    exact ⟨hl, (boolOk_binOp.mp hb).1⟩
  | subpiecePieceLow =>
    refine ⟨hw.1.2.1, rfl, fun v hb hv => ?_⟩
    obtain ⟨y, hy, h⟩ := eval_subpiece_some.mp hv
    obtain ⟨vl, vr, hl, hr, hp⟩ := eval_binOp_some.mp hy
    cases ref_subpiece_piece_low hp h (eval_width hσ hw.1.2.1 hr).symm
    exact ⟨hr, (boolOk_binOp.mp hb).2.1⟩
  | subpieceSubpiece =>
    obtain ⟨⟨hwa, hm, hile⟩, hs, hle⟩ := hw
    refine ⟨⟨hwa, hs, by simp only [Expression.bytesize] at hle; omega⟩, rfl, fun v hb hv => ?_⟩
    obtain ⟨y, hy, h⟩ := eval_subpiece_some.mp hv
    obtain ⟨x, hx, hxy⟩ := eval_subpiece_some.mp hy
    exact ⟨eval_subpiece_some.mpr ⟨x, hx, ref_subpiece_subpiece hxy h hle hs
      (by rw [eval_width hσ hwa hx]; omega)⟩, hb⟩
  | castSame hop =>
    refine ⟨hw.1, rfl, fun v hb hv => ?_⟩
    obtain ⟨x, hx, h⟩ := eval_cast_some.mp hv
    cases ref_cast_same hop.symm (eval_width hσ hw.1 hx) h
    exact ⟨hx, hb⟩
  | castCast hop =>
    obtain ⟨⟨hwa, hm, hci⟩, hs, hcs⟩ := hw
    refine ⟨⟨hwa, hs, ?_⟩, rfl, fun v hb hv => ?_⟩
    · rcases hop with rfl | rfl <;> exact Nat.le_trans hci hcs
    · obtain ⟨y, hy, h⟩ := eval_cast_some.mp hv
      obtain ⟨x, hx, hxy⟩ := eval_cast_some.mp hy
      exact ⟨eval_cast_some.mpr ⟨x, hx, ref_cast_cast hop.symm hxy h⟩, hb⟩
  | unUn hop =>
    refine ⟨hw.1.1, by rcases hop with rfl | rfl | rfl <;> rfl, fun v hb hv => ?_⟩
    obtain ⟨y, hy, h⟩ := eval_unOp_some.mp hv
    obtain ⟨x, hx, hxy⟩ := eval_unOp_some.mp hy
    rcases hop with rfl | rfl | rfl
    · cases ref_unop_unop (.inl rfl) hxy h; exact ⟨hx, hb⟩
    · cases ref_boolneg_boolneg (by rw [eval_width hσ hw.1.1 hx, hw.1.2]) hxy h; exact ⟨hx, hb⟩
    · cases ref_unop_unop (.inr rfl) hxy h; exact ⟨hx, hb⟩
  | negCmp hn =>
    refine ⟨by cases hn <;> exact ⟨hw.1.2.1, hw.1.1, Eq.symm hw.1.2.2⟩, by cases hn <;> rfl, fun v hb hv => ?_⟩
    obtain ⟨p, hp, h⟩ := eval_unOp_some.mp hv
    obtain ⟨a, b, ha, hb', hab⟩ := eval_binOp_some.mp hp
    obtain ⟨hba, hbb, _⟩ := boolOk_binOp.mp hb
    exact ⟨eval_binOp_some.mpr ⟨b, a, hb', ha, ref_boolneg_cmp hn hab h⟩,
      boolOk_binOp.mpr ⟨hbb, hba, by cases hn <;> nofun⟩⟩

theorem sound_of_rule {σ : State} (hσ : StateWF σ) {e e' : Expression} (h : e' = e ∨ SubstRule e e')
    (hw : WellSized e) : Sound σ e e' := by
  rcases h with rfl | h
  · exact .refl hw
  · exact h.sound hσ hw

theorem sound_trivialBinops {σ : State} (hσ : StateWF σ) {e : Expression} (hw : WellSized e) :
    Sound σ e (substTrivialBinops e) := by
  have h1 := sound_of_rule hσ (substBinopForLhsEqualRhs_rule e) hw
  have h2 := sound_of_rule hσ (substAndXorOrWithConstant_rule _) h1.ws
  have h3 := sound_of_rule hσ (substEquivalentComparisonOps_rule _) h2.ws
  have h4 := sound_of_rule hσ (substComplicatedALessThanB_rule _) h3.ws
  exact h1.trans (h2.trans (h3.trans (h4.trans (sound_of_rule hσ (substArithmeticsWithConstants_rule _) h4.ws))))

theorem sound_substTrivial {σ : State} (hσ : StateWF σ) :
    ∀ {e : Expression}, WellSized e → Sound σ e (substTrivial e) := by
  intro e
  induction e with
  | Var | Const | Unknown => exact .refl
  | BinOp op l r ihl ihr =>
    intro hw
    have h1 := Sound.binOp hw (ihl hw.1) (ihr hw.2.1)
    exact h1.trans (sound_trivialBinops hσ h1.ws)
  | UnOp op a ih =>
    intro hw
    have h1 := Sound.unOp hw (ih hw.1)
    exact h1.trans (sound_of_rule hσ (substUnOp_rule op _) h1.ws)
  | Cast op s a ih =>
    intro hw
    have h1 := Sound.cast hw (ih hw.1)
    exact h1.trans (sound_of_rule hσ (substCast_rule op s _) h1.ws)
  | Subpiece lb s a ih =>
    intro hw
    have h1 := Sound.subpiece hw (ih hw.1)
    exact h1.trans (sound_of_rule hσ (substSubpiece_rule lb s _) h1.ws)

/-- **C10-trivial-eval.** For every well-sized expression and every machine state (registers hold values
of their sizes) in which the expression evaluates under the boolean discipline, the result of
`substitute_trivial_operations` evaluates to the same value (and keeps the discipline). -/
theorem substTrivial_eval {σ : State} (hσ : StateWF σ) {e : Expression} (hw : WellSized e) {v : Bv}
    (hb : boolOk σ e = true) (hv : eval σ e = some v) :
    eval σ (substTrivial e) = some v ∧ boolOk σ (substTrivial e) = true :=
  (sound_substTrivial hσ hw).sem v hb hv

/-- **C10-trivial-size / C12.** `substitute_trivial_operations` keeps the size of a well-sized expression -/
theorem substTrivial_bytesize {e : Expression} (hw : WellSized e) : (substTrivial e).bytesize = e.bytesize :=
  (sound_substTrivial (stateWF_default 0) hw).size

/-- **C12-trivial.** `substitute_trivial_operations` maps well-sized expressions to well-sized expressions -/
theorem substTrivial_wellSized {e : Expression} (hw : WellSized e) : WellSized (substTrivial e) :=
  (sound_substTrivial (stateWF_default 0) hw).ws

end CweModel.C10
