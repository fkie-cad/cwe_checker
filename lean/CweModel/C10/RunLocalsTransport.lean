/-
C10 — H2 (`RunLocals`) at the level of blocks, for the three passes that keep the machine states: merging of
assignments, insertion of the propagation tables, trivial expression substitution. Each statement is the third
component of `runBlocks_refines` (SameState.lean) for one instance of `BlockRef`. The composition (Props.lean) does
not go through them: it chains the same instances function by function, through `SubRefines`.
-/
import CweModel.C10.RunPropagation

namespace CweModel.C10
open CweModel CweModel.IR CweModel.Sem CweModel.C12

/-- **C10-H2-trivial.** Trivial expression substitution keeps H2 along runs. -/
theorem substTrivial_runLocals (env : Env) (phys : VarSet) {ptr : Nat} (blocks : List (Term Blk))
    (hws : ∀ b ∈ blocks, WellSizedBlk ptr b.term) (fuel : Nat) (t : Tid) (σ : State) (c : Nat) (D : List Variable)
    (hσ : StateWF σ) (hok : RunOk env blocks fuel t σ c) (hrl : RunLocals env phys blocks fuel t σ c D)
    (hns : NoStuck (runBlocks env blocks fuel t σ c)) :
    RunLocals env phys (blocks.map (mapBlkExprs substTrivial)) fuel t σ c D :=
  (runBlocks_refines env phys False _ _ _ _ (find?_isSome_mapBlk (mapBlkExprs substTrivial) (fun _ => rfl) blocks)
    (substTrivial_blockRef env phys blocks hws) fuel t σ c ⟨hσ, hok⟩ hns).2.2 D D (List.Subset.refl _) trivial hrl

/-- **C10-H2-merge.** `merge_def_assignments_to_same_var` keeps H2 along runs. -/
theorem mergeAssignments_runLocals (env : Env) (phys : VarSet) (blocks : List (Term Blk)) (fuel : Nat) (t : Tid)
    (σ : State) (c : Nat) (D : List Variable) (hrl : RunLocals env phys blocks fuel t σ c D)
    (hns : NoStuck (runBlocks env blocks fuel t σ c)) :
    RunLocals env phys (blocks.map mergeDefAssignmentsToSameVar) fuel t σ c D :=
  (runBlocks_refines env phys False _ _ _ _ (find?_isSome_mapBlk mergeDefAssignmentsToSameVar (fun _ => rfl) blocks)
    (mergeAssignments_blockRef env phys False blocks) fuel t σ c False.elim hns).2.2 D D (List.Subset.refl _) trivial hrl

/-- **C10-H2-propagation.** The block-local insertion of post-fixpoint tables keeps H2 along runs: at the start
of every block reached by the run, every entry of the block's table reads only physical registers and variables
assigned since the last call. -/
theorem propagateWith_runLocals (env : Env) (phys : VarSet) {ptr : Nat} (p₁ : Program) (m : TableMap) (hm : AllWS m)
    (s : Term Sub) (hws : WellSizedSub ptr s.term) (hcl : TablesClosedAt p₁ m s) (hcfg : subCfgOk p₁ s = true)
    (fuel : Nat) (t : Tid) (σ : State) (c : Nat) (D : List Variable)
    (hinv : PropInv env m s.term.blocks fuel t σ c)
    (hJ : ∀ b, s.term.blocks.find? (fun b => b.tid == t) = some b → ∀ tb, m.get b.tid = some tb → TableLocal phys D tb)
    (hrl : RunLocals env phys s.term.blocks fuel t σ c D)
    (hns : NoStuck (runBlocks env s.term.blocks fuel t σ c)) :
    RunLocals env phys (s.term.blocks.map (propagateBlockWith m)) fuel t σ c D :=
  (runBlocks_refines env phys True _ _ _ _ (find?_isSome_mapBlk (propagateBlockWith m) (fun _ => rfl) s.term.blocks)
    (propagate_blockRef env phys p₁ m hm s hws hcl hcfg) fuel t σ c hinv hns).2.2 D D (List.Subset.refl _) hJ hrl

end CweModel.C10
