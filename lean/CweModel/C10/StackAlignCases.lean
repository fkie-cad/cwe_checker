/-
C10 pass 5 — what the model functions of `substitute_and_on_stackpointer` (StackAlign.lean) do, case by case, stated
once for the properties that walk them (sizes: C12/Optimize; values and runs: StackAlignProofs, RunStackAlign): the
substitution and the body of the def loop by cases; where `get_first_blk_with_defs` finds the block (`Chain`,
`firstBlkWithDefs_chain`) and what `count_jumps_to_blk = 1` means; the functions of the output do not depend on the log
(`substituteAndOnStackpointer_subs`).
-/
import CweModel.C10.StackAlign
import CweModel.Base.IRInst

namespace CweModel.C10
open CweModel CweModel.IR

theorem spConstPair_spec {sp : Variable} {l r : Expression} {b x : Nat} (h : spConstPair sp l r = some (b, x)) :
    (l = .Var sp ∧ r = .Const b x) ∨ (l = .Const b x ∧ r = .Var sp) := by
  unfold spConstPair at h
  split at h
  · split at h
    · next hv => cases h; subst hv; exact .inl ⟨rfl, rfl⟩
    · cases h
  · split at h
    · next hv => cases h; subst hv; exact .inr ⟨rfl, rfl⟩
    · cases h
  · cases h

theorem substituteAnd_cases (sp : Variable) (e : Expression) (ea j : BitVec 64) :
    (∃ l r b x, e = .BinOp .IntAnd l r ∧ spConstPair sp l r = some (b, x) ∧ negConstToI64 b x = ea ∧
      substituteAnd sp e ea j =
        (.BinOp .IntSub (.Var sp) (.Const b (i64ToConst b (alignOffset j (constToI64 b x)))), [],
          j - alignOffset j (constToI64 b x))) ∨
    ∃ msg, substituteAnd sp e ea j = (e, [msg], j) := by
  cases e with
  | BinOp op l r =>
    simp only [substituteAnd]
    cases hp : spConstPair sp l r with
    | none => exact .inr ⟨_, rfl⟩
    | some bx =>
      obtain ⟨b, x⟩ := bx
      simp only
      by_cases hop : op = .IntAnd
      · subst hop
        by_cases hne : negConstToI64 b x = ea
        · exact .inl ⟨l, r, b, x, rfl, hp, hne, by rw [if_pos rfl, if_neg (not_not_intro hne)]⟩
        · exact .inr ⟨_, by rw [if_pos rfl, if_pos hne]⟩
      · exact .inr ⟨_, by rw [if_neg hop]⟩
  | _ => exact .inr ⟨_, rfl⟩

/-- The body of the def loop, case by case and as a function of the log: the loop had already given up; the def
does not write the stack pointer; `SP = SP + c`, `SP = c + SP`, `SP = SP - c` are journaled; another assignment
of a binary operation to the stack pointer goes through `substitute`; in all other cases the loop gives up. -/
theorem saStepDef_cases {P : (List String → SaAcc) → Prop} (sp : Variable) (ea j : BitVec 64) (s : Bool)
    (ds : List (Term Def)) (d : Term Def)
    (stopped : s = true → P fun lg => ⟨j, lg, s, d :: ds⟩)
    (kept : s = false → (match d.term with | .Assign v _ => v ≠ sp | .Load v _ => v ≠ sp | .Store _ _ => True) →
      P fun lg => ⟨j, lg, s, d :: ds⟩)
    (journaled : ∀ (isPlus : Bool) l r j', s = false →
      d.term = .Assign sp (.BinOp (if isPlus then .IntAdd else .IntSub) l r) →
      journalSpValue j isPlus l r sp = some j' → P fun lg => ⟨j', lg, s, d :: ds⟩)
    (gaveUp : ∀ f : List String → List String, s = false → P fun lg => ⟨j, f lg, true, d :: ds⟩)
    (masked : ∀ e, s = false → d.term = .Assign sp e →
      P fun lg => ⟨(substituteAnd sp e ea j).2.2, lg ++ (substituteAnd sp e ea j).2.1,
        !(substituteAnd sp e ea j).2.1.isEmpty, { d with term := .Assign sp (substituteAnd sp e ea j).1 } :: ds⟩) :
    P fun lg => saStepDef sp ea ⟨j, lg, s, ds⟩ d := by
  unfold saStepDef
  simp only
  split
  · next h => exact stopped h
  · next h =>
    have h : s = false := by simpa using h
    split
    · next v value hdt =>
      split
      · next hv =>
        subst hv
        split
        · split
          · next hj => exact journaled true _ _ _ h hdt hj
          · exact gaveUp _ h
        · split
          · next hj => exact journaled false _ _ _ h hdt hj
          · exact gaveUp _ h
        · exact masked _ h hdt
        · exact gaveUp _ h
      · next hv => exact kept h (by rw [hdt]; exact hv)
    · next v a hdt =>
      split
      · exact gaveUp _ h
      · next hv => exact kept h (by rw [hdt]; exact hv)
    · next hna hnl =>
      refine kept h ?_
      cases hdt : d.term with
      | Assign v e => exact absurd hdt (hna v e)
      | Load v a => exact absurd hdt (hnl v a)
      | Store a e => trivial

/-! `count_jumps_to_blk` and `get_first_blk_with_defs`: the block the pass rewrites lies on a chain of def-free blocks
from the entry, each reached by exactly one jump; it is replaced by position, and looked up by tid (`find?_set_first`) -/

private theorem le_sum_map_of_mem {α : Type} (f : α → Nat) {l : List α} {a : α} (h : a ∈ l) : f a ≤ (l.map f).sum := by
  induction l with
  | nil => cases h
  | cons x xs ih =>
    simp only [List.map, List.sum_cons]
    rcases List.mem_cons.mp h with rfl | h
    · omega
    · have := ih h; omega

private theorem eq_of_sum_map_eq_one {α : Type} (f : α → Nat) {l : List α} {a b : α} (hs : (l.map f).sum = 1)
    (ha : a ∈ l) (hb : b ∈ l) (hfa : 1 ≤ f a) (hfb : 1 ≤ f b) : a = b := by
  induction l with
  | nil => cases ha
  | cons x xs ih =>
    simp only [List.map, List.sum_cons] at hs
    rcases List.mem_cons.mp ha with rfl | ha' <;> rcases List.mem_cons.mp hb with rfl | hb'
    · rfl
    · have := le_sum_map_of_mem f hb'; omega
    · have := le_sum_map_of_mem f ha'; omega
    · have := le_sum_map_of_mem f ha'
      exact ih (by omega) ha' hb'

/-- the filter predicate of `countJumpsToBlk`: the jump can make `Sem.execJmps` continue at `t` -/
def countedTo (t : Tid) (j : Term Jmp) : Bool :=
  match j.term with
  | .Branch x => x == t
  | .CBranch x _ => x == t
  | .Call _ (some x) => x == t
  | .CallInd _ (some x) => x == t
  | .CallOther _ (some x) => x == t
  | _ => false

def blkCount (t : Tid) (b : Term Blk) : Nat :=
  (b.term.jmps.filter (countedTo t)).length + (b.term.indirectJmpTargets.filter (· == t)).length

theorem countJumpsToBlk_eq (s : Sub) (t : Tid) : countJumpsToBlk s t = (s.blocks.map (blkCount t)).sum := rfl

theorem blkCount_pos {t : Tid} {b : Term Blk} {j : Term Jmp} (hj : j ∈ b.term.jmps) (hc : countedTo t j = true) :
    1 ≤ blkCount t b := by
  have : j ∈ b.term.jmps.filter (countedTo t) := List.mem_filter.mpr ⟨hj, hc⟩
  have := List.length_pos_of_mem this
  unfold blkCount; omega

theorem countJumpsToBlk_pos {s : Sub} {t : Tid} {b : Term Blk} {j : Term Jmp} (hb : b ∈ s.blocks)
    (hj : j ∈ b.term.jmps) (hc : countedTo t j = true) : 1 ≤ countJumpsToBlk s t := by
  rw [countJumpsToBlk_eq]
  exact Nat.le_trans (blkCount_pos hj hc) (le_sum_map_of_mem (blkCount t) hb)

theorem countJumpsToBlk_one_unique {s : Sub} {t : Tid} {a b : Term Blk} {ja jb : Term Jmp}
    (h1 : countJumpsToBlk s t = 1) (ha : a ∈ s.blocks) (hb : b ∈ s.blocks)
    (hja : ja ∈ a.term.jmps) (hca : countedTo t ja = true)
    (hjb : jb ∈ b.term.jmps) (hcb : countedTo t jb = true) : a = b := by
  rw [countJumpsToBlk_eq] at h1
  exact eq_of_sum_map_eq_one (blkCount t) h1 ha hb (blkCount_pos hja hca) (blkCount_pos hjb hcb)

/-- the blocks `get_first_blk_with_defs` walks over: the first block of `s`, which no counted jump targets, and
every block reached from a def-free chain block through its first jump `Branch t` and targeted by exactly one
counted jump -/
inductive Chain (s : Sub) : Tid → Prop
  | entry (b : Term Blk) (bs : List (Term Blk)) (t : Tid) (hs : s.blocks = b :: bs)
      (h0 : countJumpsToBlk s t = 0) (ht : t = b.tid) : Chain s t
  | step (t' t : Tid) (blk : Term Blk) (hc : Chain s t')
      (hf : s.blocks.find? (fun b => b.tid == t') = some blk) (hd : blk.term.defs = [])
      (hb : firstBranchTid blk = some t) (h1 : countJumpsToBlk s t = 1) : Chain s t

theorem firstBlkWithDefsLoop_chain (s : Sub) : ∀ (fuel : Nat) (visited : List Tid) (blk : Term Blk) (idx : Nat),
    firstBlkWithDefsLoop s fuel visited blk = some idx → Chain s blk.tid →
    s.blocks.find? (fun b => b.tid == blk.tid) = some blk → blk.term.defs = [] →
    ∃ tb, s.blocks[idx]? = some tb ∧ s.blocks.findIdx? (fun b => b.tid == tb.tid) = some idx ∧
      s.blocks.find? (fun b => b.tid == tb.tid) = some tb ∧ Chain s tb.tid := by
  intro fuel
  induction fuel with
  | zero => intro visited blk idx h; simp only [firstBlkWithDefsLoop] at h; cases h
  | succ n ih =>
    intro visited blk idx h hc hf hd
    simp only [firstBlkWithDefsLoop] at h
    split at h
    · cases h
    · next target htar =>
      split at h
      · cases h
      · split at h
        · cases h
        · next h1 =>
          have h1 : countJumpsToBlk s target = 1 := by simpa using h1
          split at h
          · next idx' tb hidx htb =>
            have htid : tb.tid = target := (tid_of_find? htb).2
            have hchain : Chain s tb.tid := htid ▸ Chain.step blk.tid target blk hc hf hd htar h1
            split at h
            · cases h
              refine ⟨tb, by rw [List.find?_eq_bind_findIdx?_getElem?, hidx] at htb; exact htb, ?_, ?_, hchain⟩
              · rw [htid]; exact hidx
              · rw [htid]; exact htb
            · next hne =>
              refine ih _ tb idx h hchain (by rw [htid]; exact htb) ?_
              simpa using hne
          · cases h

theorem firstBlkWithDefs_chain {s : Sub} {idx : Nat} (h : firstBlkWithDefs s = some idx) :
    ∃ tb, s.blocks[idx]? = some tb ∧ s.blocks.findIdx? (fun b => b.tid == tb.tid) = some idx ∧
      s.blocks.find? (fun b => b.tid == tb.tid) = some tb ∧ Chain s tb.tid := by
  unfold firstBlkWithDefs at h
  split at h
  · cases h
  · next b bs hs =>
    split at h
    · cases h
    · next h0 =>
      have h0 : countJumpsToBlk s b.tid = 0 := by simpa using h0
      have hc : Chain s b.tid := Chain.entry b bs b.tid hs h0 rfl
      have hf : s.blocks.find? (fun x => x.tid == b.tid) = some b := by
        rw [hs]; simp only [List.find?_cons, BEq.rfl]
      split at h
      · cases h
        refine ⟨b, by rw [hs]; rfl, ?_, hf, hc⟩
        rw [hs]; simp only [List.findIdx?_cons, BEq.rfl, if_true]
      · next hne =>
        exact firstBlkWithDefsLoop_chain s _ [] b idx h hc hf (by simpa using hne)

theorem find?_set_first {l : List (Term Blk)} {i : Nat} {b b' : Term Blk} (hb' : b'.tid = b.tid)
    (hi : l.findIdx? (fun x => x.tid == b.tid) = some i) (t : Tid) :
    (l.set i b').find? (fun x => x.tid == t) = if b.tid == t then some b' else l.find? (fun x => x.tid == t) := by
  induction l generalizing i with
  | nil => cases hi
  | cons x xs ih =>
    rw [List.findIdx?_cons] at hi
    cases hp : x.tid == b.tid with
    | true =>
      rw [hp] at hi
      cases hi
      simp only [List.set, List.find?_cons, hb', eq_of_beq hp]
      cases b.tid == t <;> rfl
    | false =>
      rw [hp] at hi
      cases hx : xs.findIdx? (fun x => x.tid == b.tid) with
      | none => rw [hx] at hi; cases hi
      | some k =>
        rw [hx] at hi
        cases hi
        simp only [List.set, List.find?_cons, ih hx]
        cases hxt : x.tid == t with
        | false => rfl
        | true =>
          -- `x` is found first; it does not have the tid of `b`
          have hbt : (b.tid == t) = false := by rw [← eq_of_beq hxt]; exact BEq.comm.trans hp
          rw [hbt]; rfl

/-! The log is threaded through all functions; nothing else depends on it. -/

theorem saStepDef_core (sp : Variable) (ea : BitVec 64) (a b : SaAcc) (d : Term Def)
    (h : a.journaled = b.journaled ∧ a.stop = b.stop ∧ a.defs = b.defs) :
    (saStepDef sp ea a d).journaled = (saStepDef sp ea b d).journaled ∧
    (saStepDef sp ea a d).stop = (saStepDef sp ea b d).stop ∧
    (saStepDef sp ea a d).defs = (saStepDef sp ea b d).defs := by
  obtain ⟨aj, al, as, ad⟩ := a
  obtain ⟨bj, bl, bs, bd⟩ := b
  obtain ⟨rfl, rfl, rfl⟩ := h
  exact saStepDef_cases (P := fun F => (F al).journaled = (F bl).journaled ∧ (F al).stop = (F bl).stop ∧
    (F al).defs = (F bl).defs) sp ea aj as ad d (fun _ => ⟨rfl, rfl, rfl⟩) (fun _ _ => ⟨rfl, rfl, rfl⟩)
    (fun _ _ _ _ _ _ _ => ⟨rfl, rfl, rfl⟩) (fun _ _ => ⟨rfl, rfl, rfl⟩) (fun _ _ _ => ⟨rfl, rfl, rfl⟩)

theorem saFold_core (sp : Variable) (ea : BitVec 64) (defs : List (Term Def)) : ∀ (a b : SaAcc),
    (a.journaled = b.journaled ∧ a.stop = b.stop ∧ a.defs = b.defs) →
    (defs.foldl (saStepDef sp ea) a).defs = (defs.foldl (saStepDef sp ea) b).defs := by
  induction defs with
  | nil => intro a b h; exact h.2.2
  | cons d ds ih => intro a b h; exact ih _ _ (saStepDef_core sp ea a b d h)

theorem saSub_fst_logs (sp : Variable) (ea : BitVec 64) (logs : List String) (s : Term Sub) :
    (saSub sp ea logs s).1 = (saSub sp ea [] s).1 := by
  unfold saSub
  split
  · rfl
  · split
    · rfl
    · simp only
      rw [saFold_core sp ea _ { journaled := 0, logs := logs, stop := false, defs := [] }
        { journaled := 0, logs := [], stop := false, defs := [] } ⟨rfl, rfl, rfl⟩]

theorem substituteAndOnStackpointer_subs (arch : String) (sp : Variable) (p : Program) :
    (substituteAndOnStackpointer arch sp p).1.subs =
      p.subs.map (fun s => (saSub sp (expectedAlignmentOf arch) [] s).1) := by
  unfold substituteAndOnStackpointer
  have key : ∀ (subs : List (Term Sub)) (acc : List (Term Sub) × List String),
      (subs.foldl (fun (acc : List (Term Sub) × List String) s =>
        ((saSub sp (expectedAlignmentOf arch) acc.2 s).1 :: acc.1, (saSub sp (expectedAlignmentOf arch) acc.2 s).2))
        acc).1 = (subs.map (fun s => (saSub sp (expectedAlignmentOf arch) [] s).1)).reverse ++ acc.1 := by
    intro subs
    induction subs with
    | nil => intro acc; rfl
    | cons s ss ih =>
      intro acc
      simp only [List.foldl, List.map, List.reverse_cons, List.append_assoc, List.singleton_append]
      rw [ih, saSub_fst_logs]
  have := key p.subs ([], [])
  simp only [List.append_nil] at this
  show (List.reverse _) = _
  rw [this, List.reverse_reverse]

theorem expectedAlignmentOf_x86_64 : expectedAlignmentOf "x86_64" = 16#64 := by decide

end CweModel.C10
