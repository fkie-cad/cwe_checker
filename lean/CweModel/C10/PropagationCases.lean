/-
C10 pass 2 — what the model functions of expression propagation (Propagation.lean) do, stated once for every
property that walks them (sizes: C12/Optimize; values: PropagationProofs; locality of variables: SameState, RunPropagation).
The block-local loop `propagateDefs` rewrites each def with the table before it (`propDef`) and moves the table on by
the transfer `updateDef` of the fixpoint, so the table after the loop is `tableAfterDefs`;
`merge_def_assignments_to_same_var` only ever merges two adjacent assignments to the same variable (`Merges`);
`TablesClosedAt` is what the two executable checks `tablesClosed`, `tablesReach` say of one function.
-/
import CweModel.C10.Propagation

namespace CweModel.C10
open CweModel CweModel.IR

/-! Every property of the tables is of the form "all entries satisfy …": what the operations on tables do is said
through membership. (`Table.kill`, `Table.killMentions`, `Table.merge` are filters.) -/

theorem Table.mem_of_get {t : Table} {v : Variable} {e : Expression} (h : t.get v = some e) : (v, e) ∈ t := by
  unfold Table.get at h
  split at h
  · next p hp =>
    cases h
    have hv := List.find?_some hp
    exact of_decide_eq_true hv ▸ List.mem_of_find?_eq_some hp
  · cases h

theorem Table.mem_of_mem_insert {t : Table} {v : Variable} {e : Expression} {q : Variable × Expression}
    (h : q ∈ t.insert v e) : q = (v, e) ∨ q ∈ t :=
  (List.mem_cons.mp h).imp_right fun h => (List.mem_filter.mp h).1

theorem Table.mem_of_subsetOf {a b : Table} (h : a.subsetOf b = true) {q : Variable × Expression} (hq : q ∈ a) :
    q ∈ b :=
  Table.mem_of_get (eq_of_beq (List.all_eq_true.mp h q hq))

/-- the transfer of the fixpoint at an assignment, in the form the block-local loop computes it -/
theorem updateDef_assign (t : Table) (v : Variable) (e : Expression) :
    updateDef t (.Assign v e) =
      if mentions (extendExpression t e) v = true then t.kill v else (t.kill v).insert v (extendExpression t e) := by
  have hk : (t.filter (·.1 ≠ v)).filter (fun p => !mentions p.2 v) = t.kill v := by
    rw [List.filter_filter]
    exact List.filter_congr fun p _ => Bool.and_comm _ _
  have hkk : (t.kill v).filter (·.1 ≠ v) = t.kill v := by
    unfold Table.kill
    rw [List.filter_filter]
    exact List.filter_congr fun p _ => by cases decide (p.1 ≠ v) <;> rfl
  simp only [updateDef, Table.insert, Table.killMentions, List.filter_cons, hk, hkk]
  cases mentions (extendExpression t e) v <;> rfl

/-- what `propagate_input_expressions` does to one def, given the table before it -/
def propDef (t : Table) : Def → Def
  | .Assign v e => .Assign v (extendExpression t e)
  | d => mapDefExprs (substAll t) d

theorem propagateDefs_cons (t : Table) (d : Term Def) (ds : List (Term Def)) :
    propagateDefs t (d :: ds) =
      ({ d with term := propDef t d.term } :: (propagateDefs (updateDef t d.term) ds).1,
        (propagateDefs (updateDef t d.term) ds).2) := by
  obtain ⟨tid, term⟩ := d
  cases term with
  | Assign v e => rw [updateDef_assign]; rfl
  | Load v a => rfl
  | Store a e => rfl

theorem propagateDefs_snd (t : Table) (defs : List (Term Def)) : (propagateDefs t defs).2 = tableAfterDefs t defs := by
  induction defs generalizing t with
  | nil => rfl
  | cons d ds ih => rw [propagateDefs_cons]; exact ih _

/-- `Merges l l'`: `l'` is `l` after merging some pairs of adjacent assignments `v = e₁; v = e₂` into
`v = e₂[v ↦ e₁]` (the merged def keeps the tid of the second) -/
inductive Merges : List (Term Def) → List (Term Def) → Prop where
  | refl (l) : Merges l l
  | cons (d) {l l'} : Merges l l' → Merges (d :: l) (d :: l')
  | merge {ld d : Term Def} {v e₁ e₂ ds l'} : ld.term = .Assign v e₁ → d.term = .Assign v e₂ →
      Merges ({ d with term := .Assign v (e₂.substVar v e₁) } :: ds) l' → Merges (ld :: d :: ds) l'

theorem mergeDefsLoop_merges (ds : List (Term Def)) (last : Option (Term Def)) :
    Merges (last.toList ++ ds) (mergeDefsLoop last ds) := by
  induction ds generalizing last with
  | nil => rw [List.append_nil]; exact .refl _
  | cons d ds ih =>
    unfold mergeDefsLoop
    split
    · next cv ce hdt =>
      split
      · next ld =>
        split
        · next lv le hlt =>
          split
          · next heq =>
            subst heq
            simp only [mapDefExprs, hdt]
            exact .merge hlt hdt (ih (some _))
          · exact (ih (some d)).cons ld
        · exact (ih (some d)).cons ld
      · exact ih (some d)
    · cases last with
      | none => exact (ih none).cons d
      | some ld => exact ((ih none).cons d).cons ld

/-- the post-fixpoint property of the tables of one function, in the form the run needs it -/
structure TablesClosedAt (p : Program) (m : TableMap) (s : Term Sub) : Prop where
  entry : ∀ e rest, s.term.blocks = e :: rest → m.get e.tid = some []
  sent : ∀ a ∈ s.term.blocks, ∀ b ∈ s.term.blocks, ∀ x ∈ tablesSent p m a b.tid,
    ∃ tb, m.get b.tid = some tb ∧ tb.subsetOf x = true

theorem tablesClosedAt_of_check {p : Program} {m : TableMap} (hcl : tablesClosed p m = true)
    (hre : tablesReach p m = true) {s : Term Sub} (hs : s ∈ p.subs) : TablesClosedAt p m s := by
  have hcl' := List.all_eq_true.mp hcl s hs
  obtain ⟨hre1, hre2⟩ := Bool.and_eq_true_iff.mp (List.all_eq_true.mp hre s hs)
  -- what `tablesClosed` says about the block with index `i`
  have hclosed {i : Nat} {b : Term Blk} {tb : Table} (hi : s.term.blocks[i]? = some b) (hg : m.get b.tid = some tb) :
      ((if i = 0 || (incomingEdges p s b).isEmpty then tb.isEmpty else true) &&
        (s.term.blocks.all fun a => (tablesSent p m a b.tid).all fun x => tb.subsetOf x)) = true := by
    have := List.all_eq_true.mp hcl' (i, b) (List.mem_mapIdx.mpr ⟨i, (List.getElem?_eq_some_iff.mp hi).1,
      by rw [(List.getElem?_eq_some_iff.mp hi).2]⟩)
    dsimp only at this
    rwa [hg] at this
  constructor
  · intro e rest hbl
    rw [hbl] at hre1
    obtain ⟨tb, hg⟩ := Option.isSome_iff_exists.mp hre1
    have h0 := (Bool.and_eq_true_iff.mp (hclosed (i := 0) (by rw [hbl]; rfl) hg)).1
    rw [hg, List.isEmpty_iff.mp h0]
  · intro a ha b hb x hx
    have h1 := List.all_eq_true.mp (List.all_eq_true.mp hre2 a ha) b hb
    rw [List.isEmpty_eq_false_iff.mpr (List.ne_nil_of_mem hx), Bool.false_or] at h1
    obtain ⟨tb, hg⟩ := Option.isSome_iff_exists.mp h1
    obtain ⟨i, hi⟩ := List.mem_iff_getElem?.mp hb
    exact ⟨tb, hg, List.all_eq_true.mp (List.all_eq_true.mp (Bool.and_eq_true_iff.mp (hclosed hi hg)).2 a ha) x hx⟩

end CweModel.C10
