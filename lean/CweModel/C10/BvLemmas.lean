/-
C10 — bit-vector facts behind the rewrite rules of `trivial_operation_substitution.rs`, stated on the
P-Code reference semantics `Ref.*` (Base/Bv.lean). A rule that matches its pattern in either order of the
operands has its fact for one order; `ref_binOp_comm` gives the other.
-/
import CweModel.C10.SemLemmas
import CweModel.C10.TrivialRules

namespace CweModel.C10
open CweModel CweModel.IR

theorem ref_binOp_operands {op : BinOpType} (hop : C12.binClass op ≠ .free) {a b r : Bv}
    (h : Ref.binOp op a b = .val r) : ∃ (w : Nat) (x y : BitVec w), a = ⟨w, x⟩ ∧ b = ⟨w, y⟩ := by
  obtain ⟨w, x⟩ := a
  obtain ⟨w', y⟩ := b
  cases ref_same_width hop h
  exact ⟨w, x, y, rfl, rfl⟩

theorem sameW_comm (a b : Bv) {f : {w : Nat} → BitVec w → BitVec w → Res}
    (hf : ∀ (w : Nat) (x y : BitVec w), f x y = f y x) : sameW a b f = sameW b a f := by
  obtain ⟨w, x⟩ := a
  obtain ⟨w', y⟩ := b
  by_cases hw : w = w'
  · cases hw; rw [sameW_mk, sameW_mk, hf]
  · simp only [sameW, hw, Ne.symm hw, dite_false]

theorem ref_eq_comm {w : Nat} (x y : BitVec w) : Ref.eq x y = Ref.eq y x := by
  simp only [Ref.eq, eq_comm]

theorem ref_binOp_comm {op : BinOpType} (hop : commOp op = true) (a b : Bv) : Ref.binOp op a b = Ref.binOp op b a := by
  cases op <;> cases hop <;> dsimp only [Ref.binOp] <;> refine sameW_comm a b fun _ _ _ => ?_
  case IntAnd | BoolAnd => rw [BitVec.and_comm]
  case IntOr | BoolOr => rw [BitVec.or_comm]
  case IntXOr | BoolXOr => rw [BitVec.xor_comm]
  case IntEqual | IntNotEqual => rw [ref_eq_comm]
  case IntAdd => rw [Ref.add, Nat.add_comm]; rfl

theorem ref_idem {op : BinOpType} (hop : op = .IntAnd ∨ op = .IntOr ∨ op = .BoolAnd ∨ op = .BoolOr) (a : Bv) :
    Ref.binOp op a a = .val a := by
  obtain ⟨w, x⟩ := a
  rcases hop with h | h | h | h <;> subst h <;> simp [Ref.binOp, sameW, valV]

theorem ref_xor_self {op : BinOpType} (hop : op = .IntXOr ∨ op = .BoolXOr) (a : Bv) :
    Ref.binOp op a a = .val (Bv.ofNat a.w 0) := by
  obtain ⟨w, x⟩ := a
  rcases hop with h | h <;> subst h <;> simp [Ref.binOp, sameW, valV, Bv.ofNat]

theorem ref_cmp_self_true {op : BinOpType} (hop : op = .IntEqual ∨ op = .IntLessEqual ∨ op = .IntSLessEqual) (a : Bv) :
    Ref.binOp op a a = .val (Bv.ofBool true) := by
  obtain ⟨w, x⟩ := a
  rcases hop with h | h | h <;> subst h <;>
    simp [Ref.binOp, sameW, valB, Ref.eq, Ref.lessEq, Ref.slessEq]

theorem ref_cmp_self_false {op : BinOpType} (hop : op = .IntNotEqual ∨ op = .IntLess ∨ op = .IntSLess) (a : Bv) :
    Ref.binOp op a a = .val (Bv.ofBool false) := by
  obtain ⟨w, x⟩ := a
  rcases hop with h | h | h <;> subst h <;>
    simp [Ref.binOp, sameW, valB, Ref.eq, Ref.less, Ref.sless]

theorem bv_zero_of_toNat {w : Nat} {z : BitVec w} (h : z.toNat = 0) : z = 0#w :=
  BitVec.eq_of_toNat_eq (by simpa using h)

theorem bv_allOnes_of_toNat {w : Nat} {z : BitVec w} (h : z.toNat = 2 ^ w - 1) : z = BitVec.allOnes w :=
  BitVec.eq_of_toNat_eq (by simpa [BitVec.toNat_allOnes] using h)

theorem bv_bool_cases {w : Nat} {x : BitVec w} (h : x.toNat ≤ 1) : x = 0#w ∨ (x.toNat = 1 ∧ x = 1#w) := by
  rcases Nat.le_one_iff_eq_zero_or_eq_one.mp h with h0 | h1
  · exact .inl (bv_zero_of_toNat h0)
  · refine .inr ⟨h1, BitVec.eq_of_toNat_eq ?_⟩
    have hlt := x.isLt
    rw [h1] at hlt ⊢
    simp [Nat.mod_eq_of_lt hlt]

theorem bv_one_of_toNat {w : Nat} {z : BitVec w} (h : z.toNat = 1) : z = 1#w :=
  (bv_bool_cases (x := z) (by omega)).elim (fun h0 => by rw [h0] at h; simp at h) (fun h1 => h1.2)

theorem bv_one_and_self (w : Nat) : (1#w) &&& (1#w) = 1#w := BitVec.and_self
theorem bv_one_and_zero (w : Nat) : (1#w) &&& (0#w) = 0#w := BitVec.and_zero
theorem bv_zero_and_one (w : Nat) : (0#w) &&& (1#w) = 0#w := BitVec.zero_and
theorem bv_one_or_zero (w : Nat) : (1#w) ||| (0#w) = 1#w := BitVec.or_zero
theorem bv_zero_or_one (w : Nat) : (0#w) ||| (1#w) = 1#w := BitVec.zero_or
theorem bv_one_or_self (w : Nat) : (1#w) ||| (1#w) = 1#w := BitVec.or_self

theorem ref_orxor_zero {op : BinOpType} (hop : op = .IntOr ∨ op = .IntXOr ∨ op = .BoolOr ∨ op = .BoolXOr)
    {z a v : Bv} (hz : z.toNat = 0) (h : Ref.binOp op z a = .val v) : v = a := by
  rcases hop with rfl | rfl | rfl | rfl <;>
    (dsimp only [Ref.binOp] at h
     obtain ⟨w, x, y, rfl, rfl, hf⟩ := sameW_inv h
     cases hf
     cases bv_zero_of_toNat (z := x) hz
     simp)

theorem ref_and_ones {op : BinOpType} (hop : op = .IntAnd ∨ op = .BoolAnd)
    {z a v : Bv} (hz : z.toNat = 2 ^ z.w - 1) (h : Ref.binOp op z a = .val v) : v = a := by
  rcases hop with rfl | rfl <;>
    (dsimp only [Ref.binOp] at h
     obtain ⟨w, x, y, rfl, rfl, hf⟩ := sameW_inv h
     cases hf
     cases bv_allOnes_of_toNat (z := x) hz
     simp)

theorem ref_booland_zero {z a v : Bv} (hz : z.toNat = 0) (h : Ref.binOp .BoolAnd z a = .val v) : v = z := by
  dsimp only [Ref.binOp] at h
  obtain ⟨w, x, y, rfl, rfl, hf⟩ := sameW_inv h
  cases hf
  cases bv_zero_of_toNat (z := x) hz
  simp

theorem ref_bool_one {z a : Bv} (hz : z.toNat = 1) (ha : a.toNat ≤ 1) :
    (∀ {v}, Ref.binOp .BoolAnd z a = .val v → v = a) ∧ (∀ {v}, Ref.binOp .BoolOr z a = .val v → v = z) ∧
    (∀ {v}, a.w = 8 → Ref.binOp .BoolXOr z a = .val v → Ref.unOp .BoolNegate a = .val v) := by
  refine ⟨fun h => ?_, fun h => ?_, fun hw h => ?_⟩ <;>
    (dsimp only [Ref.binOp] at h
     obtain ⟨w, x, y, rfl, rfl, hf⟩ := sameW_inv h
     cases hf
     cases bv_one_of_toNat (z := x) hz)
  · rcases bv_bool_cases (x := y) ha with rfl | ⟨_, rfl⟩ <;> simp
  · rcases bv_bool_cases (x := y) ha with rfl | ⟨_, rfl⟩ <;> simp
  · cases hw
    rcases bv_bool_cases (x := y) ha with rfl | ⟨_, rfl⟩ <;> rfl

/-- the Boolean function of the operands whose `Bv.ofBool` is the value of `op` (`ref_cmp_inv'`): defined for the
six integer comparisons and `IntSBorrow` -/
def cmpB (op : BinOpType) {w : Nat} (x y : BitVec w) : Option Bool :=
  match op with
  | .IntEqual => some (Ref.eq x y)
  | .IntNotEqual => some (!Ref.eq x y)
  | .IntLess => some (Ref.less x y)
  | .IntSLess => some (Ref.sless x y)
  | .IntLessEqual => some (Ref.lessEq x y)
  | .IntSLessEqual => some (Ref.slessEq x y)
  | .IntSBorrow => some (Ref.sborrow x y)
  | _ => none

theorem ref_cmp_inv' {op : BinOpType} (hop : (cmpB op (0#1) (0#1)).isSome) {a b r : Bv}
    (h : Ref.binOp op a b = .val r) :
    ∃ (w : Nat) (x y : BitVec w) (c : Bool), a = ⟨w, x⟩ ∧ b = ⟨w, y⟩ ∧ cmpB op x y = some c ∧ r = Bv.ofBool c := by
  cases op
  case IntEqual | IntNotEqual | IntLess | IntSLess | IntLessEqual | IntSLessEqual | IntSBorrow =>
    dsimp only [Ref.binOp] at h
    obtain ⟨w, x, y, ha, hb, hf⟩ := sameW_inv h
    cases hf
    exact ⟨w, x, y, _, ha, hb, rfl, rfl⟩
  all_goals cases hop

theorem ref_sub_inv {a b d : Bv} (h : Ref.binOp .IntSub a b = .val d) :
    ∃ (w : Nat) (x y : BitVec w), a = ⟨w, x⟩ ∧ b = ⟨w, y⟩ ∧ d = ⟨w, Ref.sub x y⟩ := by
  dsimp only [Ref.binOp] at h
  obtain ⟨w, x, y, ha, hb, hf⟩ := sameW_inv h
  cases hf
  exact ⟨w, x, y, ha, hb, rfl⟩

theorem ref_add_inv {a b d : Bv} (h : Ref.binOp .IntAdd a b = .val d) :
    ∃ (w : Nat) (x y : BitVec w), a = ⟨w, x⟩ ∧ b = ⟨w, y⟩ ∧ d = ⟨w, Ref.add x y⟩ := by
  dsimp only [Ref.binOp] at h
  obtain ⟨w, x, y, ha, hb, hf⟩ := sameW_inv h
  cases hf
  exact ⟨w, x, y, ha, hb, rfl⟩

theorem ref_boolor_ofBool (p q : Bool) : Ref.binOp .BoolOr (Bv.ofBool p) (Bv.ofBool q) = .val (Bv.ofBool (p || q)) := by
  cases p <;> cases q <;> rfl
theorem ref_booland_ofBool (p q : Bool) : Ref.binOp .BoolAnd (Bv.ofBool p) (Bv.ofBool q) = .val (Bv.ofBool (p && q)) := by
  cases p <;> cases q <;> rfl
theorem ref_eq_ofBool (p q : Bool) : Ref.binOp .IntEqual (Bv.ofBool p) (Bv.ofBool q) = .val (Bv.ofBool (p == q)) := by
  cases p <;> cases q <;> rfl
theorem ref_ne_ofBool (p q : Bool) : Ref.binOp .IntNotEqual (Bv.ofBool p) (Bv.ofBool q) = .val (Bv.ofBool (p != q)) := by
  cases p <;> cases q <;> rfl
theorem ref_boolneg_ofBool (p : Bool) : Ref.unOp .BoolNegate (Bv.ofBool p) = .val (Bv.ofBool (!p)) := by
  cases p <;> rfl

theorem ref_eq_zero_sub {w : Nat} (x y : BitVec w) : Ref.eq (0#w) (Ref.sub x y) = Ref.eq x y := by
  rw [← C01.sub_eq, ref_eq_comm]
  exact decide_eq_decide.mpr (by rw [← BitVec.toNat_eq, ← BitVec.toNat_eq, BitVec.sub_eq_iff_eq_add]; simp)

theorem ref_sless_or_eq {w : Nat} (x y : BitVec w) : (Ref.sless x y || Ref.eq x y) = Ref.slessEq x y := by
  rw [← C01.sless_eq, ← C01.eq_eq, ← C01.slessEq_eq, BitVec.sle_eq_slt_or_eq]

theorem ref_slessEq_and_ne {w : Nat} (x y : BitVec w) : (Ref.slessEq x y && !Ref.eq x y) = Ref.sless x y := by
  rw [← C01.sless_eq, ← C01.ne_eq, ← C01.slessEq_eq, BitVec.slt_eq_sle_and_ne]

theorem ref_less_or_eq {w : Nat} (x y : BitVec w) : (Ref.less x y || Ref.eq x y) = Ref.lessEq x y := by
  simp only [Ref.less, Ref.eq, Ref.lessEq, ← Bool.decide_or]
  exact decide_eq_decide.mpr Nat.le_iff_lt_or_eq.symm

theorem ref_lessEq_and_ne {w : Nat} (x y : BitVec w) : (Ref.lessEq x y && !Ref.eq x y) = Ref.less x y := by
  simp only [Ref.less, Ref.eq, Ref.lessEq, ← decide_not, ← Bool.decide_and]
  exact decide_eq_decide.mpr Nat.lt_iff_le_and_ne.symm

theorem ref_not_less {w : Nat} (x y : BitVec w) : (!Ref.less x y) = Ref.lessEq y x := by
  simp only [Ref.less, Ref.lessEq, ← decide_not, Nat.not_lt]
theorem ref_not_lessEq {w : Nat} (x y : BitVec w) : (!Ref.lessEq x y) = Ref.less y x := by
  simp only [Ref.less, Ref.lessEq, ← decide_not, Nat.not_le]
theorem ref_not_sless {w : Nat} (x y : BitVec w) : (!Ref.sless x y) = Ref.slessEq y x := by
  simp only [Ref.sless, Ref.slessEq, ← decide_not, Int.not_lt]
theorem ref_not_slessEq {w : Nat} (x y : BitVec w) : (!Ref.slessEq x y) = Ref.sless y x := by
  simp only [Ref.sless, Ref.slessEq, ← decide_not, Int.not_le]

theorem sless_sub_xor_sborrow {w : Nat} (hw : 0 < w) (x y : BitVec w) :
    (Ref.sless (Ref.sub x y) (0#w) != Ref.sborrow x y) = Ref.sless x y := by
  have hx1 := BitVec.le_toInt x
  have hx2 := BitVec.toInt_lt (x := x)
  have hy1 := BitVec.le_toInt y
  have hy2 := BitVec.toInt_lt (x := y)
  have h2 : (2 : Int) ^ w = 2 * 2 ^ (w - 1) := by
    obtain ⟨k, rfl⟩ : ∃ k, w = k + 1 := ⟨w - 1, by omega⟩
    rw [Int.pow_succ, Nat.add_sub_cancel, Int.mul_comm]
  have hc := C01.toInt_sub_cases x y (by omega)
  rw [← C01.sub_eq]
  simp only [Ref.sless, Ref.sborrow, BitVec.toInt_zero, ← Bool.decide_or]
  rw [Bool.eq_iff_iff, bne_iff_ne, Ne, decide_eq_decide, decide_eq_true_iff]
  omega

theorem sless_sub_eq_sborrow {w : Nat} (hw : 0 < w) (x y : BitVec w) :
    (Ref.sless (Ref.sub x y) (0#w) == Ref.sborrow x y) = Ref.slessEq y x := by
  rw [← ref_not_sless, ← sless_sub_xor_sborrow hw x y]
  cases Ref.sless (Ref.sub x y) (0#w) <;> cases Ref.sborrow x y <;> rfl

/- Piece, subpiece, extensions, negations: bit by bit on the shift / truncate forms of `Impl` (C01). -/

theorem subpiece_full {w : Nat} (x : BitVec w) : Ref.subpiece x 0 w = x := by
  simp [Ref.subpiece]

theorem subpiece_zext {w S : Nat} (x : BitVec w) (h : w ≤ S) : Ref.subpiece (Ref.zext x S) 0 w = x := by
  rw [← C01.zext_eq, ← C01.subpiece_eq, Impl.subpiece, BitVec.ushiftRight_zero,
    BitVec.setWidth_setWidth_of_le _ h, BitVec.setWidth_eq]

theorem subpiece_sext {w S : Nat} (x : BitVec w) (h : w ≤ S) : Ref.subpiece (Ref.sext x S) 0 w = x := by
  rw [← C01.sext_eq x S h, ← C01.subpiece_eq, Impl.subpiece, BitVec.ushiftRight_zero]
  ext i hi
  rw [BitVec.getElem_setWidth, BitVec.getLsbD_signExtend]
  simp [hi, show i < S by omega]

theorem subpiece_piece_high {w₁ w₂ : Nat} (h : BitVec w₁) (l : BitVec w₂) :
    Ref.subpiece (Ref.piece h l) w₂ w₁ = h := by
  rw [← C01.piece_eq, ← C01.subpiece_eq]
  ext i hi
  simp [Impl.subpiece, Impl.piece, hi, show w₂ + i < w₁ + w₂ by omega, show i < w₁ + w₂ by omega]

theorem subpiece_piece_low {w₁ w₂ : Nat} (h : BitVec w₁) (l : BitVec w₂) :
    Ref.subpiece (Ref.piece h l) 0 w₂ = l := by
  rw [← C01.piece_eq, ← C01.subpiece_eq]
  ext i hi
  simp [Impl.subpiece, Impl.piece]

theorem subpiece_subpiece {w : Nat} (x : BitVec w) (a m b s : Nat) (h : b + s ≤ m) :
    Ref.subpiece (Ref.subpiece x a m) b s = Ref.subpiece x (a + b) s := by
  simp only [← C01.subpiece_eq, Impl.subpiece]
  ext i hi
  simp only [BitVec.getElem_setWidth, BitVec.getLsbD_ushiftRight, BitVec.getLsbD_setWidth]
  simp [show b + i < m by omega, Nat.add_assoc]

theorem zext_zext {w m s : Nat} (x : BitVec w) (h : w ≤ m) : Ref.zext (Ref.zext x m) s = Ref.zext x s := by
  rw [← C01.zext_eq, ← C01.zext_eq, ← C01.zext_eq, BitVec.setWidth_setWidth]
  omega

theorem sext_sext {w m s : Nat} (x : BitVec w) (h : w ≤ m) : Ref.sext (Ref.sext x m) s = Ref.sext x s := by
  rw [← C01.sext_eq x m h]
  simp only [Ref.sext, BitVec.toInt_signExtend_of_le h]

theorem zext_same {w : Nat} (x : BitVec w) : Ref.zext x w = x := by simp [Ref.zext]
theorem sext_same {w : Nat} (x : BitVec w) : Ref.sext x w = x := by simp [Ref.sext]
theorem ref_neg_neg {w : Nat} (x : BitVec w) : Ref.neg (Ref.neg x) = x := by
  rw [← C01.neg_eq, ← C01.neg_eq]; exact BitVec.neg_neg
theorem ref_not_not {w : Nat} (x : BitVec w) : Ref.not (Ref.not x) = x := by
  rw [← C01.not_eq, ← C01.not_eq]; exact BitVec.not_not

theorem ref_cmp_zero_sub {op : BinOpType} (hop : op = .IntEqual ∨ op = .IntNotEqual) {z a b d v : Bv}
    (hz : z.toNat = 0) (hs : Ref.binOp .IntSub a b = .val d) (hc : Ref.binOp op z d = .val v) :
    Ref.binOp op a b = .val v := by
  obtain ⟨w, x, y, rfl, rfl, rfl⟩ := ref_sub_inv hs
  rcases hop with rfl | rfl <;>
    (dsimp only [Ref.binOp] at hc
     obtain ⟨_, z', _, rfl, hd, hf⟩ := sameW_inv hc
     cases hd; cases hf
     cases bv_zero_of_toNat (z := z') hz
     simp only [Ref.binOp, sameW_mk, ref_eq_zero_sub, valB])

theorem ref_pair_rule {outer opA opB newop : BinOpType} (hrule : PairRule outer opA opB newop) {a b p q v : Bv}
    (hA : Ref.binOp opA a b = .val p) (hB : Ref.binOp opB a b = .val q) (hO : Ref.binOp outer p q = .val v) :
    Ref.binOp newop a b = .val v := by
  cases hrule <;>
    (obtain ⟨w, x, y, rfl, rfl⟩ := ref_binOp_operands (by decide) hA
     simp only [Ref.binOp, sameW_mk, valB, Res.val.injEq] at hA hB ⊢
     subst hA hB
     simpa only [ref_boolor_ofBool, ref_booland_ofBool, ref_sless_or_eq, ref_less_or_eq, ref_slessEq_and_ne,
       ref_lessEq_and_ne, Res.val.injEq] using hO)

theorem ref_sless_idiom {a b d z p q : Bv} (hpos : 0 < a.w) (hz : z.toNat = 0)
    (hs : Ref.binOp .IntSub a b = .val d) (hl : Ref.binOp .IntSLess d z = .val p)
    (hq : Ref.binOp .IntSBorrow a b = .val q) :
    (∀ {v}, Ref.binOp .IntNotEqual p q = .val v → Ref.binOp .IntSLess a b = .val v) ∧
    (∀ {v}, Ref.binOp .IntEqual p q = .val v → Ref.binOp .IntSLessEqual b a = .val v) := by
  obtain ⟨w, x, y, rfl, rfl, rfl⟩ := ref_sub_inv hs
  dsimp only [Ref.binOp] at hl
  obtain ⟨_, _, z', hd, rfl, hf⟩ := sameW_inv hl
  cases hd; cases hf
  cases bv_zero_of_toNat (z := z') hz
  simp only [Ref.binOp, sameW_mk] at hq
  cases hq
  constructor <;> intro v h
  · rw [ref_ne_ofBool, sless_sub_xor_sborrow hpos] at h
    simpa only [Ref.binOp, sameW_mk, valB] using h
  · rw [ref_eq_ofBool, sless_sub_eq_sborrow hpos] at h
    simpa only [Ref.binOp, sameW_mk, valB] using h

/-- `(x - m) - r = x - (m + r)` and `(x + m) + r = x + (m + r)` -/
theorem ref_assoc {op : BinOpType} (hop : op = .IntAdd ∨ op = .IntSub) {x m r t v c : Bv}
    (h1 : Ref.binOp op x m = .val t) (h2 : Ref.binOp op t r = .val v) (h3 : Ref.binOp .IntAdd m r = .val c) :
    Ref.binOp op x c = .val v := by
  obtain ⟨_, mv, rv, rfl, rfl, rfl⟩ := ref_add_inv h3
  rcases hop with rfl | rfl
  · obtain ⟨_, xv, _, rfl, hm, rfl⟩ := ref_add_inv h1
    cases hm
    obtain ⟨_, _, _, ht, hr, rfl⟩ := ref_add_inv h2
    cases ht; cases hr
    simp only [Ref.binOp, sameW_mk, valV, ← C01.add_eq, BitVec.add_assoc]
  · obtain ⟨_, xv, _, rfl, hm, rfl⟩ := ref_sub_inv h1
    cases hm
    obtain ⟨_, _, _, ht, hr, rfl⟩ := ref_sub_inv h2
    cases ht; cases hr
    simp only [Ref.binOp, sameW_mk, valV, ← C01.sub_eq, ← C01.add_eq, BitVec.sub_sub]

theorem ref_subpiece_full {a v : Bv} {s : Nat} (hw : a.w = 8 * s) (h : Ref.subpieceOp 0 s a = .val v) : v = a := by
  obtain ⟨w, x⟩ := a
  cases hw
  cases (of_ite_panic h).2
  exact congrArg (Bv.mk _) (subpiece_full x)

theorem ref_subpiece_ext {op : CastOpType} (hop : op = .IntZExt ∨ op = .IntSExt) {x y v : Bv} {S s : Nat}
    (hx : x.w = 8 * s) (hc : Ref.cast op S x = .val y) (h : Ref.subpieceOp 0 s y = .val v) : v = x := by
  obtain ⟨w, xv⟩ := x
  cases hx
  rcases hop with rfl | rfl <;>
    (obtain ⟨hle, hy⟩ := of_ite_panic hc
     cases hy
     cases (of_ite_panic h).2)
  · exact congrArg (Bv.mk _) (subpiece_zext xv hle)
  · exact congrArg (Bv.mk _) (subpiece_sext xv hle)

theorem ref_subpiece_piece_high {hi lo y v : Bv} {lb s : Nat} (hp : Ref.binOp .Piece hi lo = .val y)
    (hs : Ref.subpieceOp lb s y = .val v) (h1 : 8 * lb = lo.w) (h2 : 8 * s = hi.w) : v = hi := by
  obtain ⟨w₁, h⟩ := hi
  obtain ⟨w₂, l⟩ := lo
  cases h1; cases h2; cases hp
  cases (of_ite_panic hs).2
  exact congrArg (Bv.mk _) (subpiece_piece_high h l)

theorem ref_subpiece_piece_low {hi lo y v : Bv} {s : Nat} (hp : Ref.binOp .Piece hi lo = .val y)
    (hs : Ref.subpieceOp 0 s y = .val v) (h2 : 8 * s = lo.w) : v = lo := by
  obtain ⟨w₁, h⟩ := hi
  obtain ⟨w₂, l⟩ := lo
  cases h2; cases hp
  cases (of_ite_panic hs).2
  exact congrArg (Bv.mk _) (subpiece_piece_low h l)

theorem ref_subpiece_subpiece {x y v : Bv} {ilb m lb s : Nat} (h1 : Ref.subpieceOp ilb m x = .val y)
    (h2 : Ref.subpieceOp lb s y = .val v) (hle : lb + s ≤ m) (hs : 0 < s) (hin : 8 * (ilb + m) ≤ x.w) :
    Ref.subpieceOp (lb + ilb) s x = .val v := by
  obtain ⟨w, xv⟩ := x
  cases (of_ite_panic h1).2
  cases (of_ite_panic h2).2
  have hc : (8 * (lb + ilb) < w ∧ 8 * s ≤ w) ∧ 8 * lb + 8 * s ≤ 8 * m := by simp only at hin; omega
  rw [Ref.subpieceOp, if_pos hc.1, subpiece_subpiece xv (8 * ilb) (8 * m) (8 * lb) (8 * s) hc.2, Nat.mul_add, Nat.add_comm]
  rfl

theorem ref_cast_same {op : CastOpType} (hop : op = .IntZExt ∨ op = .IntSExt) {a v : Bv} {s : Nat}
    (hw : a.w = 8 * s) (h : Ref.cast op s a = .val v) : v = a := by
  obtain ⟨w, x⟩ := a
  cases hw
  rcases hop with rfl | rfl <;> cases (of_ite_panic h).2
  · exact congrArg (Bv.mk _) (zext_same x)
  · exact congrArg (Bv.mk _) (sext_same x)

theorem ref_cast_cast {op : CastOpType} (hop : op = .IntZExt ∨ op = .IntSExt) {x y v : Bv} {m s : Nat}
    (h1 : Ref.cast op m x = .val y) (h2 : Ref.cast op s y = .val v) : Ref.cast op s x = .val v := by
  rcases hop with rfl | rfl <;>
    (obtain ⟨hle, hy⟩ := of_ite_panic h1
     cases hy
     obtain ⟨hle', hv⟩ := of_ite_panic h2
     cases hv
     rw [Ref.cast, if_pos (Nat.le_trans hle hle')])
  · rw [zext_zext _ hle]; rfl
  · rw [sext_sext _ hle]; rfl

theorem ref_unop_unop {op : UnOpType} (hop : op = .IntNegate ∨ op = .Int2Comp) {x y v : Bv}
    (h1 : Ref.unOp op x = .val y) (h2 : Ref.unOp op y = .val v) : v = x := by
  rcases hop with rfl | rfl <;> cases h1 <;> cases h2
  · exact congrArg (Bv.mk _) (ref_not_not _)
  · exact congrArg (Bv.mk _) (ref_neg_neg _)

theorem ref_boolneg_boolneg {x y v : Bv} (hw : x.w = 8)
    (h1 : Ref.unOp .BoolNegate x = .val y) (h2 : Ref.unOp .BoolNegate y = .val v) : v = x := by
  rcases ref_boolNegate_inv h1 with ⟨hx, rfl⟩ | ⟨hx, _, rfl⟩ <;> cases h2 <;> exact Bv.ext' hw.symm hx.symm

theorem ref_boolneg_cmp {iop nop : BinOpType} (hn : NegCmp iop nop) {a b p v : Bv}
    (h1 : Ref.binOp iop a b = .val p) (h2 : Ref.unOp .BoolNegate p = .val v) : Ref.binOp nop b a = .val v := by
  cases hn <;>
    (obtain ⟨w, x, y, rfl, rfl⟩ := ref_binOp_operands (by decide) h1
     simp only [Ref.binOp, sameW_mk, valB, Res.val.injEq] at h1 ⊢
     subst h1
     rw [ref_boolneg_ofBool] at h2
     simpa only [Res.val.injEq, ref_not_less, ref_not_lessEq, ref_not_sless, ref_not_slessEq, Bool.not_not,
       ref_eq_comm y x] using h2)

end CweModel.C10
