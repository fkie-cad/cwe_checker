/-
C10 — facts about runs of the reference interpreter (`Sem.runBlocks`, Base/IRSem.lean) shared by the
pass proofs (what one jump does and the equations of one block are in Base/IRSemLemmas.lean): well-formedness of states
along a run; runs that do not get stuck (`NoStuck`, `NoStuck.block`); expressions and defs replaced by ones that
evaluate alike (`Refines`, `execDefs_map`, `execJmps_map`); the declarative form `RunOk` of the run-time hypothesis H1
(boolean discipline, Spec.lean).
-/
import CweModel.C10.TrivialProofs
import CweModel.C10.Spec
import CweModel.C10.ControlFlowCases
import CweModel.C10.DeadVarsCases

namespace CweModel.C10
open CweModel CweModel.IR CweModel.Sem CweModel.C12

theorem getReg_setByte (σ : State) (a b : Nat) (v : Variable) : (σ.setByte a b).getReg v = σ.getReg v :=
  Sem.getReg_setByte σ a b v

theorem StateWF.writeMem {σ : State} (h : StateWF σ) (a n val : Nat) : StateWF (σ.writeMem a n val) := by
  intro v; rw [getReg_writeMem]; exact h v

theorem StateWF.execDef {σ σ' : State} {d : Def} {evs : List Event} (h : StateWF σ)
    (hd : execDef σ d = some (σ', evs)) : StateWF σ' := by
  cases d with
  | Assign v e => obtain ⟨x, _, hw, hr⟩ := execDef_assign.mp hd; cases hr; exact h.setReg v x hw
  | Load v a => obtain ⟨x, _, hr⟩ := execDef_load.mp hd; cases hr; exact h.setReg v _ rfl
  | Store a e => obtain ⟨x, _, y, _, hr⟩ := execDef_store.mp hd; cases hr; exact h.writeMem _ _ _

theorem StateWF.execDefs {defs : List (Term Def)} {σ σ' : State} {evs : List Event} (h : StateWF σ)
    (hd : execDefs σ defs = some (σ', evs)) : StateWF σ' := by
  induction defs generalizing σ evs with
  | nil => cases hd; exact h
  | cons d ds ih =>
    obtain ⟨σ₁, e₁, σ₂, e₂, h1, h2, hr⟩ := execDefs_cons_some.mp hd
    cases hr
    exact ih (h.execDef h1) h2

theorem StateWF.havoc {σ : State} (h : StateWF σ) (phys : List Variable) (sp : Variable) (site : String) (nth : Nat) :
    StateWF (havoc σ phys sp site nth) :=
  havoc_inv (fun _ v x hx hs => hs.setReg v x hx) h phys sp site nth

theorem StateWF.execJmps {env : Env} {jmps : List (Term Jmp)} {σ σ₂ : State} {c c₂ : Nat} {evs : List Event} {t : Tid}
    (h : StateWF σ) (hj : execJmps env σ c jmps = (evs, .goto t σ₂ c₂)) : StateWF σ₂ :=
  execJmps_goto_state h (fun _ => h.havoc _ _ _ _) hj

def NoStuck (l : List Event) : Prop := ∀ e ∈ l, isStuck e = false

theorem NoStuck.append_left {a b : List Event} (h : NoStuck (a ++ b)) : NoStuck a :=
  fun e he => h e (List.mem_append_left _ he)
theorem NoStuck.append_right {a b : List Event} (h : NoStuck (a ++ b)) : NoStuck b :=
  fun e he => h e (List.mem_append_right _ he)
theorem not_noStuck_stuck (r : String) : ¬ NoStuck [Event.stuck r] := by
  intro h; have := h _ List.mem_cons_self; simp [isStuck] at this

theorem NoStuck.jmps {env : Env} {blocks : List (Term Blk)} {n : Nat} {t : Tid} {σ σ₁ : State} {c : Nat}
    {b : Term Blk} {evs : List Event} (hns : NoStuck (runBlocks env blocks (n + 1) t σ c))
    (hb : blocks.find? (fun b => b.tid == t) = some b) (hd : execDefs σ b.term.defs = some (σ₁, evs)) :
    NoStuck (execJmps env σ₁ c b.term.jmps).1 := by
  cases hjm : execJmps env σ₁ c b.term.jmps with
  | mk evs₂ nxt =>
    cases nxt with
    | stop => rw [runBlocks_stop hb hd hjm] at hns; exact hns.append_right
    | goto _ _ _ => rw [runBlocks_goto hb hd hjm] at hns; exact hns.append_left.append_right

theorem NoStuck.block {env : Env} {blocks : List (Term Blk)} {n : Nat} {t : Tid} {σ : State} {c : Nat}
    (hns : NoStuck (runBlocks env blocks (n + 1) t σ c)) :
    ∃ b σ₁ evs, blocks.find? (fun b => b.tid == t) = some b ∧ execDefs σ b.term.defs = some (σ₁, evs) ∧
      NoStuck (execJmps env σ₁ c b.term.jmps).1 ∧ ∀ evs₂ t₂ σ₂ c₂,
        execJmps env σ₁ c b.term.jmps = (evs₂, .goto t₂ σ₂ c₂) → NoStuck (runBlocks env blocks n t₂ σ₂ c₂) := by
  cases hb : blocks.find? (fun b => b.tid == t) with
  | none => rw [runBlocks_none hb] at hns; exact absurd hns (not_noStuck_stuck _)
  | some b =>
    cases hd : execDefs σ b.term.defs with
    | none => rw [runBlocks_defs_none hb hd] at hns; exact absurd hns (not_noStuck_stuck _)
    | some r =>
      obtain ⟨σ₁, evs⟩ := r
      refine ⟨b, σ₁, evs, rfl, hd, hns.jmps hb hd, fun evs₂ t₂ σ₂ c₂ hjm => ?_⟩
      rw [runBlocks_goto hb hd hjm] at hns
      exact hns.append_right

def Refines (σ : State) (f : Expression → Expression) (e : Expression) : Prop :=
  ∀ v, eval σ e = some v → eval σ (f e) = some v

theorem execDef_map {σ : State} {f : Expression → Expression} {d : Def} {r : State × List Event}
    (hr : execDef σ d = some r) (hf : ∀ e ∈ defExprs d, Refines σ f e) :
    execDef σ (mapDefExprs f d) = some r := by
  cases d <;> simp only [Sem.execDef, mapDefExprs, Option.bind_eq_bind, Option.bind_eq_some_iff] at hr ⊢
  case Assign v e => obtain ⟨x, he, hr⟩ := hr; exact ⟨x, hf e (.head _) x he, hr⟩
  case Load v a => obtain ⟨x, he, hr⟩ := hr; exact ⟨x, hf a (.head _) x he, hr⟩
  case Store a e =>
    obtain ⟨x, ha, y, he, hr⟩ := hr
    exact ⟨x, hf a (.head _) x ha, y, hf e (.tail _ (.head _)) y he, hr⟩

def DefsRefine (f : Expression → Expression) : List (Term Def) → State → Prop
  | [], _ => True
  | d :: ds, σ => (∀ e ∈ defExprs d.term, Refines σ f e) ∧
      ∀ σ' evs, execDef σ d.term = some (σ', evs) → DefsRefine f ds σ'

theorem execDefs_map {f : Expression → Expression} {defs : List (Term Def)} {σ : State} {r : State × List Event}
    (hr : execDefs σ defs = some r) (hf : DefsRefine f defs σ) :
    execDefs σ (defs.map fun d => { d with term := mapDefExprs f d.term }) = some r := by
  induction defs generalizing σ r with
  | nil => exact hr
  | cons d ds ih =>
    obtain ⟨σ₁, e₁, σ₂, e₂, h1, h2, hr⟩ := execDefs_cons_some.mp hr
    exact execDefs_cons_some.mpr ⟨σ₁, e₁, σ₂, e₂, execDef_map h1 hf.1, ih h2 (hf.2 σ₁ e₁ h1), hr⟩

theorem execJmps_map {env : Env} {f : Expression → Expression} {σ : State} {c : Nat} {jmps : List (Term Jmp)}
    (hf : ∀ j ∈ jmps, ∀ e ∈ jmpExprs j.term, Refines σ f e)
    (hns : NoStuck (execJmps env σ c jmps).1) :
    execJmps env σ c (jmps.map fun j => { j with term := mapJmpExprs f j.term }) = execJmps env σ c jmps := by
  induction jmps with
  | nil => rfl
  | cons j js ih =>
    have hfj := hf j List.mem_cons_self
    have hfjs : ∀ j' ∈ js, ∀ e ∈ jmpExprs j'.term, Refines σ f e := fun j' h => hf j' (List.mem_cons_of_mem _ h)
    obtain ⟨jt, jterm⟩ := j
    cases jterm with
    | Branch t => rfl
    | Call t r => rfl
    | CallOther d r => rfl
    | CBranch t cnd =>
      simp only [List.map, Sem.execJmps, mapJmpExprs] at hns ⊢
      cases he : eval σ cnd with
      | none => rw [he] at hns; exact absurd hns (not_noStuck_stuck _)
      | some v =>
        rw [hfj cnd (.head _) v he]
        rw [he] at hns
        simp only at hns ⊢
        split
        · rfl
        · next hz => rw [if_neg hz] at hns; exact ih hfjs hns
    | BranchInd e | CallInd e _ | Return e =>
      simp only [List.map, Sem.execJmps, mapJmpExprs] at hns ⊢
      cases he : eval σ e with
      | none => rw [he] at hns; exact absurd hns (not_noStuck_stuck _)
      | some v => rw [hfj e (.head _) v he]

def DefsBoolOk : List (Term Def) → State → Prop
  | [], _ => True
  | d :: ds, σ => (∀ e ∈ defExprs d.term, boolOk σ e = true) ∧
      ∀ σ' evs, execDef σ d.term = some (σ', evs) → DefsBoolOk ds σ'

theorem defsBoolOk_cons {d : Term Def} {ds : List (Term Def)} {σ : State} :
    DefsBoolOk (d :: ds) σ ↔ (∀ e ∈ defExprs d.term, boolOk σ e = true) ∧
      ∀ σ' evs, execDef σ d.term = some (σ', evs) → DefsBoolOk ds σ' := Iff.rfl

/-- H1 along a run of at most `n` blocks starting at block `t` in state `σ` -/
def RunOk (env : Env) (blocks : List (Term Blk)) : Nat → Tid → State → Nat → Prop
  | 0, _, _, _ => True
  | n + 1, t, σ, c => ∀ b, blocks.find? (fun b => b.tid == t) = some b →
      DefsBoolOk b.term.defs σ ∧ ∀ σ₁ evs, execDefs σ b.term.defs = some (σ₁, evs) →
        (∀ j ∈ b.term.jmps, ∀ e ∈ jmpExprs j.term, boolOk σ₁ e = true) ∧
        ∀ evs₂ t₂ σ₂ c₂, execJmps env σ₁ c b.term.jmps = (evs₂, .goto t₂ σ₂ c₂) → RunOk env blocks n t₂ σ₂ c₂

theorem wellSized_of_defExprs {ptr : Nat} {d : Def} (h : WellSizedDef ptr d) : ∀ e ∈ defExprs d, WellSized e := by
  cases d with
  | Assign v e => intro x hx; simp only [defExprs, List.mem_singleton] at hx; subst hx; exact h.2.1
  | Load v a => intro x hx; simp only [defExprs, List.mem_singleton] at hx; subst hx; exact h.2.1
  | Store a e =>
    intro x hx
    simp only [defExprs, List.mem_cons, List.not_mem_nil, or_false] at hx
    rcases hx with rfl | rfl
    · exact h.1.1
    · exact h.2

theorem wellSized_of_jmpExprs {ptr : Nat} {j : Jmp} (h : WellSizedJmp ptr j) : ∀ e ∈ jmpExprs j, WellSized e := by
  cases j with
  | CBranch _ _ | BranchInd _ | CallInd _ _ | Return _ => intro x hx; cases List.mem_singleton.mp hx; exact h.1
  | Branch _ | Call _ _ | CallOther _ _ => exact fun _ hx => nomatch hx

theorem refines_substTrivial {σ : State} (hσ : StateWF σ) {e : Expression} (hw : WellSized e)
    (hb : boolOk σ e = true) : Refines σ substTrivial e :=
  fun _ hv => (substTrivial_eval hσ hw hb hv).1

theorem defsRefine_substTrivial {ptr : Nat} {defs : List (Term Def)} {σ : State} (hσ : StateWF σ)
    (hw : ∀ d ∈ defs, WellSizedDef ptr d.term) (hb : DefsBoolOk defs σ) : DefsRefine substTrivial defs σ := by
  induction defs generalizing σ with
  | nil => trivial
  | cons d ds ih =>
    have hwd := hw d List.mem_cons_self
    refine ⟨fun e he => refines_substTrivial hσ (wellSized_of_defExprs hwd e he) (hb.1 e he), ?_⟩
    intro σ' evs hd
    exact ih (hσ.execDef hd) (fun x hx => hw x (List.mem_cons_of_mem _ hx)) (hb.2 σ' evs hd)

theorem find?_tid_map {α : Type} (f : Term α → Term α) (hf : ∀ b, (f b).tid = b.tid) (l : List (Term α)) (t : Tid) :
    (l.map f).find? (fun b => b.tid == t) = (l.find? (fun b => b.tid == t)).map f := by
  simp only [List.find?_map, Function.comp_def, hf]

theorem find?_mapBlk_some {g : Term Blk → Term Blk} {blocks : List (Term Blk)} {t : Tid} {b b' : Term Blk}
    (hb : blocks.find? (fun b => b.tid == t) = some b) (hb' : (blocks.map g).find? (fun b => b.tid == t) = some b')
    (hg : ∀ b, (g b).tid = b.tid) : b' = g b := by
  rw [find?_tid_map g hg, hb] at hb'
  exact (Option.some.inj hb').symm

end CweModel.C10
