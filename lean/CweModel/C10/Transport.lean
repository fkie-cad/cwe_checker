/-
C10 — the structural hypotheses of the run-level theorems, and the passes that keep them.

`CfOk` is what control flow propagation asks of a program (executable form: `cfOkB`, ControlFlow.lean).

Expression propagation (both of its stages), trivial expression substitution, dead variable elimination and the
retargeting of jumps keep the control-flow skeleton of a program: the same functions and blocks (by tid), the
same jumps up to their expressions and their jump targets or return sites, the same indirect-jump hints
(`KeepsCfg`). `CfOk` and `dveShapeOk` (DeadVars.lean) depend on that skeleton only (`cfOk_keeps`,
`dveShapeOk_keeps`), so it is enough to require them of the INPUT program; `subCfgOk` (Propagation.lean) of a
function of the program follows from `CfOk` (`subCfgOk_of_cfOk`).
-/
import CweModel.C10.ControlFlowProofs
import CweModel.C10.RunPropagation

namespace CweModel.C10
open CweModel CweModel.IR CweModel.Sem

namespace CF

/-- zero, one or two jumps, the first of two a `CBranch` (`Cfg.jmpShapeOk`) -/
def jmpShape (a : Term Blk) : Prop :=
  match a.term.jmps with
  | [] | [_] => True
  | [j, _] => ∃ t c, j.term = .CBranch t c
  | _ => False

/-- a direct call with a return site has a CFG edge to the return site -/
def CallRetOk (p : Program) (j : Term Jmp) : Prop :=
  ∀ callee r, j.term = .Call callee (some r) →
    isExternTid p callee = true ∨
      ∃ sc, internalCallee p callee = some sc ∧ sc.term.blocks.filter hasReturnJmp ≠ []

structure BlkOk (p : Program) (a : Term Blk) : Prop where
  shape : jmpShape a
  noCallOtherRet : ∀ j ∈ a.term.jmps, ∀ d r, j.term ≠ .CallOther d (some r)
  callRet : ∀ j ∈ a.term.jmps, CallRetOk p j

theorem jmpShape.length_le {a : Term Blk} (h : jmpShape a) : a.term.jmps.length ≤ 2 := by
  unfold jmpShape at h
  split at h
  · next heq => rw [heq]; exact Nat.zero_le 2
  · next heq => rw [heq]; exact Nat.le_succ 1
  · next heq => rw [heq]; exact Nat.le_refl 2
  · exact h.elim

end CF

open CF

/-- **Structural hypotheses on the program** (all established by `Project::normalize_basic` / assumed by
`analysis/graph.rs`, except the two recorded limitations):
* `jmpTids`: jump tids are unique in the program (the retarget map is keyed by jump tid);
* `blkTids`: block tids are unique in the program (`get_nodes_without_incoming_edge` is keyed by block tid);
* `blks`: every block has at most two jumps, the first of two a `CBranch` (`jmpShape`); no `CallOther` has a
  return site (the CFG has no edge for it: recorded known limitation — the theorem is false without it);
  every `Call callee (some r)` targets an extern symbol or an internal function with a returning block
  (otherwise the CFG has no edge to the return site although the interpreter continues there). -/
structure CfOk (p : Program) : Prop where
  jmpTids : JmpTidsUnique p
  blkTids : BlkTidsUnique p
  blks : ∀ s ∈ p.subs, ∀ b ∈ s.term.blocks, BlkOk p b

theorem CF.blkOkB_sound {p : Program} {a : Term Blk} (h : blkOkB p a = true) : BlkOk p a := by
  simp only [blkOkB, Bool.and_eq_true, List.all_eq_true] at h
  obtain ⟨hs, hj⟩ := h
  refine ⟨?_, ?_, ?_⟩
  · simp only [jmpShapeB] at hs
    simp only [jmpShape]
    split at hs
    · next heq => simp only [heq]
    · next heq => simp only [heq]
    · next j j₂ heq =>
      simp only [heq]
      split at hs
      · next t c hjt => exact ⟨t, c, hjt⟩
      · cases hs
    · cases hs
  · intro j hjm d r hjt
    have := (hj j hjm).1
    simp [noCallOtherRetB, hjt] at this
  · intro j hjm callee r hjt
    have := (hj j hjm).2
    simp only [callRetOkB, hjt, Bool.or_eq_true] at this
    rcases this with h | h
    · exact .inl h
    · right
      cases hic : internalCallee p callee with
      | none => rw [hic] at h; cases h
      | some sc =>
        rw [hic] at h
        refine ⟨sc, rfl, ?_⟩
        intro hnil
        simp only [hnil] at h
        cases h

theorem cfOkB_sound {p : Program} (h : cfOkB p = true) : CfOk p := by
  simp only [cfOkB, Bool.and_eq_true, decide_eq_true_eq, List.all_eq_true] at h
  exact ⟨h.1.1, h.1.2, fun s hs b hb => blkOkB_sound (h.2 s hs b hb)⟩

theorem subCfgOk_of_cfOk {p : Program} (h : CfOk p) {s : Term Sub} (hs : s ∈ p.subs) : subCfgOk p s = true := by
  simp only [subCfgOk, List.all_eq_true, Bool.and_eq_true, decide_eq_true_eq]
  intro b hb
  have hb' := h.blks s hs b hb
  refine ⟨hb'.shape.length_le, fun j hj => ?_⟩
  cases hjt : j.term with
  | Call callee r =>
    cases r with
    | none => rfl
    | some r =>
      simp only [jmpCfgOk, Bool.or_eq_true]
      rcases hb'.callRet j hj callee r hjt with hext | ⟨sc, hsc, hne⟩
      · exact .inl hext
      · right
        rw [hsc]
        simp only [List.any_eq_true]
        cases hf : sc.term.blocks.filter hasReturnJmp with
        | nil => exact absurd hf hne
        | cons rb _ =>
          have hm : rb ∈ sc.term.blocks.filter hasReturnJmp := by rw [hf]; exact List.mem_cons_self
          exact ⟨rb, (List.mem_filter.mp hm).1, (List.mem_filter.mp hm).2⟩
  | CallOther d r =>
    cases r with
    | none => rfl
    | some r => exact absurd hjt (hb'.noCallOtherRet j hj d r)
  | Branch _ => rfl
  | CBranch _ _ => rfl
  | BranchInd _ => rfl
  | CallInd _ _ => rfl
  | Return _ => rfl

def mapTermJmp (f : Expression → Expression) (g : Tid → Tid → Tid) (j : Term Jmp) : Term Jmp :=
  { j with term := Jmp.mapTarget (g j.tid) (mapJmpExprs f j.term) }

structure KeepsCfg (g : Term Sub → Term Blk → Term Blk) : Prop where
  tid : ∀ s b, (g s b).tid = b.tid
  hints : ∀ s b, (g s b).term.indirectJmpTargets = b.term.indirectJmpTargets
  jmps : ∀ s b, ∃ f t, (g s b).term.jmps = b.term.jmps.map (mapTermJmp f t)

def mapCfg (g : Term Sub → Term Blk → Term Blk) (p : Program) : Program :=
  mapProgramSubs (fun s => mapSubBlocks (g s) s) p

theorem mapTermJmp_exprs (f : Expression → Expression) (j : Term Jmp) :
    mapTermJmp f (fun _ t => t) j = { j with term := mapJmpExprs f j.term } := by
  obtain ⟨jt, jterm⟩ := j
  rcases jterm with _ | _ | _ | ⟨_, _ | _⟩ | ⟨_, _ | _⟩ | _ | ⟨_, _ | _⟩ <;> rfl

theorem KeepsCfg.of_exprs {g : Term Sub → Term Blk → Term Blk} (tid : ∀ s b, (g s b).tid = b.tid)
    (hints : ∀ s b, (g s b).term.indirectJmpTargets = b.term.indirectJmpTargets)
    (jmps : ∀ s b, ∃ f, (g s b).term.jmps = b.term.jmps.map fun j => { j with term := mapJmpExprs f j.term }) :
    KeepsCfg g := by
  refine ⟨tid, hints, fun s b => ?_⟩
  obtain ⟨f, hf⟩ := jmps s b
  exact ⟨f, fun _ t => t, by rw [hf, funext (mapTermJmp_exprs f)]⟩

theorem mapJmpExprs_id (j : Jmp) : mapJmpExprs (fun e => e) j = j := by cases j <;> rfl

section
variable (f : Expression → Expression) (g : Tid → Tid)

theorem isCBranchJmp_map (j : Jmp) : isCBranchJmp (Jmp.mapTarget g (mapJmpExprs f j)) = isCBranchJmp j := by
  rcases j with _ | _ | _ | ⟨_, _ | _⟩ | ⟨_, _ | _⟩ | _ | ⟨_, _ | _⟩ <;> rfl

theorem map_eq_callOther {j : Jmp} {d : String} {r : Tid}
    (h : Jmp.mapTarget g (mapJmpExprs f j) = .CallOther d (some r)) : ∃ r', j = .CallOther d (some r') := by
  rcases j with _ | _ | _ | ⟨_, _ | _⟩ | ⟨_, _ | _⟩ | _ | ⟨_, _ | r'⟩ <;> cases h
  exact ⟨r', rfl⟩

theorem map_eq_call {j : Jmp} {c r : Tid}
    (h : Jmp.mapTarget g (mapJmpExprs f j) = .Call c (some r)) : ∃ r', j = .Call c (some r') := by
  rcases j with _ | _ | _ | ⟨_, _ | r'⟩ | ⟨_, _ | _⟩ | _ | ⟨_, _ | _⟩ <;> cases h
  exact ⟨r', rfl⟩

end

theorem hasReturnJmp_keeps {g : Term Sub → Term Blk → Term Blk} (hg : KeepsCfg g) (s : Term Sub) (b : Term Blk) :
    hasReturnJmp (g s b) = hasReturnJmp b := by
  obtain ⟨f, t, hf⟩ := hg.jmps s b
  simp only [hasReturnJmp, hf, List.any_map]
  congr 1
  funext ⟨jt, jterm⟩
  rcases jterm with _ | _ | _ | ⟨_, _ | _⟩ | ⟨_, _ | _⟩ | _ | ⟨_, _ | _⟩ <;> rfl

theorem mem_mapCfg_subs {g : Term Sub → Term Blk → Term Blk} {p : Program} {s' : Term Sub} :
    s' ∈ (mapCfg g p).subs ↔ ∃ s ∈ p.subs, s' = mapSubBlocks (g s) s := by
  simp only [mapCfg, mapProgramSubs, List.mem_map]
  constructor
  · rintro ⟨s, hs, rfl⟩; exact ⟨s, hs, rfl⟩
  · rintro ⟨s, hs, rfl⟩; exact ⟨s, hs, rfl⟩

theorem mem_mapSubBlocks {g : Term Blk → Term Blk} {s : Term Sub} {b' : Term Blk} :
    b' ∈ (mapSubBlocks g s).term.blocks ↔ ∃ b ∈ s.term.blocks, b' = g b := by
  simp only [mapSubBlocks, List.mem_map]
  constructor
  · rintro ⟨b, hb, rfl⟩; exact ⟨b, hb, rfl⟩
  · rintro ⟨b, hb, rfl⟩; exact ⟨b, hb, rfl⟩

theorem dveBlkOk_keeps {g : Term Sub → Term Blk → Term Blk} (hg : KeepsCfg g) (s : Term Sub) (b : Term Blk) :
    dveBlkOk (g s b) = dveBlkOk b := by
  obtain ⟨f, t, hf⟩ := hg.jmps s b
  unfold dveBlkOk
  rw [hf, hg.hints]
  match b.term.jmps with
  | [] => rfl
  | [j] => simp only [List.map, mapTermJmp, isCBranchJmp_map]
  | [j₁, ⟨jt, jterm⟩] =>
    simp only [List.map, mapTermJmp, isCBranchJmp_map]
    rcases jterm with _ | _ | _ | ⟨_, _ | _⟩ | ⟨_, _ | _⟩ | _ | ⟨_, _ | _⟩ <;> rfl
  | _ :: _ :: _ :: _ => rfl

theorem dveShapeOk_keeps {g : Term Sub → Term Blk → Term Blk} (hg : KeepsCfg g) (s : Term Sub)
    (blocks : List (Term Blk)) : dveShapeOk (blocks.map (g s)) = dveShapeOk blocks := by
  simp only [dveShapeOk, List.all_map]
  congr 1
  funext b
  exact dveBlkOk_keeps hg s b

theorem blkOk_keeps {g : Term Sub → Term Blk → Term Blk} (hg : KeepsCfg g) {p : Program} (s : Term Sub) {b : Term Blk}
    (h : BlkOk p b) : BlkOk (mapCfg g p) (g s b) := by
  obtain ⟨f, t, hf⟩ := hg.jmps s b
  refine ⟨?_, ?_, ?_⟩
  · have hs := h.shape
    unfold jmpShape at hs ⊢
    rw [hf]
    match hjm : b.term.jmps with
    | [] => trivial
    | [j] => trivial
    | [j₁, j₂] =>
      rw [hjm] at hs
      obtain ⟨tgt, c, hj⟩ := hs
      exact ⟨t j₁.tid tgt, f c, by simp only [mapTermJmp, hj]; rfl⟩
    | _ :: _ :: _ :: _ => rw [hjm] at hs; exact hs.elim
  · intro j' hj' d r hjt
    rw [hf] at hj'
    obtain ⟨j, hj, rfl⟩ := List.mem_map.mp hj'
    obtain ⟨r', hr'⟩ := map_eq_callOther f _ hjt
    exact h.noCallOtherRet j hj d r' hr'
  · intro j' hj' callee r hjt
    rw [hf] at hj'
    obtain ⟨j, hj, rfl⟩ := List.mem_map.mp hj'
    obtain ⟨r', hr'⟩ := map_eq_call f _ hjt
    rcases h.callRet j hj callee r' hr' with hext | ⟨sc, hsc, hne⟩
    · exact .inl hext
    · right
      refine ⟨mapSubBlocks (g sc) sc, by rw [mapCfg, internalCallee_mapBlocks, hsc]; rfl, fun hnil => ?_⟩
      -- the image of a returning block of `sc` is a returning block of the image of `sc`
      obtain ⟨bb, hbb⟩ := List.exists_mem_of_ne_nil _ hne
      obtain ⟨hbm, hr⟩ := List.mem_filter.mp hbb
      have hm : g sc bb ∈ (mapSubBlocks (g sc) sc).term.blocks.filter hasReturnJmp :=
        List.mem_filter.mpr ⟨mem_mapSubBlocks.mpr ⟨bb, hbm, rfl⟩, by rw [hasReturnJmp_keeps hg]; exact hr⟩
      rw [hnil] at hm
      cases hm

theorem jmpTidsUnique_keeps {g : Term Sub → Term Blk → Term Blk} (hg : KeepsCfg g) {p : Program}
    (h : JmpTidsUnique p) : JmpTidsUnique (mapCfg g p) := by
  intro s₁' hs₁ b₁' hb₁ j₁' hj₁ s₂' hs₂ b₂' hb₂ j₂' hj₂ heq
  obtain ⟨s₁, hs₁m, rfl⟩ := mem_mapCfg_subs.mp hs₁
  obtain ⟨s₂, hs₂m, rfl⟩ := mem_mapCfg_subs.mp hs₂
  obtain ⟨b₁, hb₁m, rfl⟩ := mem_mapSubBlocks.mp hb₁
  obtain ⟨b₂, hb₂m, rfl⟩ := mem_mapSubBlocks.mp hb₂
  obtain ⟨f₁, t₁, hf₁⟩ := hg.jmps s₁ b₁
  obtain ⟨f₂, t₂, hf₂⟩ := hg.jmps s₂ b₂
  rw [hf₁] at hj₁
  rw [hf₂] at hj₂
  obtain ⟨j₁, hj₁m, rfl⟩ := List.mem_map.mp hj₁
  obtain ⟨j₂, hj₂m, rfl⟩ := List.mem_map.mp hj₂
  obtain ⟨rfl, rfl, rfl⟩ := h s₁ hs₁m b₁ hb₁m j₁ hj₁m s₂ hs₂m b₂ hb₂m j₂ hj₂m heq
  -- both images are members of the same jump list `(g s₂ b₂).term.jmps`
  rw [hf₂] at hf₁
  exact ⟨rfl, rfl, List.map_inj_left.mp hf₁ j₂ hj₁m⟩

theorem blkTidsUnique_keeps {g : Term Sub → Term Blk → Term Blk} (hg : KeepsCfg g) {p : Program}
    (h : BlkTidsUnique p) : BlkTidsUnique (mapCfg g p) := by
  intro s₁' hs₁ b₁' hb₁ s₂' hs₂ b₂' hb₂ heq
  obtain ⟨s₁, hs₁m, rfl⟩ := mem_mapCfg_subs.mp hs₁
  obtain ⟨s₂, hs₂m, rfl⟩ := mem_mapCfg_subs.mp hs₂
  obtain ⟨b₁, hb₁m, rfl⟩ := mem_mapSubBlocks.mp hb₁
  obtain ⟨b₂, hb₂m, rfl⟩ := mem_mapSubBlocks.mp hb₂
  rw [hg.tid, hg.tid] at heq
  obtain ⟨rfl, rfl⟩ := h s₁ hs₁m b₁ hb₁m s₂ hs₂m b₂ hb₂m heq
  exact ⟨rfl, rfl⟩

/-- **C10-skeleton.** A pass that keeps the control-flow skeleton keeps the structural hypotheses `CfOk`. -/
theorem cfOk_keeps {g : Term Sub → Term Blk → Term Blk} (hg : KeepsCfg g) {p : Program} (h : CfOk p) :
    CfOk (mapCfg g p) := by
  refine ⟨jmpTidsUnique_keeps hg h.jmpTids, blkTidsUnique_keeps hg h.blkTids, ?_⟩
  intro s' hs' b' hb'
  obtain ⟨s, hs, rfl⟩ := mem_mapCfg_subs.mp hs'
  obtain ⟨b, hb, rfl⟩ := mem_mapSubBlocks.mp hb'
  exact blkOk_keeps hg s (h.blks s hs b hb)

theorem keepsCfg_merge : KeepsCfg (fun _ => mergeDefAssignmentsToSameVar) :=
  .of_exprs (fun _ _ => rfl) (fun _ _ => rfl) fun _ b =>
    ⟨fun e => e, by simp only [mapJmpExprs_id]; exact (List.map_id' _).symm⟩

theorem keepsCfg_propagate (m : TableMap) : KeepsCfg (fun _ => propagateBlockWith m) :=
  .of_exprs (fun _ _ => rfl) (fun _ _ => rfl) fun _ b => ⟨_, propagateBlock_jmps _ b⟩

theorem keepsCfg_trivial : KeepsCfg (fun _ => mapBlkExprs substTrivial) :=
  .of_exprs (fun _ _ => rfl) (fun _ _ => rfl) fun _ _ => ⟨substTrivial, rfl⟩

theorem keepsCfg_removeDead (phys : VarSet) :
    KeepsCfg (fun s => removeDeadBlock (computeAliveVars phys s.term.blocks)) :=
  .of_exprs (fun _ _ => rfl) (fun _ _ => rfl) fun _ b =>
    ⟨fun e => e, by simp only [mapJmpExprs_id]; exact (List.map_id' _).symm⟩

def CF.retBlk (m : List (Tid × Tid)) (b : Term Blk) : Term Blk :=
  { b with term := { b.term with jmps := b.term.jmps.map (retargetJmp m) } }

theorem retargetJumps_eq (m : List (Tid × Tid)) (p : Program) : retargetJumps m p = mapCfg (fun _ => retBlk m) p := rfl

theorem keepsCfg_retarget (m : List (Tid × Tid)) : KeepsCfg (fun _ => retBlk m) := by
  have h : retargetJmp m = mapTermJmp (fun e => e) (newTgt m) := by
    rw [retargetJmp_eq]; funext j; simp only [mapTermJmp, mapJmpExprs_id]
  exact ⟨fun _ _ => rfl, fun _ _ => rfl, fun _ b => ⟨_, _, by rw [← h]; rfl⟩⟩

theorem cfOk_stage2 (m : TableMap) {p : Program} (h : CfOk p) :
    CfOk (substTrivialProgram (propagateProgramWith m (mergeAssignmentsProgram p))) :=
  cfOk_keeps keepsCfg_trivial (cfOk_keeps (keepsCfg_propagate m) (cfOk_keeps keepsCfg_merge h))

theorem cfOk_stage3 (m : TableMap) (phys : VarSet) {p : Program} (h : CfOk p) :
    CfOk (removeDeadProgram phys (substTrivialProgram (propagateProgramWith m (mergeAssignmentsProgram p)))) :=
  cfOk_keeps (keepsCfg_removeDead phys) (cfOk_stage2 m h)

theorem cfOk_stages (phys : VarSet) {p : Program} (h : CfOk p) :
    CfOk (removeDeadProgram phys (substTrivialProgram (propagateProgram p))) :=
  cfOk_stage3 _ phys h

end CweModel.C10
