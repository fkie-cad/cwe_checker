/-
C10 pass 3, run level — dead-variable elimination preserves the observable trace of every function.

For ANY liveness map `m` that is a post-fixpoint of the liveness equations (`aliveClosed`, executable) the
function with the dead assignments removed produces, from the same initial state, the same observable trace
(`Spec.observable`: the state snapshot of an indirect-jump event is dropped — the pass legitimately uses the
liveness at the known targets of an indirect jump), provided the run of the original function
  * does not get stuck (H3), and
  * keeps the hypothesis H2 "non-physical registers are local" (`RunLocals`): every variable that is read is
    a physical register (member of `phys`) or was assigned earlier in the run since the last call.
The simulation relates the state `σ` of the original run and the state `σ'` of the new run by agreement on
the variables that are alive AND (physical or assigned since the last call) — `AgreeL`; a call havocs the
physical registers identically on both sides and empties the set of assigned locals.

Structural hypothesis `dveShapeOk`: no jump, one unconditional jump, or a conditional jump followed by a
jump that always has a CFG edge.

Second part: the check `Spec.hypRun`, which the driver evaluates on every run of the unoptimised function, implies
H1 and H2 of that run (`hypRun_sound`, from it `runOk_of_hypRun` and `runLocals_of_hypRun`).
-/
import CweModel.C10.RunPropagation
import CweModel.C10.DeadVarsProofs

namespace CweModel.C10
open CweModel CweModel.IR CweModel.Sem

def AgreeL (phys : VarSet) (A : VarSet) (D : List Variable) (σ₁ σ₂ : State) : Prop :=
  AgreeOn (A.filter fun v => v ∈ phys ∨ v ∈ D) σ₁ σ₂

theorem mem_filter_local {phys A : VarSet} {D : List Variable} {v : Variable} :
    v ∈ A.filter (fun v => v ∈ phys ∨ v ∈ D) ↔ v ∈ A ∧ (v ∈ phys ∨ v ∈ D) :=
  List.mem_filter.trans (and_congr_right fun _ => decide_eq_true_iff)

theorem AgreeL.mono {phys A B : VarSet} {D : List Variable} {σ₁ σ₂ : State} (h : AgreeL phys A D σ₁ σ₂)
    (hBA : ∀ v ∈ B, v ∈ A) : AgreeL phys B D σ₁ σ₂ :=
  AgreeOn.mono h fun v hv => mem_filter_local.mpr (And.imp_left (hBA v) (mem_filter_local.mp hv))

theorem AgreeL.eval {phys A : VarSet} {D : List Variable} {σ₁ σ₂ : State} (h : AgreeL phys A D σ₁ σ₂)
    {e : Expression} (he : ∀ v ∈ e.inputVars, v ∈ A) (hl : ExprLocal phys D e) : eval σ₁ e = eval σ₂ e :=
  AgreeOn.eval h fun v hv => mem_filter_local.mpr ⟨he v hv, hl v hv⟩

theorem AgreeL.phys {phys E : VarSet} {D : List Variable} {σ₁ σ₂ : State} (h : AgreeL phys E D σ₁ σ₂)
    (hE : ∀ v ∈ phys, v ∈ E) : AgreeOn phys σ₁ σ₂ :=
  AgreeOn.mono h fun v hv => mem_filter_local.mpr ⟨hE v hv, .inl hv⟩

theorem AgreeL.havoc {phys E : VarSet} {D : List Variable} {σ₁ σ₂ : State} (h : AgreeL phys E D σ₁ σ₂)
    (hE : ∀ v ∈ phys, v ∈ E) (X : VarSet) (regs : List Variable) (sp : Variable) (site : String) (nth : Nat) :
    AgreeL phys X [] (Sem.havoc σ₁ regs sp site nth) (Sem.havoc σ₂ regs sp site nth) :=
  ((h.phys hE).havoc regs sp site nth).mono fun _ hv =>
    (mem_filter_local.mp hv).2.resolve_right List.not_mem_nil

theorem mem_assigned_or_alive_local {phys A : VarSet} {D : List Variable} (d : Def) {v : Variable}
    (hv : v ∈ A.filter fun v => v ∈ phys ∨ v ∈ defdAfterDef D d) :
    v ∈ (assignedVar d).toList ++ (updateAliveByDef A d).filter fun v => v ∈ phys ∨ v ∈ D := by
  obtain ⟨hA, hl⟩ := mem_filter_local.mp hv
  rw [mem_defdAfterDef, or_left_comm] at hl
  rw [List.mem_append, mem_filter_local]
  rcases List.mem_append.mp (mem_assigned_or_alive d hA) with h | h
  · exact .inl h
  · exact hl.imp_right fun hl => ⟨h, hl⟩

/-- **C10-dead-variables-local.** The backward transfer is sound for agreement restricted to local variables:
if `σ₁` and `σ₂` agree on the variables alive before the defs that are physical or assigned since the last call,
the defs keep H2 and the original defs execute from `σ₁`, then the cleaned defs execute from `σ₂` with the same
memory events and the final states agree on the alive variables that are physical or assigned by now. -/
theorem removeDeadDefs_soundL (phys A : VarSet) (defs : List (Term Def)) {D : List Variable} {σ₁ σ₂ σ₁' : State}
    {evs : List Event} (h : AgreeL phys (aliveBeforeDefs A defs) D σ₁ σ₂) (hl : DefsLocal phys D defs)
    (hd : execDefs σ₁ defs = some (σ₁', evs)) :
    ∃ σ₂', execDefs σ₂ (removeDeadDefs A defs).1 = some (σ₂', evs) ∧ AgreeL phys A (defdAfter D defs) σ₁' σ₂' := by
  induction defs generalizing σ₁ σ₂ evs D with
  | nil => cases hd; exact ⟨σ₂, rfl, h⟩
  | cons d ds ih =>
    obtain ⟨σm, e₁, σe, e₂, h1, h2, hr⟩ := execDefs_cons_some.mp hd
    cases hr
    change AgreeL phys (updateAliveByDef (aliveBeforeDefs A ds) d.term) D σ₁ σ₂ at h
    rw [removeDeadDefs_cons]
    split
    · next hk =>
      obtain ⟨σ₂m, hx, hag⟩ := AgreeOn.execDef h
        (fun e he v hv => mem_filter_local.mpr ⟨inputVars_alive hk e he v hv, hl.1 e he v hv⟩) h1
      obtain ⟨σ₂', hy, hag'⟩ := ih (hag.mono fun v => mem_assigned_or_alive_local d.term) hl.2 h2
      exact ⟨σ₂', execDefs_cons_some.mpr ⟨_, _, _, _, hx, hy, rfl⟩, hag'⟩
    · next hk =>
      obtain ⟨v, e, hdt, hv, hA⟩ := keepDef_false hk
      rw [hA] at h
      rw [hdt] at h1
      obtain ⟨rfl, hag⟩ := AgreeOn.execDef_left h (fun hm => hv (mem_filter_local.mp hm).1) h1
      refine ih (hag.mono fun w hw => ?_) hl.2 h2
      -- `v` is not alive, so that `v` is assigned now adds nothing
      have := mem_assigned_or_alive_local d.term hw
      rw [hA, hdt] at this
      exact (List.mem_cons.mp this).resolve_left fun e => hv (e ▸ (mem_filter_local.mp hw).1)

/-- what the reference interpreter reads when it executes the jump `j` is alive in `E`: the variables of the jump
expressions; the variables alive at the target of a direct jump; all physical registers where the state is
observed (calls, returns) -/
def JmpLive (phys : VarSet) (aliveStart : Tid → VarSet) (E : VarSet) (j : Jmp) : Prop :=
  (∀ e ∈ jmpExprs j, ∀ v ∈ e.inputVars, v ∈ E) ∧
    match j with
    | .Branch t | .CBranch t _ => ∀ v ∈ aliveStart t, v ∈ E
    | .BranchInd _ => True
    | _ => ∀ v ∈ phys, v ∈ E

theorem jmpLive_of_contribution {phys E s : VarSet} {aliveStart : Tid → VarSet} {targets : List Tid} {j : Jmp}
    {u : Option Jmp} (hc : jmpContribution phys aliveStart targets j u = some s) (hs : ∀ v ∈ s, v ∈ E) :
    JmpLive phys aliveStart E j := by
  cases j with
  | Branch t =>
    cases hc
    exact ⟨List.forall_mem_nil _, (insertAll_subset_iff.mp (insertAll_subset_iff.mp hs).1).1⟩
  | CBranch t c =>
    cases hc
    have h := insertAll_subset_iff.mp (insertAll_subset_iff.mp hs).1
    exact ⟨List.forall_mem_singleton.mpr h.2, h.1⟩
  | BranchInd e =>
    cases targets with
    | nil => cases hc
    | cons t ts =>
      cases hc
      refine ⟨List.forall_mem_singleton.mpr fun v hv => hs v ?_, trivial⟩
      exact (mem_branchInd_fold _ _).mpr (.inr ⟨t, List.mem_cons_self, .inr (.inl hv)⟩)
  | Call t r => cases hc; exact ⟨List.forall_mem_nil _, hs⟩
  | CallInd e r =>
    cases hc
    have h := insertAll_subset_iff.mp hs
    exact ⟨List.forall_mem_singleton.mpr h.2, h.1⟩
  | CallOther d r => cases hc
  | Return e =>
    cases hc
    have h := insertAll_subset_iff.mp hs
    exact ⟨List.forall_mem_singleton.mpr h.2, h.1⟩

theorem jmpLive_of_deadEnd {phys E : VarSet} {aliveStart : Tid → VarSet} {targets : List Tid} {j : Term Jmp}
    {u : Option Jmp} (hc : jmpContribution phys aliveStart targets j.term u = none)
    (hs : ∀ v ∈ deadEndAlive phys [j], v ∈ E) : JmpLive phys aliveStart E j.term := by
  have hphys : ∀ v ∈ phys, v ∈ E := fun v hv => hs v ((mem_deadEndAlive _).mpr (.inl hv))
  refine ⟨fun e he v hv => hs v ((mem_deadEndAlive _).mpr (.inr ⟨j, List.mem_cons_self, e, he, hv⟩)), ?_⟩
  cases hj : j.term with
  | Branch t => rw [hj] at hc; cases hc
  | CBranch t c => rw [hj] at hc; cases hc
  | BranchInd e => trivial
  | _ => exact hphys

/-- second part: if all jumps are conditional the run can fall through to the dead end, where the physical
registers are observed -/
theorem jmpsLive_of_closed {phys E : VarSet} {aliveStart : Tid → VarSet} {b : Term Blk} (hshape : dveBlkOk b = true)
    (hclosed : ∀ v ∈ aliveEndOf phys aliveStart b, v ∈ E) :
    (∀ j ∈ b.term.jmps, JmpLive phys aliveStart E j.term) ∧
      ((∀ j ∈ b.term.jmps, isCBranchJmp j.term = true) → ∀ v ∈ phys, v ∈ E) := by
  unfold dveBlkOk at hshape
  unfold aliveEndOf at hclosed
  match hjm : b.term.jmps with
  | [] =>
    rw [hjm] at hclosed
    exact ⟨List.forall_mem_nil _, fun _ => hclosed⟩
  | [j] =>
    rw [hjm] at hclosed hshape
    dsimp only at hclosed hshape
    refine ⟨fun j' hj' => ?_, fun hall => ?_⟩
    · cases List.mem_singleton.mp hj'
      cases hc : jmpContribution phys aliveStart b.term.indirectJmpTargets j.term none with
      | none => rw [hc] at hclosed; exact jmpLive_of_deadEnd hc hclosed
      | some s =>
        exact jmpLive_of_contribution hc fun v hv => hclosed v (mem_present (hc ▸ List.mem_cons_self) hv)
    · rw [hall j List.mem_cons_self] at hshape; cases hshape
  | [j₁, j₂] =>
    rw [hjm] at hclosed hshape
    dsimp only at hclosed hshape
    obtain ⟨hcb, hsh⟩ := Bool.and_eq_true_iff.mp hshape
    obtain ⟨t, cnd, hj₁⟩ := isCBranchJmp_iff.mp hcb
    have hc₁ : ∃ s, jmpContribution phys aliveStart b.term.indirectJmpTargets j₁.term none = some s := by
      rw [hj₁]; exact ⟨_, rfl⟩
    have hc₂ : ∃ s, jmpContribution phys aliveStart b.term.indirectJmpTargets j₂.term (some j₁.term) = some s := by
      cases hj₂ : j₂.term with
      | BranchInd e =>
        rw [hj₂] at hsh
        cases hts : b.term.indirectJmpTargets with
        | nil => rw [hts] at hsh; cases hsh
        | cons _ _ => exact ⟨_, rfl⟩
      | CBranch _ _ => rw [hj₂] at hsh; cases hsh
      | CallOther _ _ => rw [hj₂] at hsh; cases hsh
      | _ => exact ⟨_, rfl⟩
    obtain ⟨s₁, hc₁⟩ := hc₁
    obtain ⟨s₂, hc₂⟩ := hc₂
    refine ⟨fun j' hj' => ?_, fun hall => ?_⟩
    · rcases List.mem_cons.mp hj' with rfl | hj'
      · exact jmpLive_of_contribution hc₁ fun v hv => hclosed v (mem_present (hc₁ ▸ List.mem_cons_self) hv)
      · cases List.mem_singleton.mp hj'
        exact jmpLive_of_contribution hc₂ fun v hv =>
          hclosed v (mem_present (hc₂ ▸ List.mem_cons_of_mem _ List.mem_cons_self) hv)
    · obtain ⟨_, _, hj₂⟩ := isCBranchJmp_iff.mp (hall j₂ (List.mem_cons_of_mem _ List.mem_cons_self))
      rw [hj₂] at hsh; cases hsh
  | _ :: _ :: _ :: _ => rw [hjm] at hshape; cases hshape

/-- `c₂ ≠ c` means that the jump was a call: no local variable counts as assigned any more -/
inductive NextAgree (phys : VarSet) (aliveStart : Tid → VarSet) (c : Nat) (D : List Variable) : Next → Next → Prop
  | stop : NextAgree phys aliveStart c D .stop .stop
  | goto {t : Tid} {σ₂ σ₂' : State} {c₂ : Nat} :
    AgreeL phys (aliveStart t) (if c₂ = c then D else []) σ₂ σ₂' →
      NextAgree phys aliveStart c D (.goto t σ₂ c₂) (.goto t σ₂' c₂)

def JmpsAgree (env : Env) (phys : VarSet) (aliveStart : Tid → VarSet) (c : Nat) (D : List Variable)
    (σ₁ σ₁' : State) (jmps : List (Term Jmp)) : Prop :=
  (execJmps env σ₁' c jmps).1.map observable = (execJmps env σ₁ c jmps).1.map observable ∧
    NextAgree phys aliveStart c D (execJmps env σ₁ c jmps).2 (execJmps env σ₁' c jmps).2

theorem execJmps_cons_agree {env : Env} {phys E : VarSet} {aliveStart : Tid → VarSet} {D : List Variable}
    {σ₁ σ₁' : State} (c : Nat) (j : Term Jmp) (rest : List (Term Jmp))
    (hlive : JmpLive phys aliveStart E j.term) (hregs : ∀ v ∈ env.physRegs, v ∈ phys)
    (h : AgreeL phys E D σ₁ σ₁') (hloc : ∀ e ∈ jmpExprs j.term, ExprLocal phys D e)
    (hrest : isCBranchJmp j.term = true → JmpsAgree env phys aliveStart c D σ₁ σ₁' rest) :
    JmpsAgree env phys aliveStart c D σ₁ σ₁' (j :: rest) := by
  have he : ∀ e ∈ jmpExprs j.term, eval σ₁' e = eval σ₁ e := fun e he => (h.eval (hlive.1 e he) (hloc e he)).symm
  have hsn (hp : ∀ v ∈ phys, v ∈ E) : σ₁'.snapshot env.physRegs = σ₁.snapshot env.physRegs :=
    ((h.phys hp).snapshot hregs).symm
  have hcall (hp : ∀ v ∈ phys, v ∈ E) (rt : Tid) : AgreeL phys (aliveStart rt) (if c + 1 = c then D else [])
      (havoc σ₁ env.physRegs env.sp j.tid.id c) (havoc σ₁' env.physRegs env.sp j.tid.id c) := by
    rw [if_neg (Nat.succ_ne_self c)]; exact h.havoc hp _ _ _ _ _
  obtain ⟨jtid, jt⟩ := j
  unfold JmpsAgree
  rw [Sem.execJmps, Sem.execJmps]
  cases jt with
  | Branch t => exact ⟨rfl, .goto (by rw [if_pos rfl]; exact h.mono hlive.2)⟩
  | CBranch t cnd =>
    dsimp only
    rw [he cnd List.mem_cons_self]
    cases eval σ₁ cnd with
    | none => exact ⟨rfl, .stop⟩
    | some v =>
      dsimp only
      split
      · exact ⟨rfl, .goto (by rw [if_pos rfl]; exact h.mono hlive.2)⟩
      · exact hrest rfl
  | BranchInd e =>
    dsimp only
    rw [he e List.mem_cons_self]
    cases eval σ₁ e with
    | none => exact ⟨rfl, .stop⟩
    -- the snapshots differ (the physical registers need not be alive here), but `observable` drops them
    | some v => exact ⟨by simp only [List.map_cons, List.map_nil, observable], .stop⟩
  | Call t r =>
    dsimp only
    rw [hsn hlive.2]
    cases r with
    | none => exact ⟨rfl, .stop⟩
    | some rt => exact ⟨rfl, .goto (hcall hlive.2 rt)⟩
  | CallInd e r =>
    dsimp only
    rw [he e List.mem_cons_self, hsn hlive.2]
    cases eval σ₁ e with
    | none => exact ⟨rfl, .stop⟩
    | some v =>
      cases r with
      | none => exact ⟨rfl, .stop⟩
      | some rt => exact ⟨rfl, .goto (hcall hlive.2 rt)⟩
  | CallOther d r =>
    dsimp only
    rw [hsn hlive.2]
    cases r with
    | none => exact ⟨rfl, .stop⟩
    | some rt => exact ⟨rfl, .goto (hcall hlive.2 rt)⟩
  | Return e =>
    dsimp only
    rw [he e List.mem_cons_self, hsn hlive.2]
    cases eval σ₁ e <;> exact ⟨rfl, .stop⟩

theorem execJmps_agree_of_live {env : Env} {phys E : VarSet} {aliveStart : Tid → VarSet} {D : List Variable}
    {σ₁ σ₁' : State} (c : Nat) (hregs : ∀ v ∈ env.physRegs, v ∈ phys) (h : AgreeL phys E D σ₁ σ₁')
    (jmps : List (Term Jmp)) (hlive : ∀ j ∈ jmps, JmpLive phys aliveStart E j.term)
    (hend : (∀ j ∈ jmps, isCBranchJmp j.term = true) → ∀ v ∈ phys, v ∈ E)
    (hloc : ∀ j ∈ jmps, ∀ e ∈ jmpExprs j.term, ExprLocal phys D e) :
    JmpsAgree env phys aliveStart c D σ₁ σ₁' jmps := by
  induction jmps with
  | nil => exact ⟨by rw [Sem.execJmps, Sem.execJmps, (h.phys (hend (List.forall_mem_nil _))).snapshot hregs], .stop⟩
  | cons j rest ih =>
    refine execJmps_cons_agree c j rest (hlive j List.mem_cons_self) hregs h (hloc j List.mem_cons_self) ?_
    intro hcb
    refine ih (fun j' hj' => hlive j' (List.mem_cons_of_mem _ hj')) (fun hall => hend fun j' hj' => ?_)
      (fun j' hj' => hloc j' (List.mem_cons_of_mem _ hj'))
    rcases List.mem_cons.mp hj' with rfl | hj'
    · exact hcb
    · exact hall j' hj'

/-- **C10-liveness-jumps.** The jumps of a block of an admissible shape: if the two states agree on the local
variables alive at the end of the block, and the liveness map is closed at this block, both runs produce the same
observable events and agreeing continuations. -/
theorem execJmps_agree {env : Env} {phys E : VarSet} {aliveStart : Tid → VarSet} {D : List Variable}
    {σ₁ σ₁' : State} (c : Nat) (b : Term Blk) (hshape : dveBlkOk b = true)
    (hclosed : ∀ v ∈ aliveEndOf phys aliveStart b, v ∈ E)
    (hregs : ∀ v ∈ env.physRegs, v ∈ phys) (h : AgreeL phys E D σ₁ σ₁')
    (hloc : ∀ j ∈ b.term.jmps, ∀ e ∈ jmpExprs j.term, ExprLocal phys D e) :
    JmpsAgree env phys aliveStart c D σ₁ σ₁' b.term.jmps :=
  have hlive := jmpsLive_of_closed hshape hclosed
  execJmps_agree_of_live c hregs h _ hlive.1 hlive.2 hloc

/-- **C10-dead-variables-run (blocks).** The simulation across blocks and calls: from states that agree on the
local variables alive at the start of the current block, the original blocks and the blocks without the dead
assignments produce the same observable events. -/
theorem removeDead_runBlocks (env : Env) (phys : VarSet) (blocks : List (Term Blk)) (m : AliveMap)
    (hshape : dveShapeOk blocks = true) (hclosed : aliveClosed phys blocks m = true)
    (hregs : ∀ v ∈ env.physRegs, v ∈ phys) :
    ∀ (n : Nat) (t : Tid) (σ σ' : State) (c : Nat) (D : List Variable),
      AgreeL phys (aliveStartOf blocks m t) D σ σ' → RunLocals env phys blocks n t σ c D →
      NoStuck (runBlocks env blocks n t σ c) →
      (runBlocks env (blocks.map (removeDeadBlock m)) n t σ' c).map observable =
        (runBlocks env blocks n t σ c).map observable := by
  intro n
  induction n with
  | zero => intro t σ σ' c D _ _ _; rfl
  | succ n ih =>
    intro t σ σ' c D hag hloc hns
    obtain ⟨b, σ₁, evs, hb, hd, _, hnsNext⟩ := hns.block
    have hb' : (blocks.map (removeDeadBlock m)).find? (fun b => b.tid == t) = some (removeDeadBlock m b) := by
      rw [find?_tid_map (removeDeadBlock m) (fun _ => rfl), hb]; rfl
    obtain ⟨hbm, hbt⟩ := tid_of_find? hb
    have hstart : aliveStartOf blocks m t = aliveBeforeDefs (m.get b.tid) b.term.defs := by
      simp only [aliveStartOf, hb, hbt]
    rw [hstart] at hag
    obtain ⟨hdl, hjl, hnext⟩ := hloc b hb σ₁ evs hd
    obtain ⟨σ₁', hd', hag₁⟩ := removeDeadDefs_soundL phys (m.get b.tid) b.term.defs hag hdl hd
    have hd'' : execDefs σ' (removeDeadBlock m b).term.defs = some (σ₁', evs) := hd'
    have hcl : ∀ v ∈ aliveEndOf phys (aliveStartOf blocks m) b, v ∈ m.get b.tid :=
      subset_iff.mp (List.all_eq_true.mp hclosed b hbm)
    obtain ⟨hev, hnx⟩ := execJmps_agree (env := env) c b (List.all_eq_true.mp hshape b hbm) hcl hregs hag₁ hjl
    cases hjm : execJmps env σ₁ c b.term.jmps with
    | mk evs₂ nxt =>
      cases hjm' : execJmps env σ₁' c b.term.jmps with
      | mk evs₂' nxt' =>
        rw [hjm, hjm'] at hev hnx
        cases hnx with
        | stop =>
          rw [runBlocks_stop hb hd hjm, runBlocks_stop hb' hd'' hjm', List.map_append, List.map_append, hev]
        | goto hag₂ =>
          rw [runBlocks_goto hb hd hjm, runBlocks_goto hb' hd'' hjm']
          simp only [List.map_append, hev]
          rw [ih _ _ _ _ _ hag₂ (hnext _ _ _ _ hjm) (hnsNext _ _ _ _ hjm)]

/-- **C10-dead-variables-run (liveness map as parameter).** For ANY liveness map `m` that is a post-fixpoint of
the liveness equations of the function (`aliveClosed`, executable), removing the assignments that are dead
according to `m` preserves the observable trace of the function from every initial state and for every fuel,
provided the run of the original function keeps H2 (`RunLocals`, starting with no local assigned) and does not
get stuck (H3). -/
theorem removeDeadWith_runSub (env : Env) (phys : VarSet) (s : Term Sub) (m : AliveMap)
    (hshape : dveShapeOk s.term.blocks = true) (hclosed : aliveClosed phys s.term.blocks m = true)
    (hregs : ∀ v ∈ env.physRegs, v ∈ phys) (σ : State) (fuel : Nat)
    (hloc : ∀ b bs, s.term.blocks = b :: bs → RunLocals env phys s.term.blocks fuel b.tid σ 0 [])
    (hns : NoStuck (runSub env s.term σ fuel)) :
    (runSub env (mapSubBlocks (removeDeadBlock m) s).term σ fuel).map observable =
      (runSub env s.term σ fuel).map observable := by
  rw [runSub_mapBlocks env (removeDeadBlock m) (fun _ => rfl)]
  unfold runSub
  cases hbl : s.term.blocks with
  | nil => rfl
  | cons b bs =>
    have h := removeDead_runBlocks env phys s.term.blocks m hshape hclosed hregs fuel b.tid σ σ 0 []
      (AgreeOn.refl _ σ) (hloc b bs hbl) (noStuck_runBlocks_of_runSub hbl hns)
    rw [hbl] at h
    exact h

/-- **C10-dead-variables-run.** `remove_dead_var_assignments` on one function with the liveness map of the
model's own (fuelled) iteration, whenever that iteration reached a post-fixpoint. -/
theorem removeDeadSub_runSub (env : Env) (phys : VarSet) (s : Term Sub)
    (hshape : dveShapeOk s.term.blocks = true)
    (hclosed : aliveClosed phys s.term.blocks (computeAliveVars phys s.term.blocks) = true)
    (hregs : ∀ v ∈ env.physRegs, v ∈ phys) (σ : State) (fuel : Nat)
    (hloc : ∀ b bs, s.term.blocks = b :: bs → RunLocals env phys s.term.blocks fuel b.tid σ 0 [])
    (hns : NoStuck (runSub env s.term σ fuel)) :
    (runSub env (removeDeadSub phys s).term σ fuel).map observable = (runSub env s.term σ fuel).map observable :=
  removeDeadWith_runSub env phys s _ hshape hclosed hregs σ fuel hloc hns

/-! ### the executable hypothesis check of the driver implies H1 and H2

`Spec.hypRun` (evaluated by the driver on every run of the unoptimised function) tracks the TEMPORARIES assigned
since the last call and requires every temporary that is read to be among them. If every non-temporary variable
the function reads is a physical register (`NonTempPhys`), this is `RunLocals`. -/

theorem exprOk_boolOk {σ : State} {defd : List Variable} {e : Expression} (h : exprOk σ defd e = true) :
    boolOk σ e = true := by
  simp only [exprOk, Bool.and_eq_true] at h; exact h.1

/-- a check on the expressions of a def, written as in `hypDefs` and `nonTempPhysB` -/
theorem match_def_iff_defExprs (p : Expression → Bool) (d : Def) :
    (match d with
      | .Assign _ e => p e
      | .Load _ a => p a
      | .Store a e => p a && p e) = true ↔ ∀ e ∈ defExprs d, p e = true := by
  cases d <;> simp [defExprs]

theorem defExprs_boolOk {σ : State} {defd : List Variable} {d : Def}
    (h : (match d with
      | .Assign _ e => exprOk σ defd e
      | .Load _ a => exprOk σ defd a
      | .Store a e => exprOk σ defd a && exprOk σ defd e) = true) : ∀ e ∈ defExprs d, boolOk σ e = true :=
  fun e he => exprOk_boolOk ((match_def_iff_defExprs _ d).mp h e he)

def NonTempPhys (phys : VarSet) (blocks : List (Term Blk)) : Prop :=
  ∀ b ∈ blocks,
    (∀ d ∈ b.term.defs, ∀ e ∈ defExprs d.term, ∀ v ∈ e.inputVars, v.isTemp = false → v ∈ phys) ∧
    (∀ j ∈ b.term.jmps, ∀ e ∈ jmpExprs j.term, ∀ v ∈ e.inputVars, v.isTemp = false → v ∈ phys)

theorem nonTempPhysB_sound {phys : VarSet} {blocks : List (Term Blk)} (h : nonTempPhysB phys blocks = true) :
    NonTempPhys phys blocks := by
  intro b hb
  have hb' := List.all_eq_true.mp h b hb
  simp only [Bool.and_eq_true, List.all_eq_true] at hb'
  have hv : ∀ e : Expression, (∀ v ∈ e.inputVars, (v.isTemp || decide (v ∈ phys)) = true) →
      ∀ v ∈ e.inputVars, v.isTemp = false → v ∈ phys := by
    intro e he v hv ht
    simpa [ht] using he v hv
  exact ⟨fun d hd e he => hv e (List.all_eq_true.mp ((match_def_iff_defExprs _ d.term).mp (hb'.1 d hd) e he)),
    fun j hj e he => hv e (hb'.2 j hj e he)⟩

theorem exprLocal_of_exprOk {phys : VarSet} {σ : State} {defd D : List Variable} {e : Expression}
    (hnt : ∀ v ∈ e.inputVars, v.isTemp = false → v ∈ phys) (hsub : ∀ v ∈ defd, v ∈ D)
    (h : exprOk σ defd e = true) : ExprLocal phys D e := by
  intro v hv
  simp only [exprOk, tempsOk, Bool.and_eq_true, List.all_eq_true, Bool.or_eq_true, Bool.not_eq_true'] at h
  rcases h.2 v hv with ht | ht
  · exact .inl (hnt v hv ht)
  · exact .inr (hsub v (List.contains_iff_mem.mp ht))

theorem hypDefs_spec (phys : VarSet) : ∀ (defs : List (Term Def)) (σ : State) (defd : List Variable),
    ∃ σ' defd' ok, hypDefs σ defd defs = some (σ', defd', ok) ∧ (ok = true → DefsBoolOk defs σ ∧
      ∀ σ₁ evs, execDefs σ defs = some (σ₁, evs) → σ' = σ₁ ∧ ∀ D : List Variable,
        (∀ d ∈ defs, ∀ e ∈ defExprs d.term, ∀ v ∈ e.inputVars, v.isTemp = false → v ∈ phys) → (∀ v ∈ defd, v ∈ D) →
          DefsLocal phys D defs ∧ ∀ v ∈ defd', v ∈ defdAfter D defs) := by
  intro defs
  induction defs with
  | nil => exact fun σ defd => ⟨σ, defd, true, rfl, fun _ => ⟨trivial, fun σ₁ evs he => by
      cases he; exact ⟨rfl, fun D _ hsub => ⟨trivial, hsub⟩⟩⟩⟩
  | cons d ds ih =>
    intro σ defd
    -- the temporaries assigned after `d`, as `hypDefs` computes them
    have hsub' : ∀ D : List Variable, (∀ v ∈ defd, v ∈ D) → ∀ v ∈ (match d.term with
        | .Assign v _ => if v.isTemp then v :: defd else defd
        | .Load v _ => if v.isTemp then v :: defd else defd
        | .Store _ _ => defd), v ∈ defdAfterDef D d.term := by
      intro D hsub v hv
      rw [mem_defdAfterDef]
      cases hdt : d.term <;> rw [hdt] at hv <;> dsimp only at hv
      case Store => exact .inr (hsub v hv)
      all_goals
        split at hv
        · exact (List.mem_cons.mp hv).imp List.mem_singleton.mpr (hsub v)
        · exact .inr (hsub v hv)
    cases hd : execDef σ d.term with
    | none =>
      refine ⟨σ, defd, _, by simp only [hypDefs, hd]; rfl, fun hok => ⟨⟨defExprs_boolOk hok, fun _ _ he => ?_⟩, fun _ _ he => ?_⟩⟩
      · rw [hd] at he; cases he
      · simp only [Sem.execDefs, hd, Option.bind_eq_bind, Option.bind_none, reduceCtorEq] at he
    | some r =>
      obtain ⟨σm, e₁⟩ := r
      obtain ⟨σ', defd', ok', hh, hspec⟩ := ih σm _
      -- `erw`: the `match` in `hsub'` and the one inside `hypDefs` are different auxiliary definitions
      refine ⟨σ', defd', _, by simp only [hypDefs, hd]; erw [hh], fun hok => ?_⟩
      obtain ⟨hok, hoks⟩ := Bool.and_eq_true_iff.mp hok
      obtain ⟨hbs, hrest⟩ := hspec hoks
      refine ⟨⟨defExprs_boolOk hok, fun _ _ he => by cases hd.symm.trans he; exact hbs⟩, fun σ₁ evs he => ?_⟩
      obtain ⟨_, _, σ₂, e₂, h1, h2, hr⟩ := execDefs_cons_some.mp he
      cases hr
      cases hd.symm.trans h1
      obtain ⟨hσ, hloc⟩ := hrest _ _ h2
      refine ⟨hσ, fun D hnt hsub => ?_⟩
      obtain ⟨ih1, ih2⟩ := hloc (defdAfterDef D d.term) (fun x hx => hnt x (List.mem_cons_of_mem _ hx)) (hsub' D hsub)
      exact ⟨⟨fun e he => exprLocal_of_exprOk (hnt d List.mem_cons_self e he) hsub
        ((match_def_iff_defExprs _ d.term).mp hok e he), ih1⟩, ih2⟩

theorem hypRun_sound (env : Env) (phys : VarSet) (blocks : List (Term Blk)) :
    ∀ (fuel : Nat) (t : Tid) (σ : State) (c : Nat) (defd : List Variable),
      hypRun env blocks fuel t σ c defd = true → RunOk env blocks fuel t σ c ∧
        (NonTempPhys phys blocks → ∀ D : List Variable, (∀ v ∈ defd, v ∈ D) → RunLocals env phys blocks fuel t σ c D) := by
  intro fuel
  induction fuel with
  | zero => exact fun _ _ _ _ _ => ⟨trivial, fun _ _ _ => trivial⟩
  | succ n ih =>
    intro t σ c defd h
    cases hb : blocks.find? (fun b => b.tid == t) with
    | none => exact ⟨fun _ e => (nomatch hb.symm.trans e), fun _ _ _ _ e => (nomatch hb.symm.trans e)⟩
    | some b =>
      obtain ⟨σ', defd₁, ok, hh, hspec⟩ := hypDefs_spec phys b.term.defs σ defd
      simp only [hypRun, hb, hh] at h
      cases ok with
      | false => simp at h
      | true =>
        simp only [Bool.not_true, Bool.false_eq_true, if_false] at h
        obtain ⟨hdefs, hrest⟩ := hspec rfl
        -- what the check says once the defs have been executed
        have key : ∀ σ₁ evs, execDefs σ b.term.defs = some (σ₁, evs) → σ' = σ₁ ∧
            (∀ j ∈ b.term.jmps, ∀ e ∈ jmpExprs j.term, exprOk σ₁ defd₁ e = true) ∧
            ∀ evs₂ t₂ σ₂ c₂, execJmps env σ₁ c b.term.jmps = (evs₂, .goto t₂ σ₂ c₂) →
              hypRun env blocks n t₂ σ₂ c₂ (if c₂ == c then defd₁ else []) = true := by
          intro σ₁ evs hd
          cases (hrest σ₁ evs hd).1
          simp only [hd] at h
          split at h
          · cases h
          · next hokJ =>
            simp only [Bool.not_eq_true, Bool.not_eq_false', List.all_eq_true] at hokJ
            exact ⟨rfl, hokJ, fun evs₂ t₂ σ₂ c₂ hjm => by simpa only [hjm] using h⟩
        refine ⟨fun b' hb' => ?_, fun hnt D hsub b' hb' σ₁ evs hd => ?_⟩
        · cases hb.symm.trans hb'
          refine ⟨hdefs, fun σ₁ evs hd => ?_⟩
          obtain ⟨_, hj, hnext⟩ := key σ₁ evs hd
          exact ⟨fun j hjm e he => exprOk_boolOk (hj j hjm e he), fun evs₂ t₂ σ₂ c₂ hjm => (ih _ _ _ _ (hnext _ _ _ _ hjm)).1⟩
        · cases hb.symm.trans hb'
          obtain ⟨hbm, _⟩ := tid_of_find? hb
          obtain ⟨_, hj, hnext⟩ := key σ₁ evs hd
          obtain ⟨hdl, hsub₁⟩ := (hrest σ₁ evs hd).2 D (hnt b hbm).1 hsub
          refine ⟨hdl, fun j hjm e he => exprLocal_of_exprOk ((hnt b hbm).2 j hjm e he) hsub₁ (hj j hjm e he),
            fun evs₂ t₂ σ₂ c₂ hjm => (ih _ _ _ _ (hnext _ _ _ _ hjm)).2 hnt _ fun v hv => ?_⟩
          split at hv
          · next hc => rw [if_pos (eq_of_beq hc)]; exact hsub₁ v hv
          · cases hv

/-- **C10-hypothesis-check.** If the executable check `hypRun` (run by the driver on the unoptimised function)
accepts a run, the run satisfies the declarative hypothesis `RunOk` of the theorems. -/
theorem runOk_of_hypRun (env : Env) (blocks : List (Term Blk)) :
    ∀ (fuel : Nat) (t : Tid) (σ : State) (c : Nat) (defd : List Variable),
      hypRun env blocks fuel t σ c defd = true → RunOk env blocks fuel t σ c :=
  fun fuel t σ c defd h => (hypRun_sound env [] blocks fuel t σ c defd h).1

/-- **C10-hypothesis-check-H2.** If the executable check `hypRun` accepts a run and every non-temporary variable
the function reads is a physical register, the run satisfies the declarative hypothesis `RunLocals`. -/
theorem runLocals_of_hypRun (env : Env) (phys : VarSet) (blocks : List (Term Blk)) (hnt : NonTempPhys phys blocks) :
    ∀ (fuel : Nat) (t : Tid) (σ : State) (c : Nat) (defd D : List Variable),
      (∀ v ∈ defd, v ∈ D) → hypRun env blocks fuel t σ c defd = true → RunLocals env phys blocks fuel t σ c D :=
  fun fuel t σ c defd D hsub h => (hypRun_sound env phys blocks fuel t σ c defd h).2 hnt D hsub

end CweModel.C10
