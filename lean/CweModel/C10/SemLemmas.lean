/-
C10 — basic facts about the reference interpreter (Base/IRSem.lean) used by the pass proofs:
well-formed states, the boolean discipline H1 as a check on one expression, evaluation equations,
the width of the value of a well-sized expression.
-/
import CweModel.Base.IRSemLemmas
import CweModel.C01.Props
import CweModel.C10.Trivial

namespace CweModel.C10
open CweModel CweModel.IR CweModel.Sem CweModel.C12

def StateWF (σ : State) : Prop := ∀ v : Variable, (σ.getReg v).w = 8 * v.size

theorem StateWF.setReg {σ : State} (h : StateWF σ) (v : Variable) (x : Bv) (hx : x.w = 8 * v.size) :
    StateWF (σ.setReg v x) :=
  getReg_setReg_w h v x hx

theorem stateWF_default (seed : Nat) : StateWF { seed := seed } := by
  intro v
  simp [State.getReg, regDefault_w]

def isBoolVal : Option Bv → Bool
  | some b => decide (b.toNat ≤ 1)
  | none => true

def isBoolOp : BinOpType → Bool
  | .BoolAnd | .BoolOr | .BoolXOr => true
  | _ => false

/-- Hypothesis H1 of the specification (Spec.lean) on one expression in state `σ`: the operands of every
Boolean operation in it have value 0 or 1, where they have a value. -/
def boolOk (σ : State) : Expression → Bool
  | .BinOp op l r =>
    boolOk σ l && boolOk σ r && (!isBoolOp op || (isBoolVal (eval σ l) && isBoolVal (eval σ r)))
  | .UnOp _ a => boolOk σ a
  | .Cast _ _ a => boolOk σ a
  | .Subpiece _ _ a => boolOk σ a
  | _ => true

theorem eval_binOp (σ : State) (op : BinOpType) (l r : Expression) :
    eval σ (.BinOp op l r) = (eval σ l).bind fun a => (eval σ r).bind fun b => resToOpt (Ref.binOp op a b) := rfl

theorem eval_unOp (σ : State) (op : UnOpType) (a : Expression) :
    eval σ (.UnOp op a) = (eval σ a).bind fun x => resToOpt (Ref.unOp op x) := rfl

theorem eval_cast (σ : State) (op : CastOpType) (s : Nat) (a : Expression) :
    eval σ (.Cast op s a) = (eval σ a).bind fun x => resToOpt (Ref.cast op s x) := rfl

theorem eval_subpiece (σ : State) (lb s : Nat) (a : Expression) :
    eval σ (.Subpiece lb s a) = (eval σ a).bind fun x => resToOpt (Ref.subpieceOp lb s x) := rfl

theorem eval_binOp_some {σ : State} {op : BinOpType} {l r : Expression} {v : Bv} :
    eval σ (.BinOp op l r) = some v ↔
      ∃ a b, eval σ l = some a ∧ eval σ r = some b ∧ Ref.binOp op a b = .val v := by
  simp only [eval_binOp, Option.bind_eq_some_iff, resToOpt_some, exists_and_left]

theorem eval_unOp_some {σ : State} {op : UnOpType} {a : Expression} {v : Bv} :
    eval σ (.UnOp op a) = some v ↔ ∃ x, eval σ a = some x ∧ Ref.unOp op x = .val v := by
  simp only [eval_unOp, Option.bind_eq_some_iff, resToOpt_some]

theorem eval_cast_some {σ : State} {op : CastOpType} {s : Nat} {a : Expression} {v : Bv} :
    eval σ (.Cast op s a) = some v ↔ ∃ x, eval σ a = some x ∧ Ref.cast op s x = .val v := by
  simp only [eval_cast, Option.bind_eq_some_iff, resToOpt_some]

theorem eval_subpiece_some {σ : State} {lb s : Nat} {a : Expression} {v : Bv} :
    eval σ (.Subpiece lb s a) = some v ↔ ∃ x, eval σ a = some x ∧ Ref.subpieceOp lb s x = .val v := by
  simp only [eval_subpiece, Option.bind_eq_some_iff, resToOpt_some]

theorem sameW_val {a b : Bv} {f : {w : Nat} → BitVec w → BitVec w → Res} {r : Bv}
    (h : sameW a b f = .val r) : a.w = b.w := by
  obtain ⟨w, x, y, rfl, rfl, _⟩ := sameW_inv h
  rfl

export CweModel.C01 (of_ite_panic ref_binOp_w ref_unOp_w ref_cast_w ref_subpiece_w)

theorem ref_same_width {op : BinOpType} (hop : binClass op ≠ .free) {a b r : Bv}
    (h : Ref.binOp op a b = .val r) : a.w = b.w := by
  have hw := C01.ref_binOp_wellSized h
  cases op <;> first | exact hw | exact absurd rfl hop

theorem ref_boolNegate_inv {x y : Bv} (h : Ref.unOp .BoolNegate x = .val y) :
    (x.toNat = 0 ∧ y = Bv.ofBool true) ∨ (x.toNat = 1 ∧ x.w = 8 ∧ y = Bv.ofBool false) := by
  simp only [Ref.unOp] at h
  split at h
  · next h0 => cases h; exact .inl ⟨h0, rfl⟩
  · obtain ⟨⟨hw, h1⟩, hy⟩ := of_ite_panic h
    cases hy; exact .inr ⟨h1, hw, rfl⟩

theorem ref_boolNegate_zero {x : Bv} (h : x.toNat = 0) : Ref.unOp .BoolNegate x = .val (Bv.ofBool true) := by
  simp only [Ref.unOp, h, if_true, valB]

theorem ref_boolNegate_truth {x y : Bv} (h : Ref.unOp .BoolNegate x = .val y) : y.toNat = 0 ↔ x.toNat ≠ 0 := by
  rcases ref_boolNegate_inv h with ⟨hx, rfl⟩ | ⟨hx, _, rfl⟩
  · exact ⟨fun h => (nomatch h), fun h => absurd hx h⟩
  · exact ⟨fun _ => hx ▸ Nat.one_ne_zero, fun _ => rfl⟩

theorem binOpW_bytesize {op : BinOpType} {l r : Expression} (hs : binSizesOk op l.bytesize r.bytesize) :
    C01.binOpW op (8 * l.bytesize) (8 * r.bytesize) = 8 * (Expression.BinOp op l r).bytesize := by
  cases op
  case Piece => exact (Nat.mul_add ..).symm
  case BoolXOr | BoolAnd | BoolOr => exact congrArg (8 * ·) hs.1
  all_goals exact rfl

theorem eval_width {σ : State} (hσ : StateWF σ) :
    ∀ {e : Expression} {v : Bv}, WellSized e → eval σ e = some v → v.w = 8 * e.bytesize := by
  intro e
  induction e with
  | Var x => intro v _ h; cases h; exact hσ x
  | Const b x => intro v _ h; cases h; rfl
  | Unknown d s => intro v _ h; cases h; rfl
  | BinOp op l r ihl ihr =>
    intro v hw h
    obtain ⟨a, b, hl, hr, hv⟩ := eval_binOp_some.mp h
    rw [ref_binOp_w hv, ihl hw.1 hl, ihr hw.2.1 hr, binOpW_bytesize hw.2.2]
  | UnOp op a ih =>
    intro v hw h
    obtain ⟨x, hx, hv⟩ := eval_unOp_some.mp h
    rw [ref_unOp_w hv]
    cases op
    case BoolNegate => exact congrArg (8 * ·) hw.2.symm
    case FloatNaN => cases hv
    all_goals exact ih hw.1 hx
  | Cast op s a ih =>
    intro v _ h
    obtain ⟨x, _, hv⟩ := eval_cast_some.mp h
    exact ref_cast_w hv
  | Subpiece lb s a ih =>
    intro v _ h
    obtain ⟨x, _, hv⟩ := eval_subpiece_some.mp h
    exact ref_subpiece_w hv

end CweModel.C10
