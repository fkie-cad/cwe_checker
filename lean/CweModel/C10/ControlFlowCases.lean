/-
C10 pass 4 — what the model functions of `propagate_control_flow` (ControlFlow.lean) do, stated once for the
properties that walk them (sizes: C12/Optimize; runs and the control-flow skeleton: ControlFlowProofs, Transport,
RunControlFlow): retargeting changes the jump target or return site and nothing else (`retargetJmp_eq`); the orphan
removal filters the blocks after the first (`removeNewOrphanedBlocks_eq`); what the pass reads off the CFG: the edges
into a block, the block precondition (`blockPrecondition_spec`), where an entry of the retarget table comes from
(`allRetargets_find`).
-/
import CweModel.C10.ControlFlow
import CweModel.Base.Jmp

namespace CweModel.C10
open CweModel CweModel.IR

def newTgt (m : List (Tid × Tid)) (jt t : Tid) : Tid :=
  match m.find? (·.1 == jt) with
  | some (_, n) => n
  | none => t

theorem retargetJmp_eq (m : List (Tid × Tid)) :
    retargetJmp m = fun j => { j with term := Jmp.mapTarget (newTgt m j.tid) j.term } := by
  funext ⟨jt, jterm⟩
  unfold retargetJmp newTgt
  cases m.find? (·.1 == jt) <;>
    rcases jterm with _ | _ | _ | ⟨_, _ | _⟩ | ⟨_, _ | _⟩ | _ | ⟨_, _ | _⟩ <;> rfl

namespace CF

def remSub (newOrphans : List Tid) (s : Term Sub) : Term Sub :=
  match s.term.blocks with
  | [] => s
  | e :: rest => { s with term := { s.term with
      blocks := e :: rest.filter (fun b => !(newOrphans.contains b.tid)) } }

theorem removeNewOrphanedBlocks_eq (p : Program) (before after : List Tid) :
    removeNewOrphanedBlocks p before after =
      mapProgramSubs (remSub (after.filter (fun t => !(before.contains t)))) p := rfl

def edgesOfJmp (p : Program) (a : Term Blk) (t : Tid) : Jmp × Option Jmp → List InEdge :=
  fun (j, u) =>
    match j with
    | .Branch tgt => if tgt == t then [.jump j u] else []
    | .CBranch tgt _ => if tgt == t then [.jump j u] else []
    | .BranchInd _ => (a.term.indirectJmpTargets.filter (· == t)).map fun _ => .jump j u
    | .Call callee (some r) =>
      if r == t then
        if isExternTid p callee then [.other]
        else match internalCallee p callee with
          | some s => (s.term.blocks.filter hasReturnJmp).map fun _ => .other
          | none => []
      else []
    | .CallInd _ (some r) => if r == t then [.other] else []
    | _ => []

theorem edgesFromBlock_eq (p : Program) (a : Term Blk) (t : Tid) :
    edgesFromBlock p a t = (jmpsWithUntaken a).flatMap (edgesOfJmp p a t) := rfl

theorem mem_incomingEdges {p : Program} {s : Term Sub} {a b : Term Blk} {e : InEdge} (ha : a ∈ s.term.blocks)
    (he : e ∈ edgesFromBlock p a b.tid) : e ∈ incomingEdges p s b := by
  have hfb : e ∈ s.term.blocks.flatMap fun a => edgesFromBlock p a b.tid := List.mem_flatMap.mpr ⟨a, ha, he⟩
  have hif : ∀ cond : Bool, e ∈ (if cond then
      (s.term.blocks.flatMap fun a => edgesFromBlock p a b.tid) ++ [InEdge.other]
      else s.term.blocks.flatMap fun a => edgesFromBlock p a b.tid) := by
    intro cond; cases cond <;> simp [hfb]
  exact hif _

/-- the condition that `get_precondition_from_incoming_edges` reads off an edge -/
def edgeCond : InEdge → Option Expression
  | .jump (.CBranch _ c) none => some c
  | .jump (.Branch _) (some (.CBranch _ c)) => some (negateCondition c)
  | _ => none

def condsOf (edges : List InEdge) : Option (List Expression) :=
  edges.foldr (fun e acc =>
    match acc with
    | none => none
    | some cs =>
      match e with
      | .jump (.CBranch _ c) none => some (c :: cs)
      | .jump (.Branch _) (some (.CBranch _ c)) => some (negateCondition c :: cs)
      | _ => none) (some [])

theorem preconditionFromIncoming_eq (edges : List InEdge) :
    preconditionFromIncoming edges =
      match condsOf edges with
      | some (c :: cs) => if cs.all (· = c) then some c else none
      | _ => none := rfl

theorem condsOf_cons (e : InEdge) (es : List InEdge) :
    condsOf (e :: es) =
      match condsOf es with
      | none => none
      | some cs =>
        match e with
        | .jump (.CBranch _ c) none => some (c :: cs)
        | .jump (.Branch _) (some (.CBranch _ c)) => some (negateCondition c :: cs)
        | _ => none := rfl

theorem condsOf_cons_some {e : InEdge} {es : List InEdge} {cs : List Expression} (h : condsOf (e :: es) = some cs) :
    ∃ c cs', edgeCond e = some c ∧ condsOf es = some cs' ∧ cs = c :: cs' := by
  rw [condsOf_cons] at h
  cases hes : condsOf es with
  | none => rw [hes] at h; cases h
  | some cs' =>
    rw [hes] at h
    simp only at h
    split at h
    · cases h; exact ⟨_, _, rfl, rfl, rfl⟩
    · cases h; exact ⟨_, _, rfl, rfl, rfl⟩
    · cases h

theorem condsOf_mem : ∀ (edges : List InEdge) (cs : List Expression), condsOf edges = some cs →
    ∀ e ∈ edges, ∃ c ∈ cs, edgeCond e = some c
  | [], _, _, _, he => nomatch he
  | e :: es, cs, h, x, hx => by
    obtain ⟨c, cs', hc, hes, rfl⟩ := condsOf_cons_some h
    rcases List.mem_cons.mp hx with rfl | hx
    · exact ⟨c, List.mem_cons_self, hc⟩
    · obtain ⟨c', hc', he'⟩ := condsOf_mem es cs' hes x hx
      exact ⟨c', List.mem_cons_of_mem _ hc', he'⟩

theorem preconditionFromIncoming_mem {edges : List InEdge} {c : Expression}
    (h : preconditionFromIncoming edges = some c) : ∀ e ∈ edges, edgeCond e = some c := by
  rw [preconditionFromIncoming_eq] at h
  intro e he
  cases hcs : condsOf edges with
  | none => rw [hcs] at h; cases h
  | some cs =>
    rw [hcs] at h
    cases cs with
    | nil => cases h
    | cons c₀ cs =>
      simp only at h
      split at h
      · next hall =>
        cases h
        obtain ⟨c', hc', he'⟩ := condsOf_mem edges _ hcs e he
        rcases List.mem_cons.mp hc' with rfl | hc'
        · exact he'
        · have := List.all_eq_true.mp hall c' hc'
          rw [he']; simpa using this
      · cases h

/-- the `clobbered` test of `blockPreconditionAfterDefs` -/
def clobbers (cnd : Expression) (defs : List (Term Def)) : Bool :=
  defs.any fun d => match d.term with
    | .Assign v _ => decide (v ∈ cnd.inputVars)
    | .Load v _ => decide (v ∈ cnd.inputVars)
    | .Store _ _ => false

theorem blockPrecondition_spec {p : Program} {s : Term Sub} {b : Term Blk} {cnd : Expression}
    (h : blockPreconditionAfterDefs p s b = some cnd) :
    (∀ e ∈ incomingEdges p s b, edgeCond e = some cnd) ∧ clobbers cnd b.term.defs = false ∧
      ∀ e rest, s.term.blocks = e :: rest → (e.tid == b.tid) = false := by
  unfold blockPreconditionAfterDefs at h
  split at h
  · cases h
  · next e rest hbl =>
    split at h
    · cases h
    · next hne =>
      split at h
      · cases h
      · next c₀ hc₀ =>
        simp only at h
        split at h
        · cases h
        · next hncl =>
          cases h
          exact ⟨preconditionFromIncoming_mem hc₀, Bool.eq_false_iff.mpr hncl, fun e' rest' h' => by
            cases hbl.symm.trans h'; exact Bool.eq_false_iff.mpr hne⟩

/-- the precondition of the block as a list (`true_conditions` starts with it) -/
def preConds (p : Program) (s : Term Sub) (b : Term Blk) : List Expression :=
  match blockPreconditionAfterDefs p s b with | some c => [c] | none => []

def IsCallRet (j : Term Jmp) (r : Tid) : Prop :=
  (∃ callee, j.term = .Call callee (some r)) ∨ (∃ e, j.term = .CallInd e (some r)) ∨
    (∃ d, j.term = .CallOther d (some r))

/-- where the entry `(j.tid, n)` of `retargetsOfBlock p s b` comes from -/
inductive RetJust (p : Program) (s : Term Sub) (b : Term Blk) (j : Term Jmp) (n : Tid) : Prop
  | call (r : Tid) : b.term.jmps = [j] → IsCallRet j r →
      findTargetForRetargetableJump r s.term [] = some n → RetJust p s b j n
  | branch (t : Tid) : b.term.jmps = [j] → j.term = .Branch t →
      findTargetForRetargetableJump t s.term (preConds p s b) = some n → RetJust p s b j n
  | cIf (j₂ : Term Jmp) (tIf tElse : Tid) (c : Expression) : b.term.jmps = [j, j₂] → j.term = .CBranch tIf c →
      j₂.term = .Branch tElse →
      findTargetForRetargetableJump tIf s.term (preConds p s b ++ [c]) = some n → RetJust p s b j n
  | cElse (j₁ : Term Jmp) (tIf tElse : Tid) (c : Expression) : b.term.jmps = [j₁, j] → j₁.term = .CBranch tIf c →
      j.term = .Branch tElse →
      findTargetForRetargetableJump tElse s.term (preConds p s b ++ [negateCondition c]) = some n →
      RetJust p s b j n

theorem mem_one {jt k n target : Tid} {s : Sub} {conds : List Expression}
    (h : (k, n) ∈ (match findTargetForRetargetableJump target s conds with
      | some n => [(jt, n)]
      | none => ([] : List (Tid × Tid)))) :
    k = jt ∧ findTargetForRetargetableJump target s conds = some n := by
  cases hft : findTargetForRetargetableJump target s conds with
  | none => rw [hft] at h; cases h
  | some n' =>
    rw [hft] at h
    simp only [List.mem_singleton, Prod.mk.injEq] at h
    exact ⟨h.1, by rw [h.2]⟩

theorem mem_retargetsOfBlock {p : Program} {s : Term Sub} {b : Term Blk} {k n : Tid}
    (h : (k, n) ∈ retargetsOfBlock p s b) : ∃ j ∈ b.term.jmps, j.tid = k ∧ RetJust p s b j n := by
  unfold retargetsOfBlock at h
  simp only at h
  split at h
  · next j hjl =>
    split at h
    · next callee r hjt =>
      obtain ⟨hk, hft⟩ := mem_one h
      exact ⟨j, by rw [hjl]; exact List.mem_cons_self, hk.symm, .call r hjl (.inl ⟨callee, hjt⟩) hft⟩
    · next e r hjt =>
      obtain ⟨hk, hft⟩ := mem_one h
      exact ⟨j, by rw [hjl]; exact List.mem_cons_self, hk.symm, .call r hjl (.inr (.inl ⟨e, hjt⟩)) hft⟩
    · next d r hjt =>
      obtain ⟨hk, hft⟩ := mem_one h
      exact ⟨j, by rw [hjl]; exact List.mem_cons_self, hk.symm, .call r hjl (.inr (.inr ⟨d, hjt⟩)) hft⟩
    · next t hjt =>
      obtain ⟨hk, hft⟩ := mem_one h
      exact ⟨j, by rw [hjl]; exact List.mem_cons_self, hk.symm, .branch t hjl hjt hft⟩
    · cases h
  · next j₁ j₂ hjl =>
    split at h
    · next tIf c tElse hj1 hj2 =>
      rcases List.mem_append.mp h with h | h
      · obtain ⟨hk, hft⟩ := mem_one h
        exact ⟨j₁, by rw [hjl]; exact List.mem_cons_self, hk.symm, .cIf j₂ tIf tElse c hjl hj1 hj2 hft⟩
      · obtain ⟨hk, hft⟩ := mem_one h
        exact ⟨j₂, by rw [hjl]; exact List.mem_cons_of_mem _ List.mem_cons_self, hk.symm, .cElse j₁ tIf tElse c hjl hj1 hj2 hft⟩
    · cases h
  · cases h

theorem allRetargets_find {p : Program} (hu : JmpTidsUnique p) {s : Term Sub} (hs : s ∈ p.subs) {b : Term Blk}
    (hb : b ∈ s.term.blocks) {j : Term Jmp} (hj : j ∈ b.term.jmps) {k n : Tid}
    (h : (allRetargets p).find? (·.1 == j.tid) = some (k, n)) : RetJust p s b j n := by
  have hk := List.find?_some (p := fun x : Tid × Tid => x.1 == j.tid) h
  have hmem := List.mem_of_find?_eq_some h
  simp only [beq_iff_eq] at hk
  subst hk
  simp only [allRetargets, List.mem_flatMap] at hmem
  obtain ⟨s', hs', b', hb', hmem⟩ := hmem
  obtain ⟨j', hj', hjt, hjust⟩ := mem_retargetsOfBlock hmem
  obtain ⟨rfl, rfl, rfl⟩ := hu s hs b hb j hj s' hs' b' hb' j' hj' hjt
  exact hjust

end CF

end CweModel.C10
