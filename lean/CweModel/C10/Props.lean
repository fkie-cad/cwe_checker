/-
C10 — Optimizing normalization preserves program behaviour.

  "For every basic-normalized program and every concrete initial machine state whose stack pointer is
   aligned at function entry, each function of the optimized program behaves observably like the
   unoptimized one. It performs the same sequence of memory reads and writes (addresses, sizes and values)
   and the same sequence of calls, indirect jumps and returns with their call and jump targets, and reaches
   every call, return and dead end with the same physical-register and memory state."

This file states the property for a pass and for the composition, and proves the composition from the run-level
theorems of the five passes.
-/
import CweModel.C10.Spec
import CweModel.C10.PropagationProofs
import CweModel.C10.ControlFlowProofs
import CweModel.C10.StackAlignProofs
import CweModel.C10.RunPropagation
import CweModel.C10.RunDeadVars
import CweModel.C10.RunStackAlign
import CweModel.C10.RunControlFlow
import CweModel.C10.Transport
import CweModel.C10.RunLocalsTransport
import CweModel.C10.AliveFixpoint

namespace CweModel.C10
open CweModel CweModel.IR CweModel.Sem CweModel.C12

/-- **C10-negate-involutive.** `negate_condition` removes a double negation instead of stacking one. -/
theorem negateCondition_negate (e : Expression) : negateCondition (.UnOp .BoolNegate e) = e := rfl

/-- The property for one pass `pass` (a program transformer that keeps the list of functions): for every
size-consistent program, every function `s` and its image `s'`, every well-formed initial state with an
aligned stack pointer and every fuel, if the run of `s` keeps the boolean discipline (H1) and does not get
stuck (H3), the two runs agree observably (`Sem.tracesAgree`: equal traces, or equal up to the point where
one of them runs out of fuel).

H2 "temporaries are local" of Spec.lean is not among the hypotheses: of the five passes only dead-variable
elimination needs it, and the theorems about that pass and about the composition state it separately
(`RunLocals`). -/
def PassPreserves (env : Env) (ptr : Nat) (align : Nat) (pass : Program → Program) : Prop :=
  ∀ p : Program, WellSizedProgram p ptr →
    ∀ ss ∈ p.subs.zip (pass p).subs,
      ∀ (σ : State) (fuel : Nat), StateWF σ → (σ.getReg env.sp).toNat % align = 0 →
        (∀ b bs, ss.1.term.blocks = b :: bs → RunOk env ss.1.term.blocks fuel b.tid σ 0) →
        NoStuck (runSub env ss.1.term σ fuel) →
        tracesAgree (runSub env ss.1.term σ fuel) (runSub env ss.2.term σ fuel) = true

/-- **The composition theorem in full, on raw traces** (statement): `Project::normalize_optimize` preserves the
behaviour of every function. This raw-trace form demands more than the property (see
`NormalizeOptimizePreservesObs` below, the form that is proved under extra hypotheses); it holds for the stage
`substitute_trivial_expressions` (`substTrivialProgram_preserves`). -/
def NormalizeOptimizePreserves (env : Env) (arch : String) (phys : VarSet) : Prop :=
  PassPreserves env env.sp.size 16 (normalizeOptimize arch env.sp phys)

/-- **C10-trivial-preserves.** The stage `Project::substitute_trivial_expressions` of `normalize_optimize`
preserves the behaviour of every function, in the sense of the property, for ALL size-consistent programs,
states and fuels. -/
theorem substTrivialProgram_preserves (env : Env) (ptr align : Nat) :
    PassPreserves env ptr align substTrivialProgram := by
  intro p hp ss hss σ fuel hσ _ hok hns
  obtain ⟨hmem, himg⟩ := List.zip_map_mem _ _ ss (by simpa [substTrivialProgram, mapProgramSubs] using hss)
  rw [himg, substTrivial_runSub env ss.1 (hp ss.1 hmem) σ fuel hσ hok hns]
  exact CF.tracesAgree_self _

/-- **C10-dead-variables-preserves.** `remove_dead_var_assignments` on a function whose block tids are unique:
the liveness iteration of the model reaches a post-fixpoint (`computeAliveVars_closed`), hence the pass preserves
the observable trace under H2 and H3. -/
theorem removeDeadSub_preserves (env : Env) (phys : VarSet) (s : Term Sub)
    (huniq : ∀ b ∈ s.term.blocks, ∀ b' ∈ s.term.blocks, b'.tid = b.tid → b' = b)
    (hshape : dveShapeOk s.term.blocks = true) (hregs : ∀ v ∈ env.physRegs, v ∈ phys) (σ : State) (fuel : Nat)
    (hloc : ∀ b bs, s.term.blocks = b :: bs → RunLocals env phys s.term.blocks fuel b.tid σ 0 [])
    (hns : NoStuck (runSub env s.term σ fuel)) :
    (runSub env (removeDeadSub phys s).term σ fuel).map observable = (runSub env s.term σ fuel).map observable :=
  removeDeadSub_runSub env phys s hshape (computeAliveVars_closed phys _ huniq) hregs σ fuel hloc hns

/-! ### the composition of the five stages

`NormalizeOptimizePreserves` above compares raw traces. That is more than the property says and more than dead
variable elimination delivers: the property compares the register state "at every call, return and dead end",
while the reference interpreter also records a state snapshot in every indirect-jump event, and
`remove_dead_var_assignments` legitimately removes an assignment to a physical register that is dead at the
known targets of an indirect jump. The composition is therefore stated on observable traces (`Spec.observable`
drops the snapshot of indirect-jump events, exactly what the driver compares). -/

/-- the composition theorem in full, on observable traces -/
def NormalizeOptimizePreservesObs (env : Env) (arch : String) (phys : VarSet) : Prop :=
  ∀ p : Program, WellSizedProgram p env.sp.size →
    ∀ ss ∈ p.subs.zip (normalizeOptimize arch env.sp phys p).subs,
      ∀ (σ : State) (fuel : Nat), StateWF σ → (σ.getReg env.sp).toNat % 16 = 0 →
        (∀ b bs, ss.1.term.blocks = b :: bs → RunOk env ss.1.term.blocks fuel b.tid σ 0) →
        NoStuck (runSub env ss.1.term σ fuel) →
        tracesAgree ((runSub env ss.1.term σ fuel).map observable)
          ((runSub env ss.2.term σ fuel).map observable) = true

def stage2 (m : TableMap) (p : Program) : Program :=
  substTrivialProgram (propagateProgramWith m (mergeAssignmentsProgram p))
def stage3 (m : TableMap) (phys : VarSet) (p : Program) : Program := removeDeadProgram phys (stage2 m p)

def stage2Sub (m : TableMap) (s : Term Sub) : Term Sub :=
  mapSubBlocks (mapBlkExprs substTrivial) (propagateSub m (mapSubBlocks mergeDefAssignmentsToSameVar s))

theorem stage2_subs (m : TableMap) (p : Program) : (stage2 m p).subs = p.subs.map (stage2Sub m) := by
  simp only [stage2, substTrivialProgram, propagateProgramWith, mergeAssignmentsProgram, mapProgramSubs, List.map_map]
  rfl

theorem normalizeOptimize_eq (arch : String) (sp : Variable) (phys : VarSet) (p : Program) :
    normalizeOptimize arch sp phys p =
      normalizeOptimizeWith (computeTables (mergeAssignmentsProgram p)) arch sp phys p := rfl

/-- The hypotheses of the composition theorem that are not hypotheses of the property:
  * the architecture (the stack alignment substitution is proved for x86_64: 8-byte stack pointer, alignment 16);
  * every register of the snapshots is a physical register for dead variable elimination;
  * structural conditions on the INPUT program: `CfOk` (unique jump and block tids, at most two jumps per block
    the first of two conditional, no `CallOther` with a return site — recorded known limitation —, calls with a
    return site target an extern symbol or a function with a returning block) and `dveShapeOk` (a conditional
    jump is followed by a jump that always has a CFG edge).
The tables of the expression-propagation fixpoint are a parameter of the theorem (any well-sized post-fixpoint). -/
structure OptimizeHyp (env : Env) (arch : String) (phys : VarSet) (p : Program) : Prop where
  arch64 : arch = "x86_64"
  sp8 : env.sp.size = 8
  regs : ∀ v ∈ env.physRegs, v ∈ phys
  cf : CfOk p
  shape : ∀ s ∈ p.subs, dveShapeOk s.term.blocks = true

theorem dveShapeOk_stage2Sub (m : TableMap) (s : Term Sub) (h : dveShapeOk s.term.blocks = true) :
    dveShapeOk (stage2Sub m s).term.blocks = true := by
  simp only [stage2Sub, propagateSub_eq, mapSubBlocks]
  rw [dveShapeOk_keeps keepsCfg_trivial s, dveShapeOk_keeps (keepsCfg_propagate _) s,
    dveShapeOk_keeps keepsCfg_merge s]
  exact h

theorem isStuck_observable (e : Event) : isStuck (observable e) = isStuck e := by
  cases e <;> rfl

theorem NoStuck.of_map_observable {a b : List Event} (h : a.map observable = b.map observable) (hb : NoStuck b) :
    NoStuck a := by
  intro e he
  have : observable e ∈ b.map observable := by rw [← h]; exact List.mem_map_of_mem he
  obtain ⟨e', he', heq⟩ := List.mem_map.mp this
  rw [← isStuck_observable, ← heq, isStuck_observable]
  exact hb e' he'

theorem FuelLe.map_observable {a b : List Event} (h : CF.FuelLe a b) :
    CF.FuelLe (a.map observable) (b.map observable) := by
  rcases h with rfl | ⟨pre, rest, rfl, rfl⟩
  · exact .inl rfl
  · exact .inr ⟨pre.map observable, rest.map observable, List.map_append, List.map_append⟩

/-- **C10-composition (tables as parameter).** `Project::normalize_optimize` — all five stages: expression
propagation, trivial expression substitution, dead variable elimination, control flow propagation, stack
alignment substitution — with ANY well-sized family of tables `m` that is a post-fixpoint of the transfer
functions of expression propagation on the input program (`tablesClosed`, `tablesReach`: executable; the driver
checks them for the tables of the REAL fixpoint on every case) preserves the observable behaviour of every
function: for every size-consistent program `p` satisfying `OptimizeHyp`, every function `ss.1` of `p` and its
image `ss.2`, every well-formed initial state with a 16-byte aligned stack pointer and every fuel, if the run of
`ss.1` keeps the boolean discipline (H1), keeps H2 (`RunLocals`: non-physical registers are assigned before they
are read and do not live across calls) and does not get stuck (H3), then the observable traces agree
(`Sem.tracesAgree`: equal, or equal up to the point where the unoptimised run, which executes the forwarding
blocks the optimised one skips, runs out of fuel).

Partial with respect to `NormalizeOptimizePreservesObs`: the hypotheses `OptimizeHyp` (architecture, structural
conditions on the input program) and H2, which the property does not state (it is a hypothesis of the executable
specification: P-Code temporaries are local). -/
theorem normalizeOptimizeWith_preserves_partial (env : Env) (arch : String) (phys : VarSet) (p : Program)
    (hp : WellSizedProgram p env.sp.size) (H : OptimizeHyp env arch phys p)
    (m : TableMap) (hws : AllWS m) (hcl : tablesClosed (mergeAssignmentsProgram p) m = true)
    (hre : tablesReach (mergeAssignmentsProgram p) m = true)
    (ss : Term Sub × Term Sub) (hss : ss ∈ p.subs.zip (normalizeOptimizeWith m arch env.sp phys p).subs)
    (σ : State) (fuel : Nat) (hσ : StateWF σ) (halign : (σ.getReg env.sp).toNat % 16 = 0)
    (hok : ∀ b bs, ss.1.term.blocks = b :: bs → RunOk env ss.1.term.blocks fuel b.tid σ 0)
    (hns : NoStuck (runSub env ss.1.term σ fuel))
    (hloc : ∀ b bs, ss.1.term.blocks = b :: bs → RunLocals env phys ss.1.term.blocks fuel b.tid σ 0 []) :
    tracesAgree ((runSub env ss.1.term σ fuel).map observable)
      ((runSub env ss.2.term σ fuel).map observable) = true := by
  have hsubs : (normalizeOptimizeWith m arch env.sp phys p).subs = p.subs.map fun s =>
      (saSub env.sp (expectedAlignmentOf arch) [] (cfSub (stage3 m phys p) (removeDeadSub phys (stage2Sub m s)))).1 := by
    have h3 : (stage3 m phys p).subs = p.subs.map fun s => removeDeadSub phys (stage2Sub m s) := by
      simp only [stage3, removeDeadProgram, mapProgramSubs, stage2_subs, List.map_map]; rfl
    have : normalizeOptimizeWith m arch env.sp phys p =
        (substituteAndOnStackpointer arch env.sp (propagateControlFlow (stage3 m phys p))).1 := rfl
    rw [this, substituteAndOnStackpointer_subs, propagateControlFlow_subs, h3, List.map_map, List.map_map]
    rfl
  rw [hsubs] at hss
  obtain ⟨hmem, himg⟩ := List.zip_map_mem _ _ ss hss
  rw [himg]
  generalize ss.1 = s at hmem hok hns hloc ⊢
  have hcfg : subCfgOk p s = true := subCfgOk_of_cfOk H.cf hmem
  -- stages 1a, 1b, 2: merging of assignments, block-local insertion of the fixpoint tables, trivial expression
  -- substitution keep the machine states (exact; H1 is carried to the input of the next stage, H2 to the end)
  have hp₁ := mergeAssignmentsProgram_wellSized hp
  have hm₁ : mapSubBlocks mergeDefAssignmentsToSameVar s ∈ (mergeAssignmentsProgram p).subs := by
    simp only [mergeAssignmentsProgram, mapProgramSubs, List.mem_map]
    exact ⟨s, hmem, rfl⟩
  have hws₁ : WellSizedSub env.sp.size (propagateSub m (mapSubBlocks mergeDefAssignmentsToSameVar s)).term := by
    rw [propagateSub_eq]
    intro b' hb'
    obtain ⟨b, hb, rfl⟩ := mem_mapSubBlocks.mp hb'
    apply propagateBlock_ws _ (hp₁ _ hm₁ b hb)
    cases hg : m.get b.tid with
    | none => exact tableWS_nil
    | some t => exact allWS_get hws hg
  have h₀ := mergeAssignments_subRefines env phys s
  have h₁ := propagateWith_subRefines env phys (mergeAssignmentsProgram p) hp₁ m hws hcl hre _ hm₁
    (subCfgOk_mapBlocks (g := mergeDefAssignmentsToSameVar) (fun _ => rfl) hcfg)
  obtain ⟨e₂, loc₂⟩ : runSub env (stage2Sub m s).term σ fuel = runSub env s.term σ fuel ∧ _ :=
    h₀.1.trans h₀.2 (h₁.1.trans h₁.2 (substTrivial_subRefines env phys _ hws₁)) σ fuel hσ hok hns
  have loc₂ := loc₂ hloc
  -- stage 3: dead variable elimination (observable traces)
  have hm₂ : stage2Sub m s ∈ (stage2 m p).subs := by
    rw [stage2_subs]; exact List.mem_map.mpr ⟨s, hmem, rfl⟩
  have halive : aliveClosed phys (stage2Sub m s).term.blocks
      (computeAliveVars phys (stage2Sub m s).term.blocks) = true :=
    computeAliveVars_closed phys _ (fun b hb b' hb' heq =>
      ((cfOk_stage2 m H.cf).blkTids _ hm₂ b hb _ hm₂ b' hb' heq).2)
  have e₃ := removeDeadSub_runSub env phys (stage2Sub m s) (dveShapeOk_stage2Sub m s (H.shape s hmem))
    halive H.regs σ fuel loc₂ (by rw [e₂]; exact hns)
  have hns₃ : NoStuck (runSub env (removeDeadSub phys (stage2Sub m s)).term σ fuel) :=
    NoStuck.of_map_observable e₃ (by rw [e₂]; exact hns)
  -- stage 4: control flow propagation (the optimised run needs less fuel)
  have hm₃ : removeDeadSub phys (stage2Sub m s) ∈ (stage3 m phys p).subs := by
    simp only [stage3, removeDeadProgram, mapProgramSubs]
    exact List.mem_map.mpr ⟨_, hm₂, rfl⟩
  have e₄ := propagateControlFlow_fuelLe env (stage3 m phys p) (cfOk_stage3 m phys H.cf) _ hm₃ σ fuel hns₃
  -- stage 5: stack alignment substitution (exact)
  have hea : expectedAlignmentOf arch = 16#64 := by rw [H.arch64]; exact expectedAlignmentOf_x86_64
  rw [hea, saSub_runSub env _ [] σ fuel H.sp8 hσ halign]
  apply CF.tracesAgree_of_fuelLe
  have := FuelLe.map_observable e₄
  rw [e₃, e₂] at this
  exact this

/-- **C10-composition (partial).** `Project::normalize_optimize` as modelled, i.e. with the tables of the model's
own fuelled iteration `computeTables`, whenever that iteration reached a post-fixpoint (two executable conditions;
the driver evaluates them on every generated case).

Partial with respect to `NormalizeOptimizePreservesObs`: the hypotheses `OptimizeHyp` (architecture, structural
conditions on the input program), the stabilisation of `computeTables`, and H2, which the property does not state
(it is a hypothesis of the executable specification: P-Code temporaries are local). -/
theorem normalizeOptimize_preserves_partial (env : Env) (arch : String) (phys : VarSet) (p : Program)
    (hp : WellSizedProgram p env.sp.size) (H : OptimizeHyp env arch phys p)
    (hcl : tablesClosed (mergeAssignmentsProgram p) (computeTables (mergeAssignmentsProgram p)) = true)
    (hre : tablesReach (mergeAssignmentsProgram p) (computeTables (mergeAssignmentsProgram p)) = true)
    (ss : Term Sub × Term Sub) (hss : ss ∈ p.subs.zip (normalizeOptimize arch env.sp phys p).subs)
    (σ : State) (fuel : Nat) (hσ : StateWF σ) (halign : (σ.getReg env.sp).toNat % 16 = 0)
    (hok : ∀ b bs, ss.1.term.blocks = b :: bs → RunOk env ss.1.term.blocks fuel b.tid σ 0)
    (hns : NoStuck (runSub env ss.1.term σ fuel))
    (hloc : ∀ b bs, ss.1.term.blocks = b :: bs → RunLocals env phys ss.1.term.blocks fuel b.tid σ 0 []) :
    tracesAgree ((runSub env ss.1.term σ fuel).map observable)
      ((runSub env ss.2.term σ fuel).map observable) = true :=
  normalizeOptimizeWith_preserves_partial env arch phys p hp H _
    (computeTables_ws (mergeAssignmentsProgram_wellSized hp)) hcl hre ss
    (by rw [← normalizeOptimize_eq]; exact hss) σ fuel hσ halign hok hns hloc

/-- **C10-composition from the executable hypothesis check (partial).** The same with the run-time hypotheses
H1 and H2 in the form the driver evaluates them: `hypSub` (Spec.lean) accepts the run of the unoptimised
function, and every non-temporary variable the function reads is a physical register. -/
theorem normalizeOptimize_preserves_of_hypSub_partial (env : Env) (arch : String) (phys : VarSet) (p : Program)
    (hp : WellSizedProgram p env.sp.size) (H : OptimizeHyp env arch phys p)
    (hcl : tablesClosed (mergeAssignmentsProgram p) (computeTables (mergeAssignmentsProgram p)) = true)
    (hre : tablesReach (mergeAssignmentsProgram p) (computeTables (mergeAssignmentsProgram p)) = true)
    (ss : Term Sub × Term Sub) (hss : ss ∈ p.subs.zip (normalizeOptimize arch env.sp phys p).subs)
    (σ : State) (fuel : Nat) (hσ : StateWF σ) (halign : (σ.getReg env.sp).toNat % 16 = 0)
    (hnt : NonTempPhys phys ss.1.term.blocks) (hhyp : hypSub env ss.1.term σ fuel = true)
    (hns : NoStuck (runSub env ss.1.term σ fuel)) :
    tracesAgree ((runSub env ss.1.term σ fuel).map observable)
      ((runSub env ss.2.term σ fuel).map observable) = true := by
  refine normalizeOptimize_preserves_partial env arch phys p hp H hcl hre ss hss σ fuel hσ halign ?_ hns ?_
  · intro b bs hbl
    simp only [hypSub, hbl] at hhyp
    exact runOk_of_hypRun env _ fuel b.tid σ 0 [] (by rw [hbl]; exact hhyp)
  · intro b bs hbl
    simp only [hypSub, hbl] at hhyp
    exact runLocals_of_hypRun env phys _ hnt fuel b.tid σ 0 [] [] (fun _ h => h) (by rw [hbl]; exact hhyp)

/-! ### non-vacuity: the hypotheses are satisfiable and the rules fire -/

private def rax : Variable := ⟨"RAX", 8, false⟩
private def rbx : Variable := ⟨"RBX", 8, false⟩

/-- the repaired rule: `0 == RAX - RBX ⇝ RAX == RBX`, and `1 == RAX - RBX` is left alone (D2) -/
example : substTrivial (.BinOp .IntEqual (.Const 8 0) (.BinOp .IntSub (.Var rax) (.Var rbx))) =
    .BinOp .IntEqual (.Var rax) (.Var rbx) := by decide +kernel
example : substTrivial (.BinOp .IntEqual (.Const 8 1) (.BinOp .IntSub (.Var rax) (.Var rbx))) =
    .BinOp .IntEqual (.Const 8 1) (.BinOp .IntSub (.Var rax) (.Var rbx)) := by decide +kernel
/-- the unrepaired rule rewrote it to `RAX != RBX` -/
example : substEquivalentComparisonOpsD2 (.BinOp .IntEqual (.Const 8 1) (.BinOp .IntSub (.Var rax) (.Var rbx))) =
    .BinOp .IntNotEqual (.Var rax) (.Var rbx) := by decide +kernel

/-- hypotheses of `substTrivial_eval` on a concrete state and expression: a well-formed state, a well-sized
expression that evaluates -/
example : ∃ (σ : State) (e : Expression) (v : Bv), StateWF σ ∧ WellSized e ∧ boolOk σ e = true ∧ eval σ e = some v :=
  ⟨{ seed := 1 }, .BinOp .IntXOr (.Const 8 5) (.Const 8 5), Bv.ofBytes 8 0, stateWF_default 1, by decide, rfl, rfl⟩

/-- a table with one entry is valid in the state after the assignment that created it -/
example : TableValid (({ seed := 1 } : State).setReg rax (Bv.ofBytes 8 7)) [(rax, .Const 8 7)] := by
  intro p hp
  simp only [List.mem_singleton] at hp
  subst hp
  exact ⟨by rw [eval_const, getReg_setReg]; rfl, rfl⟩

/-! ### non-vacuity of the composition theorem: a concrete program that three of the five stages change

`b0: RAX = RBX + 1; $U1 = RAX; if ZF goto b1 else goto b2`, `b1: RCX = $U1; return`, `b2: goto b1`.
Expression propagation rewrites `RCX = $U1` to `RCX = RBX + 1`, dead variable elimination removes the assignment to
the temporary, control flow propagation retargets the jump to the forwarding block `b2` and removes it. There is no
trivial operation and no alignment of the stack pointer, so the other two stages leave the program as it is. -/

private def xRax : Variable := ⟨"RAX", 8, false⟩
private def xRbx : Variable := ⟨"RBX", 8, false⟩
private def xRcx : Variable := ⟨"RCX", 8, false⟩
private def xRsp : Variable := ⟨"RSP", 8, false⟩
private def xZf : Variable := ⟨"ZF", 1, false⟩
private def xT0 : Variable := ⟨"$U1", 8, true⟩
private def xPhys : VarSet := [xRax, xRbx, xRcx, xRsp, xZf]
private def xEnv : Env := { physRegs := xPhys, sp := xRsp }

private def xP : Program :=
  { subs := [⟨⟨"f", "0"⟩, { name := "f", blocks := [
      ⟨⟨"b0", "0"⟩, { defs := [⟨⟨"d0", "0"⟩, .Assign xRax (.BinOp .IntAdd (.Var xRbx) (.Const 8 1))⟩,
                               ⟨⟨"d1", "0"⟩, .Assign xT0 (.Var xRax)⟩],
                      jmps := [⟨⟨"j0", "0"⟩, .CBranch ⟨"b1", "0"⟩ (.Var xZf)⟩, ⟨⟨"j1", "0"⟩, .Branch ⟨"b2", "0"⟩⟩] }⟩,
      ⟨⟨"b1", "0"⟩, { defs := [⟨⟨"d2", "0"⟩, .Assign xRcx (.Var xT0)⟩],
                      jmps := [⟨⟨"j2", "0"⟩, .Return (.Const 8 0)⟩] }⟩,
      ⟨⟨"b2", "0"⟩, { defs := [], jmps := [⟨⟨"j3", "0"⟩, .Branch ⟨"b1", "0"⟩⟩] }⟩] }⟩],
    externSymbols := [], entryPoints := [] }

/-- the program satisfies the hypotheses of the composition theorem … -/
example : WellSizedProgram xP xEnv.sp.size := by decide +kernel
example : OptimizeHyp xEnv "x86_64" xPhys xP :=
  ⟨rfl, rfl, by decide +kernel, cfOkB_sound (by decide +kernel), by decide +kernel⟩
example : tablesClosed (mergeAssignmentsProgram xP) (computeTables (mergeAssignmentsProgram xP)) = true ∧
    tablesReach (mergeAssignmentsProgram xP) (computeTables (mergeAssignmentsProgram xP)) = true := by decide +kernel

/-- … the three optimisations happen … -/
example : (normalizeOptimize "x86_64" xRsp xPhys xP).subs.map
    (fun s => s.term.blocks.map (fun b => (b.tid.id, b.term.defs.map (·.term), b.term.jmps.map (·.term)))) =
    [[("b0", [.Assign xRax (.BinOp .IntAdd (.Var xRbx) (.Const 8 1))],
        [.CBranch ⟨"b1", "0"⟩ (.Var xZf), .Branch ⟨"b1", "0"⟩]),
      ("b1", [.Assign xRcx (.BinOp .IntAdd (.Var xRbx) (.Const 8 1))], [.Return (.Const 8 0)])]] := by decide +kernel

private def xσ : State := State.setReg { seed := 3 } xRsp ⟨64, 0x7ffd00001230#64⟩

/-- … and the run-time hypotheses hold for a concrete aligned state: the executable check accepts the run (H1, H2),
every non-temporary variable is a physical register, the run does not get stuck (H3) -/
example : StateWF xσ ∧ (xσ.getReg xEnv.sp).toNat % 16 = 0 :=
  ⟨(stateWF_default 3).setReg _ _ rfl, by decide +kernel⟩
example : hypSub xEnv (xP.subs.head!).term xσ 10 = true := by decide +kernel
example : NonTempPhys xPhys (xP.subs.head!).term.blocks := nonTempPhysB_sound (by decide +kernel)
example : NoStuck (runSub xEnv (xP.subs.head!).term xσ 10) := by unfold NoStuck; decide +kernel

end CweModel.C10
