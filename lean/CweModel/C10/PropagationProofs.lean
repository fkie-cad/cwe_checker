/-
C10 pass 2 — expression propagation (analysis/expression_propagation/mod.rs) on the defs of one block.
First the facts about states the pass rests on: `boolOk`, like `eval`, depends only on the registers an expression
reads (`boolOk_agree`), so neither changes under a write to another register or to memory; substituting `by_` for `v`
is evaluating in the state with `v` set to the value of `by_` (`eval_substVar`, `boolOk_substVar`).
A table is valid in a state when every entry `(v, e)` evaluates to the current value of `v` and satisfies `boolOk`
(`TableValid`). Substituting valid entries does not change the value of an expression; the transfer `update_def` keeps
the table valid along the execution of a def, `merge` keeps validity; so the block-local insertion
`propagate_input_expressions` and `merge_def_assignments_to_same_var` keep the result (final state and memory events)
of executing the defs of a block, and the boolean discipline.
-/
import CweModel.C10.RunLemmas
import CweModel.C12.Optimize
import CweModel.C10.PropagationCases

namespace CweModel.C10
open CweModel CweModel.IR CweModel.Sem CweModel.C12

theorem boolOk_agree {σ₁ σ₂ : State} (hs : σ₁.seed = σ₂.seed) :
    ∀ {e : Expression}, (∀ v ∈ e.inputVars, σ₁.getReg v = σ₂.getReg v) → boolOk σ₁ e = boolOk σ₂ e := by
  intro e
  induction e with
  | Var x => intro _; rfl
  | Const b x => intro _; rfl
  | Unknown d s => intro _; rfl
  | BinOp op l r ihl ihr =>
    intro h
    have hl : ∀ v ∈ l.inputVars, σ₁.getReg v = σ₂.getReg v := fun v hv => h v (List.mem_append_left _ hv)
    have hr : ∀ v ∈ r.inputVars, σ₁.getReg v = σ₂.getReg v := fun v hv => h v (List.mem_append_right _ hv)
    simp only [boolOk, ihl hl, ihr hr, eval_agree hs hl, eval_agree hs hr]
  | UnOp op a ih => exact ih
  | Cast op s a ih => exact ih
  | Subpiece lb s a ih => exact ih

theorem getReg_setReg_of_not_mem {σ : State} {v : Variable} {x : Bv} {e : Expression} (h : v ∉ e.inputVars) :
    ∀ w ∈ e.inputVars, (σ.setReg v x).getReg w = σ.getReg w :=
  fun w hw => by rw [getReg_setReg, if_neg fun (heq : w = v) => h (heq ▸ hw)]

theorem eval_setReg_of_not_mem {σ : State} {v : Variable} {x : Bv} {e : Expression} (h : v ∉ e.inputVars) :
    eval (σ.setReg v x) e = eval σ e :=
  eval_agree (seed_setReg σ v x) (getReg_setReg_of_not_mem h)

theorem boolOk_setReg_of_not_mem {σ : State} {v : Variable} {x : Bv} {e : Expression} (h : v ∉ e.inputVars) :
    boolOk (σ.setReg v x) e = boolOk σ e :=
  boolOk_agree (seed_setReg σ v x) (getReg_setReg_of_not_mem h)

theorem eval_writeMem (σ : State) (a n val : Nat) (e : Expression) : eval (σ.writeMem a n val) e = eval σ e :=
  eval_agree (writeMem_fields σ a n val).1 (fun v _ => getReg_writeMem σ a n val v)

theorem boolOk_writeMem (σ : State) (a n val : Nat) (e : Expression) : boolOk (σ.writeMem a n val) e = boolOk σ e :=
  boolOk_agree (writeMem_fields σ a n val).1 (fun v _ => getReg_writeMem σ a n val v)

theorem eval_substVar {σ : State} {v : Variable} {by_ : Expression} {b : Bv} (hb : eval σ by_ = some b) :
    ∀ e : Expression, eval σ (e.substVar v by_) = eval (σ.setReg v b) e := by
  intro e
  rw [eval_eq_evalWith, evalWith_substVar, ← eval_eq_evalWith, hb, eval_eq_evalWith (σ.setReg v b)]
  exact evalWith_congr _ e fun w _ => by rw [getReg_setReg]; split <;> rfl

theorem boolOk_substVar {σ : State} {v : Variable} {by_ : Expression} {b : Bv} (hb : eval σ by_ = some b)
    (hbo : boolOk σ by_ = true) :
    ∀ e : Expression, boolOk (σ.setReg v b) e = true → boolOk σ (e.substVar v by_) = true := by
  intro e
  induction e with
  | Var w =>
    intro _
    simp only [Expression.substVar]
    split
    · exact hbo
    · rfl
  | Const c x => intro _; rfl
  | Unknown d s => intro _; rfl
  | BinOp op l r ihl ihr =>
    intro h
    obtain ⟨h1, h2, h3⟩ := boolOk_binOp.mp h
    simp only [Expression.substVar]
    refine boolOk_binOp.mpr ⟨ihl h1, ihr h2, fun hop => ?_⟩
    rw [eval_substVar hb, eval_substVar hb]
    exact h3 hop
  | UnOp op a ih => exact ih
  | Cast op s a ih => exact ih
  | Subpiece lb s a ih => exact ih

theorem getReg_setReg_getReg (σ : State) (v w : Variable) : (σ.setReg v (σ.getReg v)).getReg w = σ.getReg w := by
  rw [getReg_setReg]
  split
  · next h => rw [h]
  · rfl

def TableValid (σ : State) (t : Table) : Prop :=
  ∀ p ∈ t, eval σ p.2 = some (σ.getReg p.1) ∧ boolOk σ p.2 = true

theorem tableValid_nil (σ : State) : TableValid σ [] := by intro p hp; cases hp

theorem TableValid.filter {σ : State} {t : Table} (h : TableValid σ t) (f : Variable × Expression → Bool) :
    TableValid σ (t.filter f) := fun p hp => h p (List.mem_filter.mp hp).1

/-- **C10-merge.** The merge of the fixpoint (intersection of the entries) of a valid table is valid. -/
theorem TableValid.merge {σ : State} {a : Table} (h : TableValid σ a) (b : Table) : TableValid σ (a.merge b) :=
  h.filter _

theorem TableValid.get {σ : State} {t : Table} (h : TableValid σ t) {v : Variable} {e : Expression}
    (hg : t.get v = some e) : eval σ e = some (σ.getReg v) ∧ boolOk σ e = true :=
  h _ (Table.mem_of_get hg)

theorem substVar_valid {σ : State} {v : Variable} {x : Expression} (hx : eval σ x = some (σ.getReg v))
    (hbo : boolOk σ x = true) (e : Expression) :
    eval σ (e.substVar v x) = eval σ e ∧ (boolOk σ e = true → boolOk σ (e.substVar v x) = true) := by
  refine ⟨(eval_substVar hx e).trans (eval_agree (seed_setReg σ v _) fun w _ => getReg_setReg_getReg σ v w), fun h => ?_⟩
  exact boolOk_substVar hx hbo e ((boolOk_agree (seed_setReg σ v _) fun w _ => getReg_setReg_getReg σ v w).trans h)

theorem foldl_valid {σ : State} {α : Type} (g : Expression → α → Expression) (l : List α)
    (h : ∀ a ∈ l, ∀ e, eval σ (g e a) = eval σ e ∧ (boolOk σ e = true → boolOk σ (g e a) = true)) (e : Expression) :
    eval σ (l.foldl g e) = eval σ e ∧ (boolOk σ e = true → boolOk σ (l.foldl g e) = true) := by
  induction l generalizing e with
  | nil => exact ⟨rfl, id⟩
  | cons a as ih =>
    obtain ⟨h1, h2⟩ := h a List.mem_cons_self e
    obtain ⟨h3, h4⟩ := ih (fun b hb => h b (List.mem_cons_of_mem _ hb)) (g e a)
    exact ⟨h3.trans h1, fun hb => h4 (h2 hb)⟩

/-- **C10-substitute-table.** Substituting all entries of a valid table (in any order) keeps the value. -/
theorem substAll_valid {σ : State} {t : Table} (h : TableValid σ t) (e : Expression) :
    eval σ (substAll t e) = eval σ e ∧ (boolOk σ e = true → boolOk σ (substAll t e) = true) :=
  foldl_valid _ t (fun p hp => substVar_valid (h p hp).1 (h p hp).2) e

theorem extendFold_valid {σ : State} {t : Table} (hv : TableValid σ t) (vars : List Variable) (e : Expression) :
    let e' := vars.foldl (fun acc v =>
      match t.get v with
      | some x => if recursionDepth x < 10 then acc.substVar v x else acc
      | none => acc) e
    eval σ e' = eval σ e ∧ (boolOk σ e = true → boolOk σ e' = true) := by
  refine foldl_valid _ vars (fun v _ e => ?_) e
  split
  · next x hx =>
    split
    · exact substVar_valid (hv.get hx).1 (hv.get hx).2 e
    · exact ⟨rfl, id⟩
  · exact ⟨rfl, id⟩

theorem extendExpression_valid {σ : State} {t : Table} (hσ : StateWF σ) (hv : TableValid σ t) (hws : TableWS t)
    {e : Expression} (hw : WellSized e) {x : Bv} (hb : boolOk σ e = true) (he : eval σ e = some x) :
    eval σ (extendExpression t e) = some x ∧ boolOk σ (extendExpression t e) = true := by
  obtain ⟨h1, h2⟩ := extendFold_valid hv e.inputVars e
  exact substTrivial_eval hσ (extendFold_sizePreserving hws e.inputVars e hw).1 (h2 hb) (h1.trans he)

theorem not_mem_of_mentions_false {e : Expression} {v : Variable} (h : mentions e v = false) : v ∉ e.inputVars :=
  fun hv => Bool.false_ne_true (h.symm.trans (List.any_eq_true.mpr ⟨v, hv, decide_eq_true rfl⟩))

theorem TableValid.setReg {σ : State} {t : Table} (h : TableValid σ t) {p : Variable × Expression} (hp : p ∈ t)
    {v : Variable} (hk : p.1 ≠ v) (hm : v ∉ p.2.inputVars) (x : Bv) :
    eval (σ.setReg v x) p.2 = some ((σ.setReg v x).getReg p.1) ∧ boolOk (σ.setReg v x) p.2 = true := by
  rw [eval_setReg_of_not_mem hm, boolOk_setReg_of_not_mem hm, getReg_setReg, if_neg hk]
  exact h p hp

theorem TableValid.kill_setReg {σ : State} {t : Table} (h : TableValid σ t) (v : Variable) (x : Bv) :
    TableValid (σ.setReg v x) (t.kill v) := by
  intro p hp
  obtain ⟨hpt, hf⟩ := List.mem_filter.mp hp
  simp only [Bool.and_eq_true, decide_eq_true_eq, Bool.not_eq_true'] at hf
  exact h.setReg hpt hf.1 (not_mem_of_mentions_false hf.2) x

theorem TableValid.writeMem {σ : State} {t : Table} (h : TableValid σ t) (a n val : Nat) :
    TableValid (σ.writeMem a n val) t := by
  intro p hp
  rw [eval_writeMem, boolOk_writeMem, getReg_writeMem]
  exact h p hp

/-- **C10-update-def.** The fixpoint transfer `update_def` keeps the table valid along the execution of a def
(repaired code: a load removes the entry of the loaded variable, D3). -/
theorem updateDef_valid {ptr : Nat} {σ σ' : State} {t : Table} {d : Def} {evs : List Event}
    (hσ : StateWF σ) (hv : TableValid σ t) (hws : TableWS t) (hwd : WellSizedDef ptr d)
    (hbo : ∀ e ∈ defExprs d, boolOk σ e = true) (hd : execDef σ d = some (σ', evs)) :
    TableValid σ' (updateDef t d) := by
  cases d with
  | Assign v e =>
    obtain ⟨x, hx, _, rfl, _⟩ := execDef_assign.mp hd
    have hext := extendExpression_valid hσ hv hws hwd.2.1 (hbo e List.mem_cons_self) hx
    intro p hp
    obtain ⟨hp, hm⟩ := List.mem_filter.mp hp
    rw [Bool.not_eq_true'] at hm
    rcases List.mem_cons.mp hp with rfl | hp
    · have hnm := not_mem_of_mentions_false hm
      rw [eval_setReg_of_not_mem hnm, boolOk_setReg_of_not_mem hnm, getReg_setReg, if_pos rfl]
      exact hext
    · obtain ⟨hpt, hne⟩ := List.mem_filter.mp hp
      exact hv.setReg hpt (of_decide_eq_true hne) (not_mem_of_mentions_false hm) x
  | Load v a =>
    obtain ⟨x, _, rfl, _⟩ := execDef_load.mp hd
    exact hv.kill_setReg v _
  | Store a e =>
    obtain ⟨x, _, y, _, rfl, _⟩ := execDef_store.mp hd
    exact hv.writeMem _ _ _

theorem defsBoolOk_cons_of_exec {d : Term Def} {ds : List (Term Def)} {σ σ₁ : State} {e₁ : List Event}
    (h1 : execDef σ d.term = some (σ₁, e₁)) :
    DefsBoolOk (d :: ds) σ ↔ (∀ e ∈ defExprs d.term, boolOk σ e = true) ∧ DefsBoolOk ds σ₁ :=
  and_congr_right fun _ => ⟨fun h => h σ₁ e₁ h1, fun h σ' evs hd => by cases h1.symm.trans hd; exact h⟩

theorem defExprs_mapDefExprs (f : Expression → Expression) (d : Def) : defExprs (mapDefExprs f d) = (defExprs d).map f := by
  cases d <;> rfl

theorem propDef_sim {ptr : Nat} {σ : State} {t : Table} {d : Def} {r : State × List Event}
    (hσ : StateWF σ) (hv : TableValid σ t) (hws : TableWS t) (hwd : WellSizedDef ptr d)
    (hbo : ∀ e ∈ defExprs d, boolOk σ e = true) (hd : execDef σ d = some r) :
    execDef σ (propDef t d) = some r ∧ ∀ e ∈ defExprs (propDef t d), boolOk σ e = true := by
  have other (h : propDef t d = mapDefExprs (substAll t) d) :
      execDef σ (propDef t d) = some r ∧ ∀ e ∈ defExprs (propDef t d), boolOk σ e = true := by
    rw [h, defExprs_mapDefExprs]
    refine ⟨execDef_map hd fun e _ x hx => (substAll_valid hv e).1.trans hx, fun e he => ?_⟩
    obtain ⟨e₀, he₀, rfl⟩ := List.mem_map.mp he
    exact (substAll_valid hv e₀).2 (hbo e₀ he₀)
  cases d with
  | Load v a => exact other rfl
  | Store a e => exact other rfl
  | Assign v e =>
    obtain ⟨x, hx, hxw, hr⟩ := execDef_assign.mp hd
    have hext := extendExpression_valid hσ hv hws hwd.2.1 (hbo e List.mem_cons_self) hx
    exact ⟨execDef_assign.mpr ⟨x, hext.1, hxw, hr⟩, fun e' he' => by cases List.mem_singleton.mp he'; exact hext.2⟩

/-- **C10-block-local-insertion (with H1).** `propagate_input_expressions` on the defs of a block: if the table is
valid in the state at the start of the defs, the new defs keep the boolean discipline and execute to the same final
state with the same memory events as the original defs, and the table after the defs is valid in the final state
(so that the jump expressions may be substituted too). -/
theorem propagateDefs_sim {ptr : Nat} (defs : List (Term Def)) {σ : State} {t : Table} {r : State × List Event}
    (hσ : StateWF σ) (hv : TableValid σ t) (hws : TableWS t)
    (hwd : ∀ d ∈ defs, WellSizedDef ptr d.term) (hbo : DefsBoolOk defs σ)
    (hr : execDefs σ defs = some r) :
    DefsBoolOk (propagateDefs t defs).1 σ ∧ execDefs σ (propagateDefs t defs).1 = some r ∧
      TableValid r.1 (propagateDefs t defs).2 := by
  induction defs generalizing σ t r with
  | nil => cases hr; exact ⟨trivial, rfl, hv⟩
  | cons d ds ih =>
    obtain ⟨σ₁, e₁, σ₂, e₂, h1, h2, rfl⟩ := execDefs_cons_some.mp hr
    have hwd0 := hwd d List.mem_cons_self
    obtain ⟨hb0, hbo'⟩ := (defsBoolOk_cons_of_exec h1).mp hbo
    obtain ⟨h1', hb1⟩ := propDef_sim (t := t) hσ hv hws hwd0 hb0 h1
    obtain ⟨r0, r1, r2⟩ := ih (hσ.execDef h1) (updateDef_valid hσ hv hws hwd0 hb0 h1) (updateDef_tableWS hws hwd0)
      (fun x hx => hwd x (List.mem_cons_of_mem _ hx)) hbo' h2
    rw [propagateDefs_cons]
    exact ⟨(defsBoolOk_cons_of_exec (d := { d with term := propDef t d.term }) h1').mpr ⟨hb1, r0⟩,
      execDefs_cons_some.mpr ⟨σ₁, e₁, σ₂, e₂, h1', r1, rfl⟩, r2⟩

/-- **C10-block-local-insertion.** The same without the boolean discipline of the new defs, with the
size-consistency of the table after the defs. -/
theorem propagateDefs_exec {ptr : Nat} (defs : List (Term Def)) {σ : State} {t : Table} {r : State × List Event}
    (hσ : StateWF σ) (hv : TableValid σ t) (hws : TableWS t)
    (hwd : ∀ d ∈ defs, WellSizedDef ptr d.term) (hbo : DefsBoolOk defs σ)
    (hr : execDefs σ defs = some r) :
    execDefs σ (propagateDefs t defs).1 = some r ∧ TableValid r.1 (propagateDefs t defs).2 ∧
      TableWS (propagateDefs t defs).2 :=
  have h := propagateDefs_sim defs hσ hv hws hwd hbo hr
  ⟨h.2.1, h.2.2, (propagateDefs_ws defs hws hwd).2⟩

/-- **C10-table-after-defs.** The table the fixpoint sends to the successors of a block (`update_def` folded
over the defs) is valid in the state after the defs. -/
theorem tableAfterDefs_valid {ptr : Nat} (defs : List (Term Def)) {σ σ' : State} {t : Table} {evs : List Event}
    (hσ : StateWF σ) (hv : TableValid σ t) (hws : TableWS t)
    (hwd : ∀ d ∈ defs, WellSizedDef ptr d.term) (hbo : DefsBoolOk defs σ)
    (hr : execDefs σ defs = some (σ', evs)) : TableValid σ' (tableAfterDefs t defs) :=
  propagateDefs_snd t defs ▸ (propagateDefs_sim defs hσ hv hws hwd hbo hr).2.2

def DefsSim (l l' : List (Term Def)) : Prop :=
  ∀ σ r, execDefs σ l = some r → execDefs σ l' = some r ∧ (DefsBoolOk l σ → DefsBoolOk l' σ)

theorem DefsSim.refl (l : List (Term Def)) : DefsSim l l := fun _ _ hr => ⟨hr, id⟩

theorem DefsSim.trans {l₁ l₂ l₃ : List (Term Def)} (h₁₂ : DefsSim l₁ l₂) (h₂₃ : DefsSim l₂ l₃) : DefsSim l₁ l₃ :=
  fun σ r hr => ⟨(h₂₃ σ r (h₁₂ σ r hr).1).1, fun hb => (h₂₃ σ r (h₁₂ σ r hr).1).2 ((h₁₂ σ r hr).2 hb)⟩

theorem DefsSim.cons {l l' : List (Term Def)} (h : DefsSim l l') (d : Term Def) : DefsSim (d :: l) (d :: l') := by
  intro σ r hr
  obtain ⟨σ₁, e₁, σ₂, e₂, h1, h2, rfl⟩ := execDefs_cons_some.mp hr
  refine ⟨execDefs_cons_some.mpr ⟨σ₁, e₁, σ₂, e₂, h1, (h σ₁ _ h2).1, rfl⟩, ?_⟩
  rw [defsBoolOk_cons_of_exec h1, defsBoolOk_cons_of_exec h1]
  exact And.imp_right (h σ₁ _ h2).2

theorem setReg_setReg (σ : State) (v : Variable) (x y : Bv) : (σ.setReg v x).setReg v y = σ.setReg v y := by
  simp only [State.setReg, List.filter_cons, bne_self_eq_false, Bool.false_eq_true, if_false, List.filter_filter,
    Bool.and_self]

theorem defsSim_merge_assign {ld d : Term Def} {v : Variable} {e₁ e₂ : Expression} (ds : List (Term Def))
    (hl : ld.term = .Assign v e₁) (hd : d.term = .Assign v e₂) :
    DefsSim (ld :: d :: ds) ({ d with term := .Assign v (e₂.substVar v e₁) } :: ds) := by
  intro σ r hr
  obtain ⟨σ₁, ev₁, σ₃, _, h1, hr', rfl⟩ := execDefs_cons_some.mp hr
  obtain ⟨σ₂, ev₂, _, ev₃, h2, h3, heq⟩ := execDefs_cons_some.mp hr'
  cases heq
  have hb (hb : DefsBoolOk (ld :: d :: ds) σ) := (defsBoolOk_cons_of_exec h2).mp ((defsBoolOk_cons_of_exec h1).mp hb).2
  rw [hl] at h1
  rw [hd] at h2
  obtain ⟨x, hx, _, rfl, rfl⟩ := execDef_assign.mp h1
  obtain ⟨y, hy, hyw, rfl, rfl⟩ := execDef_assign.mp h2
  rw [setReg_setReg] at h3
  have hm : execDef σ (.Assign v (e₂.substVar v e₁)) = some (σ.setReg v y, []) :=
    execDef_assign.mpr ⟨y, (eval_substVar hx e₂).trans hy, hyw, rfl⟩
  refine ⟨execDefs_cons_some.mpr ⟨_, _, σ₃, ev₃, hm, h3, rfl⟩, fun hbo => ?_⟩
  obtain ⟨hb₂, hb₃⟩ := hb hbo
  rw [setReg_setReg] at hb₃
  refine (defsBoolOk_cons_of_exec hm).mpr ⟨fun e he => ?_, hb₃⟩
  cases List.mem_singleton.mp he
  exact boolOk_substVar hx (hbo.1 e₁ (by rw [hl]; exact List.mem_cons_self)) e₂
    (hb₂ e₂ (by rw [hd]; exact List.mem_cons_self))

theorem Merges.sim {l l' : List (Term Def)} (h : Merges l l') : DefsSim l l' := by
  induction h with
  | refl l => exact .refl l
  | cons d _ ih => exact ih.cons d
  | merge hl hd _ ih => exact (defsSim_merge_assign _ hl hd).trans ih

/-- **C10-merge-assignments (with H1).** `merge_def_assignments_to_same_var` keeps the result of executing the defs
and the boolean discipline (`last` is the pending assignment of the loop). -/
theorem mergeDefsLoop_sim (ds : List (Term Def)) (last : Option (Term Def)) :
    DefsSim (last.toList ++ ds) (mergeDefsLoop last ds) :=
  (mergeDefsLoop_merges ds last).sim

/-- **C10-merge-assignments.** `merge_def_assignments_to_same_var` keeps the result of executing the defs
(`last` is the pending assignment of the loop). -/
theorem mergeDefsLoop_exec (ds : List (Term Def)) (last : Option (Term Def)) {σ : State} {r : State × List Event}
    (hr : execDefs σ (last.toList ++ ds) = some r) : execDefs σ (mergeDefsLoop last ds) = some r :=
  (mergeDefsLoop_sim ds last σ r hr).1

end CweModel.C10
