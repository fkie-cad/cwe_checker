/-
C10 pass 3 — the fuelled liveness iteration of the model (`computeAliveVars`) always reaches a post-fixpoint.

`aliveFix` stops when a round does not change the total size of the map; the fuel
`(subVarCount blocks + phys.length + 1) * (blocks.length + 1) + 2` is sufficient because
  * every iterate has the shape `blocks.map fun b => (b.tid, G b)` (`af_mk`),
  * every `G b` is duplicate-free and contains only physical registers and variables read by an expression of
    a def or jump of the function (`af_Inv`; `af_univ`, of length `≤ subVarCount blocks + phys.length`), so the total
    size never exceeds `blocks.length * (af_univ phys blocks).length`,
  * a round never shrinks a set (`insertAll` only appends), and a round that keeps the total size keeps the
    whole map — which then is a post-fixpoint (`aliveClosed`) when the block tids are unique.
-/
import CweModel.C10.DeadVarsCases

namespace CweModel.C10
open CweModel CweModel.IR

theorem af_insertAll_append (s : VarSet) (vs : List Variable) : ∃ extra, s.insertAll vs = s ++ extra := by
  unfold VarSet.insertAll
  induction vs generalizing s with
  | nil => exact ⟨[], (List.append_nil s).symm⟩
  | cons x xs ih =>
    rw [List.foldl_cons]
    split
    · exact ih s
    · obtain ⟨e, he⟩ := ih (s ++ [x])
      exact ⟨x :: e, by rw [he, List.append_assoc]; rfl⟩

theorem af_insertAll_length_le (s : VarSet) (vs : List Variable) : s.length ≤ (s.insertAll vs).length := by
  obtain ⟨e, he⟩ := af_insertAll_append s vs
  rw [he, List.length_append]; exact Nat.le_add_right _ _

theorem af_insertAll_eq_of_length {s : VarSet} {vs : List Variable} (h : (s.insertAll vs).length = s.length) :
    s.insertAll vs = s := by
  obtain ⟨e, he⟩ := af_insertAll_append s vs
  rw [he, List.length_append] at h
  rw [he, List.eq_nil_of_length_eq_zero (Nat.add_left_cancel (h.trans (Nat.add_zero _).symm)), List.append_nil]

theorem af_insertAll_nodup {s : VarSet} (vs : List Variable) (h : s.Nodup) : (s.insertAll vs).Nodup := by
  unfold VarSet.insertAll
  induction vs generalizing s with
  | nil => exact h
  | cons x xs ih =>
    rw [List.foldl_cons]
    split
    · exact ih h
    · next hx =>
      refine ih (List.nodup_append.mpr ⟨h, List.pairwise_singleton _ _, fun a ha b hb e => ?_⟩)
      rw [List.mem_singleton.mp hb] at e
      exact hx (e ▸ ha)

theorem af_sum_le {α : Type} (l : List α) (f g : α → Nat) (h : ∀ x ∈ l, f x ≤ g x) :
    (l.map f).sum ≤ (l.map g).sum := by
  induction l with
  | nil => exact Nat.le_refl _
  | cons a as ih =>
    exact Nat.add_le_add (h a List.mem_cons_self) (ih fun x hx => h x (List.mem_cons_of_mem _ hx))

theorem af_sum_eq {α : Type} (l : List α) (f g : α → Nat) (h : ∀ x ∈ l, f x ≤ g x)
    (hs : (l.map g).sum = (l.map f).sum) : ∀ x ∈ l, g x = f x := by
  induction l with
  | nil => exact List.forall_mem_nil _
  | cons a as ih =>
    have h1 := h a List.mem_cons_self
    have h2 := af_sum_le as f g fun x hx => h x (List.mem_cons_of_mem _ hx)
    replace hs : g a + (as.map g).sum = f a + (as.map f).sum := hs
    -- both summands are bounded, so both are equal
    have hd := Nat.le_antisymm (Nat.le_of_add_le_add_left (hs ▸ Nat.add_le_add_right h1 _)) h2
    exact List.forall_mem_cons.mpr
      ⟨Nat.add_right_cancel (hd ▸ hs), ih (fun x hx => h x (List.mem_cons_of_mem _ hx)) hd⟩

theorem af_sum_le_mul {α : Type} (l : List α) (f : α → Nat) (K : Nat) (h : ∀ x ∈ l, f x ≤ K) :
    (l.map f).sum ≤ l.length * K := by
  have := af_sum_le l f (fun _ => K) h
  rwa [List.map_const', List.sum_replicate_nat] at this

def af_univ (phys : VarSet) (blocks : List (Term Blk)) : List Variable :=
  phys ++ blocks.flatMap fun b =>
    (b.term.defs.flatMap fun d => (defExprs d.term).flatMap (·.inputVars)) ++
      b.term.jmps.flatMap fun j => (jmpExprs j.term).flatMap (·.inputVars)

theorem af_univ_length (phys : VarSet) (blocks : List (Term Blk)) :
    (af_univ phys blocks).length ≤ subVarCount blocks + phys.length := by
  rw [af_univ, List.length_append, List.length_flatMap, Nat.add_comm]
  refine Nat.add_le_add_right (af_sum_le _ _ _ fun b _ => ?_) _
  rw [List.length_append, List.length_flatMap, List.length_flatMap]
  refine Nat.add_le_add (af_sum_le _ _ _ fun d _ => ?_) (af_sum_le _ _ _ fun j _ => ?_)
  · cases d.term <;> simp [defExprs]
  · cases j.term <;> simp [jmpExprs]

theorem mem_af_univ {phys : VarSet} {blocks : List (Term Blk)} {v : Variable} :
    v ∈ af_univ phys blocks ↔ v ∈ phys ∨ ∃ b ∈ blocks,
      (∃ d ∈ b.term.defs, ∃ e ∈ defExprs d.term, v ∈ e.inputVars) ∨
        ∃ j ∈ b.term.jmps, ∃ e ∈ jmpExprs j.term, v ∈ e.inputVars := by
  simp only [af_univ, List.mem_append, List.mem_flatMap]

theorem updateAliveByDef_subset {U A : VarSet} {d : Def} (hA : ∀ v ∈ A, v ∈ U)
    (hd : ∀ e ∈ defExprs d, ∀ v ∈ e.inputVars, v ∈ U) : ∀ v ∈ updateAliveByDef A d, v ∈ U := by
  have hrm (w : Variable) : ∀ v ∈ A.remove w, v ∈ U := fun v hv => hA v (mem_remove.mp hv).1
  cases d with
  | Assign x e =>
    rw [updateAliveByDef]
    split
    · exact insertAll_subset_iff.mpr ⟨hrm x, hd e List.mem_cons_self⟩
    · exact hA
  | Load x a => exact insertAll_subset_iff.mpr ⟨hrm x, hd a List.mem_cons_self⟩
  | Store a e =>
    exact insertAll_subset_iff.mpr ⟨insertAll_subset_iff.mpr ⟨hA, hd a List.mem_cons_self⟩,
      hd e (List.mem_cons_of_mem _ List.mem_cons_self)⟩

theorem aliveBeforeDefs_subset {U A : VarSet} {defs : List (Term Def)} (hA : ∀ v ∈ A, v ∈ U)
    (hd : ∀ d ∈ defs, ∀ e ∈ defExprs d.term, ∀ v ∈ e.inputVars, v ∈ U) :
    ∀ v ∈ aliveBeforeDefs A defs, v ∈ U := by
  induction defs with
  | nil => exact hA
  | cons d ds ih =>
    exact updateAliveByDef_subset (ih fun x hx => hd x (List.mem_cons_of_mem _ hx)) (hd d List.mem_cons_self)

theorem jmpContribution_subset {U phys s : VarSet} {aliveStart : Tid → VarSet} {ind : List Tid} {j : Jmp}
    {u : Option Jmp} (hp : ∀ v ∈ phys, v ∈ U) (hS : ∀ t, ∀ v ∈ aliveStart t, v ∈ U)
    (hj : ∀ e ∈ jmpExprs j, ∀ v ∈ e.inputVars, v ∈ U)
    (hu : ∀ j', u = some j' → ∀ e ∈ jmpExprs j', ∀ v ∈ e.inputVars, v ∈ U)
    (hs : jmpContribution phys aliveStart ind j u = some s) : ∀ v ∈ s, v ∈ U := by
  have huv : ∀ v ∈ (match u with | some (.CBranch _ c) => c.inputVars | _ => []), v ∈ U := by
    split
    · exact hu _ rfl _ List.mem_cons_self
    · exact List.forall_mem_nil _
  cases j with
  | Branch t => cases hs; exact insertAll_subset_iff.mpr ⟨insertAll_subset_iff.mpr ⟨hS t, List.forall_mem_nil _⟩, huv⟩
  | CBranch t c => cases hs; exact insertAll_subset_iff.mpr ⟨insertAll_subset_iff.mpr ⟨hS t, hj c List.mem_cons_self⟩, huv⟩
  | BranchInd e =>
    cases ind with
    | nil => cases hs
    | cons t ts =>
      cases hs
      intro v hv
      obtain hv | ⟨t', _, hv | hv | hv⟩ := (mem_branchInd_fold _ _).mp hv
      · cases hv
      · exact hS t' v hv
      · exact hj e List.mem_cons_self v hv
      · exact huv v hv
  | Call t r => cases hs; exact hp
  | CallInd e r => cases hs; exact insertAll_subset_iff.mpr ⟨hp, hj e List.mem_cons_self⟩
  | CallOther d r => cases hs
  | Return e => cases hs; exact insertAll_subset_iff.mpr ⟨hp, hj e List.mem_cons_self⟩

theorem present_subset {U D : VarSet} {cs : List (Option VarSet)} (hD : ∀ v ∈ D, v ∈ U)
    (hcs : ∀ s, some s ∈ cs → ∀ v ∈ s, v ∈ U) :
    ∀ v ∈ (if (cs.filterMap id).isEmpty then D else (cs.filterMap id).foldl (fun acc s => acc.insertAll s) []),
      v ∈ U := by
  intro v hv
  split at hv
  · exact hD v hv
  · obtain hv | ⟨s, hs, hv⟩ := mem_foldl_insertAll.mp hv
    · cases hv
    · obtain ⟨c, hc, rfl⟩ := List.mem_filterMap.mp hs
      exact hcs s hc v hv

theorem aliveEndOf_subset {U phys : VarSet} {aliveStart : Tid → VarSet} {b : Term Blk} (hp : ∀ v ∈ phys, v ∈ U)
    (hS : ∀ t, ∀ v ∈ aliveStart t, v ∈ U) (hj : ∀ j ∈ b.term.jmps, ∀ e ∈ jmpExprs j.term, ∀ v ∈ e.inputVars, v ∈ U) :
    ∀ v ∈ aliveEndOf phys aliveStart b, v ∈ U := by
  refine present_subset (fun v hv => ?_) fun s hs => ?_
  · obtain hv | ⟨j, hjm, e, he, hv⟩ := (mem_deadEndAlive _).mp hv
    · exact hp v hv
    · exact hj j hjm e he v hv
  · split at hs
    · cases hs
    · next j hjm =>
      exact jmpContribution_subset (u := none) hp hS (hj j (hjm ▸ List.mem_cons_self)) (fun _ e => nomatch e)
        (List.mem_singleton.mp hs).symm
    · next j₁ j₂ _ hjm =>
      have h₁ := hj j₁ (hjm ▸ List.mem_cons_self)
      rcases List.mem_cons.mp hs with hs | hs
      · exact jmpContribution_subset (u := none) hp hS h₁ (fun _ e => nomatch e) hs.symm
      · exact jmpContribution_subset hp hS (hj j₂ (hjm ▸ List.mem_cons_of_mem _ List.mem_cons_self))
          (fun _ e => Option.some.inj e ▸ h₁) (List.mem_singleton.mp hs).symm

def af_mk (blocks : List (Term Blk)) (G : Term Blk → VarSet) : AliveMap := blocks.map fun b => (b.tid, G b)

theorem af_get_mk (blocks : List (Term Blk)) (G : Term Blk → VarSet) (t : Tid) :
    (af_mk blocks G).get t = match blocks.find? (fun b => b.tid == t) with | some b => G b | none => [] := by
  simp only [AliveMap.get, af_mk, List.find?_map, Function.comp_def]
  cases blocks.find? fun b => b.tid == t <;> rfl

theorem af_get_of_mem {blocks : List (Term Blk)} (G : Term Blk → VarSet)
    (huniq : ∀ b ∈ blocks, ∀ b' ∈ blocks, b'.tid = b.tid → b' = b) {b : Term Blk} (hb : b ∈ blocks) :
    (af_mk blocks G).get b.tid = G b := by
  rw [af_get_mk]
  cases h : blocks.find? fun b' => b'.tid == b.tid with
  | none => exact absurd (beq_self_eq_true b.tid) (List.find?_eq_none.mp h b hb)
  | some b' => rw [huniq b hb b' (List.mem_of_find?_eq_some h) (eq_of_beq (List.find?_some (p := fun b' : Term Blk => b'.tid == b.tid) h))]

theorem af_size_mk (blocks : List (Term Blk)) (G : Term Blk → VarSet) :
    aliveMapSize (af_mk blocks G) = (blocks.map fun b => (G b).length).sum := by
  simp only [aliveMapSize, af_mk, List.map_map, Function.comp_def]

theorem af_round_mk (phys : VarSet) (blocks : List (Term Blk)) (m : AliveMap) :
    aliveRound phys blocks m =
      af_mk blocks (fun b => (m.get b.tid).insertAll (aliveEndOf phys (aliveStartOf blocks m) b)) := rfl

def af_Inv (phys : VarSet) (blocks : List (Term Blk)) (G : Term Blk → VarSet) : Prop :=
  ∀ b ∈ blocks, (G b).Nodup ∧ ∀ v ∈ G b, v ∈ af_univ phys blocks

theorem af_get_inv {phys : VarSet} {blocks : List (Term Blk)} {G : Term Blk → VarSet}
    (hI : af_Inv phys blocks G) (t : Tid) :
    ((af_mk blocks G).get t).Nodup ∧ ∀ v ∈ (af_mk blocks G).get t, v ∈ af_univ phys blocks := by
  rw [af_get_mk]
  split
  · next b hb => exact hI b (List.mem_of_find?_eq_some hb)
  · exact ⟨List.nodup_nil, List.forall_mem_nil _⟩

theorem af_inv_round {phys : VarSet} {blocks : List (Term Blk)} {G : Term Blk → VarSet}
    (hI : af_Inv phys blocks G) :
    af_Inv phys blocks (fun b => ((af_mk blocks G).get b.tid).insertAll
      (aliveEndOf phys (aliveStartOf blocks (af_mk blocks G)) b)) := by
  intro b hb
  refine ⟨af_insertAll_nodup _ (af_get_inv hI b.tid).1, insertAll_subset_iff.mpr ⟨(af_get_inv hI b.tid).2, ?_⟩⟩
  refine aliveEndOf_subset (fun v hv => mem_af_univ.mpr (.inl hv)) (fun t v hv => ?_)
    fun j hj e he v hv => mem_af_univ.mpr (.inr ⟨b, hb, .inr ⟨j, hj, e, he, hv⟩⟩)
  unfold aliveStartOf at hv
  split at hv
  · next b' hb' =>
    exact aliveBeforeDefs_subset (af_get_inv hI t).2
      (fun d hd e he v hv => mem_af_univ.mpr (.inr ⟨b', List.mem_of_find?_eq_some hb', .inl ⟨d, hd, e, he, hv⟩⟩)) v hv
  · cases hv

theorem af_size_le {phys : VarSet} {blocks : List (Term Blk)} {G : Term Blk → VarSet}
    (hI : af_Inv phys blocks G) :
    aliveMapSize (af_mk blocks G) ≤ blocks.length * (af_univ phys blocks).length := by
  rw [af_size_mk]
  exact af_sum_le_mul _ _ _ fun b hb => List.Nodup.length_le_of_subset (hI b hb).1 (hI b hb).2

theorem af_length_le_round {phys : VarSet} {blocks : List (Term Blk)} (G : Term Blk → VarSet)
    (huniq : ∀ b ∈ blocks, ∀ b' ∈ blocks, b'.tid = b.tid → b' = b) : ∀ b ∈ blocks,
    (G b).length ≤ (((af_mk blocks G).get b.tid).insertAll
      (aliveEndOf phys (aliveStartOf blocks (af_mk blocks G)) b)).length := by
  intro b hb
  rw [af_get_of_mem G huniq hb]
  exact af_insertAll_length_le _ _

theorem af_size_round_ge {phys : VarSet} {blocks : List (Term Blk)} (G : Term Blk → VarSet)
    (huniq : ∀ b ∈ blocks, ∀ b' ∈ blocks, b'.tid = b.tid → b' = b) :
    aliveMapSize (af_mk blocks G) ≤ aliveMapSize (aliveRound phys blocks (af_mk blocks G)) := by
  rw [af_round_mk, af_size_mk, af_size_mk]
  exact af_sum_le _ _ _ (af_length_le_round G huniq)

theorem af_round_stable {phys : VarSet} {blocks : List (Term Blk)} (G : Term Blk → VarSet)
    (huniq : ∀ b ∈ blocks, ∀ b' ∈ blocks, b'.tid = b.tid → b' = b)
    (hsz : aliveMapSize (aliveRound phys blocks (af_mk blocks G)) = aliveMapSize (af_mk blocks G)) :
    aliveRound phys blocks (af_mk blocks G) = af_mk blocks G := by
  rw [af_round_mk, af_size_mk, af_size_mk] at hsz
  have heq := af_sum_eq blocks _ _ (af_length_le_round G huniq) hsz
  rw [af_round_mk]
  refine List.map_congr_left fun b hb => ?_
  have h := heq b hb
  dsimp only
  rw [af_get_of_mem G huniq hb] at h ⊢
  rw [af_insertAll_eq_of_length h]

theorem af_closed_of_round_eq {phys : VarSet} {blocks : List (Term Blk)} {m : AliveMap}
    (huniq : ∀ b ∈ blocks, ∀ b' ∈ blocks, b'.tid = b.tid → b' = b)
    (h : aliveRound phys blocks m = m) : aliveClosed phys blocks m = true := by
  refine List.all_eq_true.mpr fun b hb => subset_iff.mpr fun v hv => ?_
  have hg := af_get_of_mem (fun b => (m.get b.tid).insertAll (aliveEndOf phys (aliveStartOf blocks m) b)) huniq hb
  rw [← af_round_mk, h] at hg
  rw [hg]
  exact mem_insertAll.mpr (.inr hv)

/-- **C10-liveness-stable.** if the iteration stops through the size test (a round keeps `aliveMapSize`), the
map it returns is a post-fixpoint -/
theorem aliveFix_closed_of_stable {phys : VarSet} {blocks : List (Term Blk)} (G : Term Blk → VarSet)
    (huniq : ∀ b ∈ blocks, ∀ b' ∈ blocks, b'.tid = b.tid → b' = b)
    (hsz : aliveMapSize (aliveRound phys blocks (af_mk blocks G)) = aliveMapSize (af_mk blocks G)) :
    aliveClosed phys blocks (aliveRound phys blocks (af_mk blocks G)) = true := by
  have h := af_round_stable G huniq hsz
  rw [h]
  exact af_closed_of_round_eq huniq h

theorem af_fix_closed {phys : VarSet} {blocks : List (Term Blk)}
    (huniq : ∀ b ∈ blocks, ∀ b' ∈ blocks, b'.tid = b.tid → b' = b) :
    ∀ (fuel : Nat) (G : Term Blk → VarSet), af_Inv phys blocks G →
      blocks.length * (af_univ phys blocks).length < aliveMapSize (af_mk blocks G) + fuel →
      aliveClosed phys blocks (aliveFix phys blocks fuel (af_mk blocks G)) = true := by
  intro fuel
  induction fuel with
  | zero =>
    intro G hI hlt
    exact absurd hlt (Nat.not_lt.mpr (af_size_le hI))
  | succ fuel ih =>
    intro G hI hlt
    rw [aliveFix]
    split
    · next hsz => exact aliveFix_closed_of_stable G huniq (eq_of_beq hsz)
    · next hsz =>
      have hge := af_size_round_ge (phys := phys) G huniq
      rw [af_round_mk] at hsz hge ⊢
      refine ih _ (af_inv_round hI) (Nat.lt_of_lt_of_le hlt ?_)
      rw [Nat.add_comm fuel 1, ← Nat.add_assoc]
      exact Nat.add_le_add_right (Nat.lt_of_le_of_ne hge (Ne.symm (ne_of_beq_false (Bool.not_eq_true _ ▸ hsz)))) fuel

/-- **C10-liveness-fixpoint.** the model's liveness iteration always reaches a post-fixpoint: the fuel of
`computeAliveVars` is sufficient (block tids unique by value) -/
theorem computeAliveVars_closed (phys : VarSet) (blocks : List (Term Blk))
    (huniq : ∀ b ∈ blocks, ∀ b' ∈ blocks, b'.tid = b.tid → b' = b) :
    aliveClosed phys blocks (computeAliveVars phys blocks) = true := by
  refine af_fix_closed huniq _ (fun _ => []) (fun b _ => ⟨List.nodup_nil, List.forall_mem_nil _⟩) ?_
  refine Nat.lt_of_lt_of_le ?_ (Nat.le_add_left _ _)
  refine Nat.lt_of_le_of_lt ?_ (Nat.lt_add_of_pos_right (Nat.zero_lt_succ 1))
  rw [Nat.mul_comm (subVarCount blocks + phys.length + 1)]
  exact Nat.mul_le_mul (Nat.le_succ _) (Nat.le_succ_of_le (af_univ_length phys blocks))

end CweModel.C10
