/-
C10 pass 2, run level — expression propagation preserves the observable trace of every function.

The block-local insertion with ANY family of tables `m` that is a post-fixpoint of the model transfer functions
(`tablesClosed`, the check the driver evaluates on the tables of the REAL fixpoint, plus `tablesReach`: the entry block
and every block a table is sent to have a value) is an instance of the same-state simulation of SameState.lean
(`propagate_blockRef`): the table at the start of every block reached by a run is valid there, and every entry of every
table (of the fixpoint and of the block-local loop) was created from expressions evaluated since the last call (calls
reset the tables), so its variables are physical or assigned since then (`TableLocal`). Then the whole pass
`propagate_input_expression` for such tables (`propagateProgramWith_preserves`), and for the model's own iteration
`computeTables` when it stabilised (`propagateProgram_preserves`).

Structural hypotheses (`subCfgOk`): at most two jumps per block; no `CallOther` with a return site (the
CFG of analysis/graph.rs has no edge for it: recorded known limitation); a `Call` with a return site
targets an extern symbol or a function with a returning block (otherwise the CFG has no edge to the
return site, while the reference interpreter continues there).
-/
import CweModel.C10.SameState
import CweModel.Base.IRInst

namespace CweModel.C10
open CweModel CweModel.IR CweModel.Sem CweModel.C12

theorem execJmps_cons_goto {env : Env} {σ σ₂ : State} {c c₂ : Nat} {j : Term Jmp} {rest : List (Term Jmp)}
    {evs : List Event} {t : Tid} (h : execJmps env σ c (j :: rest) = (evs, .goto t σ₂ c₂)) :
    JmpGoes env σ c j t σ₂ c₂ ∨
      (∃ tgt cnd v, j.term = .CBranch tgt cnd ∧ eval σ cnd = some v ∧ v.toNat = 0 ∧
        execJmps env σ c rest = (evs, .goto t σ₂ c₂)) := by
  rcases execJmps_cons_mapTarget env σ c (fun t => t) j rest rest with
    ⟨⟨tgt, cnd, v, hj, hv, hz⟩, hr, _⟩ | ⟨_, hs, _⟩ | ⟨_, _, _, _, hgo, hg, _⟩
  · exact .inr ⟨tgt, cnd, v, hj, hv, hz, hr ▸ h⟩
  · rw [hs] at h; cases h
  · rw [hg] at h; cases h; exact .inl hgo

/-- the jump through which a block with at most two jumps continues at `t` is one of the jumps the CFG
construction looks at (`jmpsWithUntaken`) -/
theorem execJmps_goto_inv {env : Env} {σ σ₂ : State} {c c₂ : Nat} {b : Term Blk} {evs : List Event} {t : Tid}
    (hlen : b.term.jmps.length ≤ 2) (h : execJmps env σ c b.term.jmps = (evs, .goto t σ₂ c₂)) :
    ∃ j ∈ b.term.jmps, ∃ u, (j.term, u) ∈ jmpsWithUntaken b ∧ JmpGoes env σ c j t σ₂ c₂ ∧
      (∀ u', u = some u' → ∃ j₁ tgt cnd v, b.term.jmps = [j₁, j] ∧ u' = j₁.term ∧ j₁.term = .CBranch tgt cnd ∧
        eval σ cnd = some v ∧ v.toNat = 0) := by
  unfold jmpsWithUntaken
  match hj : b.term.jmps, hlen with
  | [], _ => rw [hj] at h; cases h
  | [j], _ =>
    rw [hj] at h
    rcases execJmps_cons_goto h with hg | ⟨_, _, _, _, _, _, hr⟩
    · exact ⟨j, List.mem_cons_self, none, List.mem_cons_self, hg, fun _ hu => by cases hu⟩
    · cases hr
  | [j₁, j₂], _ =>
    rw [hj] at h
    rcases execJmps_cons_goto h with hg | ⟨tgt, cnd, v, hj1, hv, hz, hr⟩
    · exact ⟨j₁, List.mem_cons_self, none, List.mem_cons_self, hg, fun _ hu => by cases hu⟩
    · rcases execJmps_cons_goto hr with hg | ⟨_, _, _, _, _, _, hr'⟩
      · refine ⟨j₂, List.mem_cons_of_mem _ List.mem_cons_self, some j₁.term,
          List.mem_cons_of_mem _ List.mem_cons_self, hg, fun u' hu => ?_⟩
        cases hu
        exact ⟨j₁, tgt, cnd, v, rfl, rfl, hj1, hv, hz⟩
      · cases hr'
  | _ :: _ :: _ :: _, h' => exact absurd h' (Nat.not_le.mpr (Nat.le_add_left 3 _))

theorem allWSB_sound {m : TableMap} (h : allWSB m = true) : AllWS m := by
  intro q hq t hqt
  have := List.all_eq_true.mp h q hq
  rw [hqt] at this
  intro e he
  have he' := List.all_eq_true.mp this e he
  simp only [Bool.and_eq_true, beq_iff_eq, C12.wellSizedExpr, decide_eq_true_eq] at he'
  exact he'

theorem subsetOf_valid {σ : State} {a b : Table} (h : a.subsetOf b = true) (hv : TableValid σ b) : TableValid σ a :=
  fun q hq => hv q (Table.mem_of_subsetOf h hq)

/-- second alternative: after a call the tables start empty -/
theorem tablesSent_of_jmpGoes {env : Env} {p : Program} {m : TableMap} {a : Term Blk} {ta : Table}
    {σ σ₂ : State} {c c₂ : Nat} {j : Term Jmp} {u : Option Jmp} {t : Tid}
    (hg : m.get a.tid = some ta) (hmem : (j.term, u) ∈ jmpsWithUntaken a) (hok : jmpCfgOk p j.term = true)
    (hgo : JmpGoes env σ c j t σ₂ c₂) :
    (tableAfterDefs ta a.term.defs ∈ tablesSent p m a t ∧ σ₂ = σ ∧ c₂ = c) ∨ ([] ∈ tablesSent p m a t) := by
  unfold JmpGoes at hgo
  unfold tablesSent
  rw [hg]
  obtain ⟨jtid, jt⟩ := j
  cases jt with
  | Branch tgt =>
    obtain ⟨rfl, rfl, rfl⟩ := hgo
    exact .inl ⟨List.mem_flatMap.mpr ⟨_, hmem, by simp⟩, rfl, rfl⟩
  | CBranch tgt cnd =>
    obtain ⟨rfl, rfl, rfl, _⟩ := hgo
    exact .inl ⟨List.mem_flatMap.mpr ⟨_, hmem, by simp⟩, rfl, rfl⟩
  | BranchInd e => exact hgo.elim
  | Return e => exact hgo.elim
  | CallOther d r =>
    cases r with
    | none => exact hgo.elim
    | some r => cases hok
  | CallInd e r =>
    cases r with
    | none => exact hgo.elim
    | some r =>
      obtain ⟨rfl, _⟩ := hgo
      exact .inr (List.mem_flatMap.mpr ⟨_, hmem, by simp⟩)
  | Call callee r =>
    cases r with
    | none => exact hgo.elim
    | some r =>
      obtain ⟨rfl, _⟩ := hgo
      refine .inr (List.mem_flatMap.mpr ⟨_, hmem, ?_⟩)
      simp only [jmpCfgOk, Bool.or_eq_true] at hok
      simp only [beq_self_eq_true, if_true]
      split
      · simp
      · next hext =>
        cases hic : internalCallee p callee with
        | none => rw [hic] at hok; simp [hext] at hok
        | some f =>
          rw [hic] at hok
          obtain ⟨rb, hrb, hret⟩ := List.any_eq_true.mp (hok.resolve_left hext)
          simp only [List.mem_flatMap, List.mem_filter]
          exact ⟨rb, ⟨hrb, hret⟩, List.mem_singleton.mpr rfl⟩

theorem propagateBlock_defs (t : Table) (b : Term Blk) :
    (propagateBlock t b).term.defs = (propagateDefs t b.term.defs).1 := rfl

theorem propagateBlock_jmps (t : Table) (b : Term Blk) :
    (propagateBlock t b).term.jmps =
      b.term.jmps.map fun j => { j with term := mapJmpExprs (substAll (propagateDefs t b.term.defs).2) j.term } := rfl

/-- the block `insert_expressions` writes for `b`, given the tables `m` -/
def propagateBlockWith (m : TableMap) (b : Term Blk) : Term Blk := propagateBlock ((m.get b.tid).getD []) b

theorem propagateSub_eq (m : TableMap) (s : Term Sub) : propagateSub m s = mapSubBlocks (propagateBlockWith m) s := rfl

def TableLocal (phys : VarSet) (D : List Variable) (t : Table) : Prop := ∀ q ∈ t, ExprLocal phys D q.2

theorem tableLocal_nil (phys : VarSet) (D : List Variable) : TableLocal phys D [] := fun _ hq => by cases hq

theorem TableLocal.mono {phys : VarSet} {D D' : List Variable} {t : Table} (hs : D ⊆ D')
    (h : TableLocal phys D t) : TableLocal phys D' t := fun q hq => (h q hq).mono hs

theorem TableLocal.filter {phys : VarSet} {D : List Variable} {t : Table} (h : TableLocal phys D t)
    (f : Variable × Expression → Bool) : TableLocal phys D (t.filter f) := fun q hq => h q (List.mem_filter.mp hq).1

theorem TableLocal.get {phys : VarSet} {D : List Variable} {t : Table} (h : TableLocal phys D t) {v : Variable}
    {e : Expression} (hg : t.get v = some e) : ExprLocal phys D e :=
  h _ (Table.mem_of_get hg)

theorem TableLocal.insert {phys : VarSet} {D : List Variable} {t : Table} (h : TableLocal phys D t) {v : Variable}
    {e : Expression} (he : ExprLocal phys D e) : TableLocal phys D (t.insert v e) :=
  fun q hq => (Table.mem_of_mem_insert hq).elim (fun hqe => hqe ▸ he) (h q)

theorem subsetOf_local {phys : VarSet} {D : List Variable} {a b : Table} (h : a.subsetOf b = true)
    (hb : TableLocal phys D b) : TableLocal phys D a :=
  fun q hq => hb q (Table.mem_of_subsetOf h hq)

theorem substAll_local {phys : VarSet} {D : List Variable} {t : Table} (ht : TableLocal phys D t) {e : Expression}
    (he : ExprLocal phys D e) : ExprLocal phys D (substAll t e) := by
  unfold substAll
  induction t generalizing e with
  | nil => exact he
  | cons q qs ih =>
    simp only [List.foldl]
    exact ih (fun r hr => ht r (List.mem_cons_of_mem _ hr)) (he.substVar (ht q List.mem_cons_self) q.1)

theorem extendExpression_local {phys : VarSet} {D : List Variable} {t : Table} (ht : TableLocal phys D t)
    {e : Expression} (he : ExprLocal phys D e) : ExprLocal phys D (extendExpression t e) := by
  unfold extendExpression
  apply ExprLocal.substTrivial
  generalize e.inputVars = vars
  induction vars generalizing e with
  | nil => exact he
  | cons v vs ih =>
    simp only [List.foldl]
    apply ih
    split
    · next x hx =>
      split
      · exact he.substVar (ht.get hx) v
      · exact he
    · exact he

theorem updateDef_local {phys : VarSet} {D : List Variable} {t : Table} (ht : TableLocal phys D t) {d : Def}
    (hd : DefLocal phys D d) : TableLocal phys (defdAfterDef D d) (updateDef t d) := by
  have hsub := subset_defdAfterDef D d
  cases d with
  | Assign v e =>
    simp only [updateDef, Table.killMentions]
    apply TableLocal.filter
    exact (ht.insert (extendExpression_local ht (hd e (by simp [defExprs])))).mono hsub
  | Load v a => exact (ht.filter _).mono hsub
  | Store a e => exact ht.mono hsub

theorem propDef_local {phys : VarSet} {D : List Variable} {t : Table} (ht : TableLocal phys D t) {d : Def}
    (hd : DefLocal phys D d) : DefLocal phys D (propDef t d) ∧ assignedVar (propDef t d) = assignedVar d := by
  have map (f : Expression → Expression) (hf : ∀ e, ExprLocal phys D e → ExprLocal phys D (f e)) :
      DefLocal phys D (mapDefExprs f d) := fun e' he' => by
    rw [defExprs_mapDefExprs] at he'
    obtain ⟨e, he, rfl⟩ := List.mem_map.mp he'
    exact hf e (hd e he)
  cases d with
  | Assign v e => exact ⟨map _ fun _ => extendExpression_local ht, rfl⟩
  | Load v a => exact ⟨map _ fun _ => substAll_local ht, rfl⟩
  | Store a e => exact ⟨map _ fun _ => substAll_local ht, rfl⟩

theorem propagateDefs_local {phys : VarSet} : ∀ (defs : List (Term Def)) {D : List Variable} {t : Table},
    TableLocal phys D t → DefsLocal phys D defs →
    DefsLocal phys D (propagateDefs t defs).1 ∧ defdAfter D (propagateDefs t defs).1 = defdAfter D defs ∧
      TableLocal phys (defdAfter D defs) (propagateDefs t defs).2 := by
  intro defs
  induction defs with
  | nil => intro D t ht _; exact ⟨trivial, rfl, ht⟩
  | cons d ds ih =>
    intro D t ht hl
    obtain ⟨p1, p2⟩ := propDef_local ht hl.1
    obtain ⟨ih1, ih2, ih3⟩ := ih (updateDef_local ht hl.1) hl.2
    rw [propagateDefs_cons]
    have hD : defdAfterDef D (propDef t d.term) = defdAfterDef D d.term := by unfold defdAfterDef; rw [p2]
    exact ⟨⟨p1, hD ▸ ih1⟩, by rw [defdAfter_cons, defdAfter_cons, hD]; exact ih2, ih3⟩

def PropInv (env : Env) (m : TableMap) (blocks : List (Term Blk)) (n : Nat) (t : Tid) (σ : State) (c : Nat) : Prop :=
  StateWF σ ∧ RunOk env blocks n t σ c ∧
    ∀ b, blocks.find? (fun b => b.tid == t) = some b → ∃ tb, m.get b.tid = some tb ∧ TableValid σ tb

def PropLoc (phys : VarSet) (m : TableMap) (blocks : List (Term Blk)) (t : Tid) (D : List Variable) : Prop :=
  ∀ b, blocks.find? (fun b => b.tid == t) = some b → ∀ tb, m.get b.tid = some tb → TableLocal phys D tb

/-- **C10-propagation-closed.** Closedness of the tables along runs: for every family of tables that is a
post-fixpoint (`TablesClosedAt`), the block-local insertion reproduces every block of a run and keeps H1 and H2, and
the table of the next block is valid in the state in which the run enters it and reads only variables assigned by
then. -/
theorem propagate_blockRef (env : Env) (phys : VarSet) {ptr : Nat} (p₁ : Program) (m : TableMap) (hm : AllWS m)
    (s : Term Sub) (hws : WellSizedSub ptr s.term) (hcl : TablesClosedAt p₁ m s) (hcfg : subCfgOk p₁ s = true) :
    BlockRef env phys True s.term.blocks (s.term.blocks.map (propagateBlockWith m)) (PropInv env m s.term.blocks)
      (PropLoc phys m s.term.blocks) := by
  intro n t σ c b b' ⟨hσ, hok, htab⟩ hb hb' σ₁ evs hd hns₂
  obtain rfl := find?_mapBlk_some hb hb' fun _ => rfl
  obtain ⟨hbm, hbt⟩ := tid_of_find? hb
  obtain ⟨tb, hg, hv⟩ := htab b hb
  have hwb := hws b hbm
  have hwst : TableWS tb := allWS_get hm hg
  obtain ⟨hdefs, hrest⟩ := hok b hb
  obtain ⟨hj, hnext⟩ := hrest σ₁ evs hd
  have hgd : (m.get b.tid).getD [] = tb := by rw [hg]; rfl
  simp only [propagateBlockWith, hgd]
  obtain ⟨hbo', hex, hv'⟩ := propagateDefs_sim b.term.defs hσ hv hwst hwb.1 hdefs hd
  -- the table `b` sends along the jump the run takes, and the table of the block entered
  have hsent : ∀ evs₂ t₂ σ₂ c₂, execJmps env σ₁ c b.term.jmps = (evs₂, .goto t₂ σ₂ c₂) →
      ∀ b₂, s.term.blocks.find? (fun b => b.tid == t₂) = some b₂ → ∃ x tb₂, m.get b₂.tid = some tb₂ ∧
        tb₂.subsetOf x = true ∧ ((x = tableAfterDefs tb b.term.defs ∧ σ₂ = σ₁ ∧ c₂ = c) ∨ x = []) := by
    intro evs₂ t₂ σ₂ c₂ hjm b₂ hb₂
    obtain ⟨hb₂m, hb₂t⟩ := tid_of_find? hb₂
    have hcb := List.all_eq_true.mp hcfg b hbm
    simp only [Bool.and_eq_true, decide_eq_true_eq] at hcb
    obtain ⟨j, hjmem, u, hu, hgo, _⟩ := execJmps_goto_inv hcb.1 hjm
    rcases tablesSent_of_jmpGoes (p := p₁) (m := m) hg hu (List.all_eq_true.mp hcb.2 j hjmem) hgo with ⟨hx, h⟩ | hx
    all_goals
      rw [← hb₂t] at hx
      obtain ⟨tb₂, hg₂, hsub⟩ := hcl.sent b hbm b₂ hb₂m _ hx
    · exact ⟨_, tb₂, hg₂, hsub, .inl ⟨rfl, h⟩⟩
    · exact ⟨_, tb₂, hg₂, hsub, .inr rfl⟩
  exact {
    boolDefs := fun _ => hbo'
    defs := hex
    boolJmps := fun _ j' hj' e he => by
      obtain ⟨j, hjm, rfl⟩ := List.mem_map.mp hj'
      simp only [jmpExprs_map, List.mem_map] at he
      obtain ⟨e₀, he₀, rfl⟩ := he
      exact (substAll_valid hv' e₀).2 (hj j hjm e₀ he₀)
    jmps := execJmps_map (fun j _ e _ v hev => by rw [(substAll_valid hv' e).1]; exact hev) hns₂
    inv := fun evs₂ t₂ σ₂ c₂ hjm => ⟨(hσ.execDefs hd).execJmps hjm, hnext evs₂ t₂ σ₂ c₂ hjm, fun b₂ hb₂ => by
      obtain ⟨x, tb₂, hg₂, hsub, hx⟩ := hsent evs₂ t₂ σ₂ c₂ hjm b₂ hb₂
      refine ⟨tb₂, hg₂, subsetOf_valid hsub ?_⟩
      rcases hx with ⟨rfl, rfl, _⟩ | rfl
      · exact propagateDefs_snd _ _ ▸ hv'
      · exact tableValid_nil σ₂⟩
    loc := fun D D' hs hJ hdl hjl => by
      have htl : TableLocal phys D' tb := hJ b hb tb hg
      obtain ⟨hdl', hsubd⟩ := defsLocal_mono b.term.defs hs hdl
      obtain ⟨p1, p2, p3⟩ := propagateDefs_local b.term.defs htl hdl'
      simp only [propagateBlock_defs, propagateBlock_jmps]
      rw [p2]
      refine ⟨p1, hsubd, fun j' hj' e' he' => ?_, fun evs₂ t₂ σ₂ c₂ hjm b₂ hb₂ tb₂ hg₂ => ?_⟩
      · obtain ⟨j, hj, rfl⟩ := List.mem_map.mp hj'
        simp only [jmpExprs_map, List.mem_map] at he'
        obtain ⟨e, he, rfl⟩ := he'
        exact substAll_local p3 ((hjl j hj e he).mono hsubd)
      · obtain ⟨x, tb₂', hg₂', hsub, hx⟩ := hsent evs₂ t₂ σ₂ c₂ hjm b₂ hb₂
        cases hg₂.symm.trans hg₂'
        refine subsetOf_local hsub ?_
        rcases hx with ⟨rfl, _, rfl⟩ | rfl
        · rw [if_pos rfl]; exact propagateDefs_snd _ _ ▸ p3
        · exact tableLocal_nil _ _ }

theorem propagateWith_subRefines (env : Env) (phys : VarSet) {ptr : Nat} (p₁ : Program) (hws : WellSizedProgram p₁ ptr)
    (m : TableMap) (hm : AllWS m) (hcl : tablesClosed p₁ m = true) (hre : tablesReach p₁ m = true)
    (s : Term Sub) (hs : s ∈ p₁.subs) (hcfg : subCfgOk p₁ s = true) :
    SubRefines env phys s (propagateSub m s) ∧ SubPreservesOk env s (propagateSub m s) := by
  have hclAt := tablesClosedAt_of_check hcl hre hs
  have h := subRefines_mapBlocks (phys := phys) (propagateBlockWith m) (fun _ => rfl) s _ _
    (propagate_blockRef env phys p₁ m hm s (hws s hs) hclAt hcfg) fun σ fuel b bs hbl hσ hok => by
      -- the table of the first block is empty
      have hf : ∀ b₀, s.term.blocks.find? (fun b' => b'.tid == b.tid) = some b₀ → m.get b₀.tid = some [] := by
        intro b₀ hb₀
        rw [hbl] at hb₀
        cases (List.find?_cons_of_pos (l := bs) (p := fun b' : Term Blk => b'.tid == b.tid)
          (beq_self_eq_true _)).symm.trans hb₀
        exact hclAt.entry b bs hbl
      exact ⟨⟨hσ, hok, fun b₀ hb₀ => ⟨[], hf b₀ hb₀, tableValid_nil σ⟩⟩,
        fun b₀ hb₀ tb hg => by cases (hf b₀ hb₀).symm.trans hg; exact tableLocal_nil _ _⟩
  exact ⟨h.1, h.2 trivial⟩

/-- **C10-propagation-run (tables as parameter).** For ANY family of well-sized tables `m` that is a
post-fixpoint of the model transfer functions on the program `p₁` (`tablesClosed` and `tablesReach`, both
executable), the block-local insertion `insert_expressions` preserves the trace of every function `s` of `p₁`
exactly, for every well-formed initial state and every fuel, provided the run of `s` keeps the boolean
discipline (H1) and does not get stuck (H3); and the run of the new function keeps H1. -/
theorem propagateWith_runSub (env : Env) {ptr : Nat} (p₁ : Program) (hws : WellSizedProgram p₁ ptr)
    (m : TableMap) (hm : AllWS m) (hcl : tablesClosed p₁ m = true) (hre : tablesReach p₁ m = true)
    (s : Term Sub) (hs : s ∈ p₁.subs) (hcfg : subCfgOk p₁ s = true)
    (σ : State) (fuel : Nat) (hσ : StateWF σ)
    (hok : ∀ b bs, s.term.blocks = b :: bs → RunOk env s.term.blocks fuel b.tid σ 0)
    (hns : NoStuck (runSub env s.term σ fuel)) :
    runSub env (propagateSub m s).term σ fuel = runSub env s.term σ fuel ∧
      (∀ b bs, (propagateSub m s).term.blocks = b :: bs →
        RunOk env (propagateSub m s).term.blocks fuel b.tid σ 0) :=
  (propagateWith_subRefines env [] p₁ hws m hm hcl hre s hs hcfg).2 σ fuel hσ hok hns

theorem internalCallee_mapBlocks (g : Term Sub → Term Blk → Term Blk) (p : Program) (t : Tid) :
    internalCallee (mapProgramSubs (fun s => mapSubBlocks (g s) s) p) t
      = (internalCallee p t).map (fun s => mapSubBlocks (g s) s) := by
  unfold internalCallee
  have hext : isExternTid (mapProgramSubs (fun s => mapSubBlocks (g s) s) p) t = isExternTid p t := rfl
  rw [hext]
  split
  · rfl
  · simp only [mapProgramSubs]
    rw [find?_tid_map (fun s => mapSubBlocks (g s) s) (fun _ => rfl)]
    cases p.subs.find? (fun s => s.tid == t) with
    | none => rfl
    | some s =>
      simp only [Option.map, mapSubBlocks, List.isEmpty_map]
      split <;> rfl

theorem jmpCfgOk_mapBlocks {g : Term Blk → Term Blk} (hj : ∀ b, (g b).term.jmps = b.term.jmps) (p : Program)
    (j : Jmp) : jmpCfgOk (mapProgramSubs (mapSubBlocks g) p) j = jmpCfgOk p j := by
  cases j with
  | Call callee r =>
    cases r with
    | none => rfl
    | some r =>
      rw [jmpCfgOk, jmpCfgOk, internalCallee_mapBlocks fun _ => g]
      cases internalCallee p callee with
      | none => rfl
      | some f =>
        show (_ || (f.term.blocks.map g).any hasReturnJmp) = _
        rw [List.any_map]
        simp only [Function.comp_def, hasReturnJmp, hj]
        rfl
  | CallOther d r => cases r <;> rfl
  | _ => rfl

theorem subCfgOk_mapBlocks {g : Term Blk → Term Blk} (hj : ∀ b, (g b).term.jmps = b.term.jmps) {p : Program}
    {s : Term Sub} (h : subCfgOk p s = true) :
    subCfgOk (mapProgramSubs (mapSubBlocks g) p) (mapSubBlocks g s) = true := by
  rw [← h]
  show (s.term.blocks.map g).all _ = _
  rw [List.all_map]
  simp only [Function.comp_def, hj, jmpCfgOk_mapBlocks hj, subCfgOk]

theorem mergeAssignmentsProgram_wellSized {p : Program} {ptr : Nat} (h : WellSizedProgram p ptr) :
    WellSizedProgram (mergeAssignmentsProgram p) ptr := by
  apply wellSizedProgram_mapBlocks _ h
  intro b hb
  exact ⟨merges_ws (mergeDefsLoop_merges b.term.defs none) hb.1, hb.2⟩

/-- **C10-propagation-pass (tables as parameter).** The whole pass `propagate_input_expression` — merging of
assignments, then block-local insertion of ANY well-sized post-fixpoint family of tables `m` for the merged
program (in particular the tables of the real fixpoint, which the driver checks with `tablesClosed` and
`tablesReach`) — preserves the trace of every function exactly and transports H1. -/
theorem propagateProgramWith_preserves (env : Env) {ptr : Nat} (p : Program) (hp : WellSizedProgram p ptr)
    (m : TableMap) (hm : AllWS m) (hcl : tablesClosed (mergeAssignmentsProgram p) m = true)
    (hre : tablesReach (mergeAssignmentsProgram p) m = true)
    (s : Term Sub) (hs : s ∈ p.subs) (hcfg : subCfgOk p s = true) :
    SubPreservesOk env s (propagateSub m (mapSubBlocks mergeDefAssignmentsToSameVar s)) := by
  have hs₁ : mapSubBlocks mergeDefAssignmentsToSameVar s ∈ (mergeAssignmentsProgram p).subs := by
    simp only [mergeAssignmentsProgram, mapProgramSubs, List.mem_map]
    exact ⟨s, hs, rfl⟩
  exact (mergeAssignments_subRefines env [] s).2.trans
    (propagateWith_subRefines env [] (mergeAssignmentsProgram p) (mergeAssignmentsProgram_wellSized hp) m hm hcl hre
      _ hs₁ (subCfgOk_mapBlocks (g := mergeDefAssignmentsToSameVar) (fun _ => rfl) hcfg)).2

theorem propagateProgram_subs (p : Program) :
    (propagateProgram p).subs = p.subs.map fun s =>
      propagateSub (computeTables (mergeAssignmentsProgram p)) (mapSubBlocks mergeDefAssignmentsToSameVar s) := by
  simp only [propagateProgram, mergeAssignmentsProgram, mapProgramSubs, List.map_map]
  rfl

/-- **C10-propagation-pass.** `propagate_input_expression` with the tables of the model's own iteration:
whenever the iteration has reached a post-fixpoint (checked by the two executable conditions — the
iteration is fuelled), the pass preserves the trace of every function exactly and transports H1. -/
theorem propagateProgram_preserves (env : Env) {ptr : Nat} (p : Program) (hp : WellSizedProgram p ptr)
    (hcl : tablesClosed (mergeAssignmentsProgram p) (computeTables (mergeAssignmentsProgram p)) = true)
    (hre : tablesReach (mergeAssignmentsProgram p) (computeTables (mergeAssignmentsProgram p)) = true)
    (ss : Term Sub × Term Sub) (hss : ss ∈ p.subs.zip (propagateProgram p).subs) (hcfg : subCfgOk p ss.1 = true) :
    SubPreservesOk env ss.1 ss.2 := by
  rw [propagateProgram_subs] at hss
  obtain ⟨hmem, himg⟩ := List.zip_map_mem _ _ ss hss
  rw [himg]
  exact propagateProgramWith_preserves env p hp _ (computeTables_ws (mergeAssignmentsProgram_wellSized hp)) hcl hre
    ss.1 hmem hcfg

end CweModel.C10
