/-
C09 — `normalize_basic` never touches an expression: every block of the result is empty (an artificial
sink) or comes from a block of the input by removing defs and jumps and changing TIDs (`BlocksFrom`;
one lemma `…_from` per pass in `P1`, `P4`, `P5`, composed in `normalizeBasic_blocksFrom`). The jump shape
`graph.rs` assumes (field `shape` of the pass invariants and of `WF`) and size consistency
(`C12.normalizeBasic_wellSized`) are two block properties that such a step cannot destroy.
-/
import CweModel.C09.Jumps
open CweModel.IR
namespace CweModel.C09

theorem isCBranch_skeleton (j : Jmp) : Jmp.isCBranch j.skeleton = Jmp.isCBranch j := by cases j <;> rfl

theorem retargetJmp_skeleton (T : List Tid) (j : Term Jmp) : (retargetJmp T j).term.skeleton = j.term.skeleton := by
  rw [retargetJmp_eq]
  split
  · exact Jmp.skeleton_mapTarget _ _
  · next h =>
    obtain ⟨i, jt⟩ := j
    cases jt <;> first | rfl | exact absurd rfl h

theorem adjustJmp_skeleton (m : List (Tid × Tid)) (s : Term Sub) (j : Term Jmp) :
    (adjustJmp m s j).term.skeleton = j.term.skeleton := by
  rw [adjustJmp_eq]; exact Jmp.skeleton_mapTarget _ _

theorem retargetCall_skeleton (p : Program) (nr : List Tid) (sfx : String) (j : Term Jmp) :
    (retargetCall p nr sfx j).term.skeleton = j.term.skeleton := by
  rw [retargetCall_eq]; split
  · exact Jmp.skeleton_mapTarget _ _
  · rfl

/-- `b'` has some of the defs and some of the jumps of `b`, in the same order, up to TIDs -/
structure BlkFrom (b' b : Term Blk) : Prop where
  defs : (b'.term.defs.map (·.term)).Sublist (b.term.defs.map (·.term))
  jmps : (b'.term.jmps.map (·.term.skeleton)).Sublist (b.term.jmps.map (·.term.skeleton))

theorem BlkFrom.refl (b : Term Blk) : BlkFrom b b := ⟨.refl _, .refl _⟩

theorem BlkFrom.trans {b₃ b₂ b₁ : Term Blk} (h : BlkFrom b₃ b₂) (h' : BlkFrom b₂ b₁) : BlkFrom b₃ b₁ :=
  ⟨h.defs.trans h'.defs, h.jmps.trans h'.jmps⟩

theorem BlkFrom.of_map {b' b : Term Blk} (h : Term Jmp → Term Jmp) (hh : ∀ j, (h j).term.skeleton = j.term.skeleton)
    (hd : b'.term.defs = b.term.defs) (hj : b'.term.jmps = b.term.jmps.map h) : BlkFrom b' b := by
  refine ⟨hd ▸ .refl _, ?_⟩
  rw [hj, List.map_map]
  exact (List.map_congr_left fun j _ => hh j) ▸ .refl _

def EmptyBlk (b : Term Blk) : Prop := b.term.defs = [] ∧ b.term.jmps = []

def BlocksFrom (q q' : Program) : Prop :=
  ∀ s' ∈ q'.subs, ∀ b' ∈ s'.term.blocks, EmptyBlk b' ∨ ∃ s ∈ q.subs, ∃ b ∈ s.term.blocks, BlkFrom b' b

theorem BlocksFrom.trans {q₁ q₂ q₃ : Program} (h : BlocksFrom q₁ q₂) (h' : BlocksFrom q₂ q₃) : BlocksFrom q₁ q₃ := by
  intro s₃ hs₃ b₃ hb₃
  rcases h' s₃ hs₃ b₃ hb₃ with he | ⟨s₂, hs₂, b₂, hb₂, h₃₂⟩
  · exact .inl he
  · rcases h s₂ hs₂ b₂ hb₂ with he | ⟨s₁, hs₁, b₁, hb₁, h₂₁⟩
    · -- what comes from an empty block is empty
      have hd := h₃₂.defs
      have hj := h₃₂.jmps
      rw [he.1] at hd
      rw [he.2] at hj
      exact .inl ⟨List.map_eq_nil_iff.mp (List.sublist_nil.mp hd), List.map_eq_nil_iff.mp (List.sublist_nil.mp hj)⟩
    · exact .inr ⟨s₁, hs₁, b₁, hb₁, h₃₂.trans h₂₁⟩

theorem BlocksFrom.forall {q q' : Program} (h : BlocksFrom q q') {P : Term Blk → Prop} (h0 : ∀ b, EmptyBlk b → P b)
    (hP : ∀ b' b, BlkFrom b' b → P b → P b') (hq : ∀ s ∈ q.subs, ∀ b ∈ s.term.blocks, P b) :
    ∀ s ∈ q'.subs, ∀ b ∈ s.term.blocks, P b :=
  fun s' hs' b' hb' => (h s' hs' b' hb').elim (h0 b') fun ⟨s, hs, b, hb, hf⟩ => hP b' b hf (hq s hs b hb)

theorem shapeOk_of_blkFrom {b' b : Term Blk} (h : BlkFrom b' b) (hb : shapeOk b = true) : shapeOk b' = true := by
  have hj := h.jmps
  unfold shapeOk at hb ⊢
  -- `b'` has fewer than two jumps, or the two jumps of `b`
  rcases hb' : b'.term.jmps with _ | ⟨j1', _ | ⟨j2', r'⟩⟩
  · rfl
  · rfl
  · rw [hb'] at hj
    rcases hbj : b.term.jmps with _ | ⟨j1, _ | ⟨j2, _ | _⟩⟩ <;> rw [hbj] at hj hb
    · cases hj
    · exact absurd hj.length_le (by simp)
    · have e := hj.eq_of_length_le (by simp)
      cases r' with
      | nil =>
        simp only [List.map_cons, List.map_nil, List.cons.injEq, and_true] at e
        show Jmp.isCBranch j1'.term = true
        rw [← isCBranch_skeleton, e.1, isCBranch_skeleton]
        exact hb
      | cons => simp at e
    · cases hb

theorem shapeOk_of_empty {b : Term Blk} (h : EmptyBlk b) : shapeOk b = true := by
  unfold shapeOk; rw [h.2]

theorem BlocksFrom.shape {q q' : Program} (h : BlocksFrom q q') (hq : ∀ s ∈ q.subs, ∀ b ∈ s.term.blocks, shapeOk b = true) :
    ∀ s ∈ q'.subs, ∀ b ∈ s.term.blocks, shapeOk b = true :=
  h.forall (fun _ => shapeOk_of_empty) (fun _ _ => shapeOk_of_blkFrom) hq

end CweModel.C09
