/-
C09 — pass 5, `retarget_non_returning_calls_to_artificial_sink`: from `Inv4` to `WF`.
-/
import CweModel.C09.P4
open CweModel.IR CweModel.Reach
namespace CweModel.C09

theorem retargetCall_tid (p : Program) (nr : List Tid) (sfx : String) (j : Term Jmp) :
    (retargetCall p nr sfx j).tid = j.tid := by
  rw [retargetCall_eq]; split <;> rfl

theorem retargetCall_isReturn (p : Program) (nr : List Tid) (sfx : String) (j : Term Jmp) :
    Jmp.isReturn (retargetCall p nr sfx j).term = Jmp.isReturn j.term := by
  rw [retargetCall_eq]; split
  · exact isReturn_mapTarget _ _
  · rfl

theorem retargetCall_call (p : Program) (nr : List Tid) (sfx : String) (j : Term Jmp) :
    Jmp.callTarget? (retargetCall p nr sfx j).term = Jmp.callTarget? j.term := by
  rw [retargetCall_eq]; split
  · exact callTarget?_mapTarget _ _
  · rfl

theorem retargetCall_local (p : Program) (nr : List Tid) (sfx : String) (j : Term Jmp) (t : Tid)
    (h : Jmp.localTarget? (retargetCall p nr sfx j).term = some t) :
    Jmp.localTarget? j.term = some t ∨
      (t = Tid.artificialSinkBlock sfx ∧ shouldRetarget p nr sfx j.term = true) := by
  rw [retargetCall_eq] at h
  split at h
  · next hs =>
    obtain ⟨_, _, rfl⟩ := Option.map_eq_some_iff.mp ((localTarget?_mapTarget _ _).symm.trans h)
    exact .inr ⟨rfl, hs⟩
  · exact .inl h

theorem retargetCall_noRet (p : Program) (nr : List Tid) (sfx : String) (j : Term Jmp) {tgt r : Tid}
    (h : (retargetCall p nr sfx j).term = .Call tgt (some r)) (hc : calleeNonReturning p nr tgt = true) :
    r.isArtificialSinkBlock sfx = true := by
  rw [retargetCall_eq] at h
  split at h
  · obtain ⟨_, _, rfl⟩ := Jmp.mapTarget_eq_call h
    exact isArtificialSinkBlock_self sfx
  · -- unchanged although the callee does not return: it returned to the sink already
    next hs =>
    rw [h, shouldRetarget, hc, Bool.and_true] at hs
    exact (Bool.not_eq_false' _).mp ((Bool.not_eq_true _).mp hs)

/-- the function `retargetSub` maps over the blocks of a sub (written inline there) -/
def retargetBlk (p : Program) (nr : List Tid) (sfx : String) (b : Term Blk) : Term Blk :=
  { b with term := { b.term with jmps := b.term.jmps.map (retargetCall p nr sfx) } }

theorem retargetBlk_tid (p : Program) (nr : List Tid) (sfx : String) (b : Term Blk) :
    (retargetBlk p nr sfx b).tid = b.tid := rfl

theorem retargetBlk_blkAll (p : Program) (nr : List Tid) (sfx : String) (b : Term Blk) :
    blkAll (retargetBlk p nr sfx b) = blkAll b := by
  simp [blkAll, blkContentTids, retargetBlk, tids, List.map_map, Function.comp_def, retargetCall_tid]

theorem retargetBlk_call (p : Program) (nr : List Tid) (sfx : String) (b : Term Blk) :
    callTargets (retargetBlk p nr sfx b) = callTargets b := by
  simp only [callTargets, retargetBlk, List.filterMap_map]
  apply List.filterMap_congr'
  intro j _
  exact retargetCall_call p nr sfx j

theorem retargetBlk_succ (p : Program) (nr : List Tid) (sfx : String) (b : Term Blk) (t : Tid)
    (h : t ∈ succTids (retargetBlk p nr sfx b)) :
    t ∈ succTids b ∨ (t = Tid.artificialSinkBlock sfx ∧
      b.term.jmps.any (fun j => shouldRetarget p nr sfx j.term) = true) := by
  simp only [succTids, retargetBlk, List.mem_append, List.mem_filterMap, List.mem_map] at h ⊢
  rcases h with ⟨j', ⟨j, hj, rfl⟩, hl⟩ | h
  · rcases retargetCall_local p nr sfx j t hl with h1 | ⟨h1, h2⟩
    · exact .inl (.inl ⟨j, hj, h1⟩)
    · exact .inr ⟨h1, List.any_eq_true.mpr ⟨j, hj, h2⟩⟩
  · exact .inl (.inr h)

theorem retargetBlk_hasReturn (p : Program) (nr : List Tid) (sfx : String) (b : Term Blk) :
    (retargetBlk p nr sfx b).term.jmps.any (fun j => Jmp.isReturn j.term) =
      b.term.jmps.any (fun j => Jmp.isReturn j.term) := by
  simp [retargetBlk, List.any_map, Function.comp_def, retargetCall_isReturn]

/-- the flag `one_or_more_call_retargeted` -/
def retargeted (p : Program) (nr : List Tid) (s : Term Sub) : Bool :=
  s.term.blocks.any (fun b => b.term.jmps.any (fun j => shouldRetarget p nr (idSuffix s) j.term))

theorem addArtificialSinkBlk_tid (s : Term Sub) : (addArtificialSinkBlk s).tid = s.tid := by
  unfold addArtificialSinkBlk; split <;> rfl

theorem addArtificialSinkBlk_blocks (s : Term Sub) : (addArtificialSinkBlk s).term.blocks =
    s.term.blocks ++ (if hasArtificialSink s then [] else [artificialSinkBlk (idSuffix s)]) := by
  unfold addArtificialSinkBlk
  split
  · exact (List.append_nil _).symm
  · rfl

theorem retargetSub_tid (p : Program) (nr : List Tid) (s : Term Sub) : (retargetSub p nr s).tid = s.tid := by
  unfold retargetSub
  split
  · rfl
  · split
    · exact addArtificialSinkBlk_tid _
    · rfl

theorem idSuffix_retargetSub (p : Program) (nr : List Tid) (s : Term Sub) :
    idSuffix (retargetSub p nr s) = idSuffix s := by
  unfold idSuffix; rw [retargetSub_tid]

theorem retargetSub_sink (p : Program) (nr : List Tid) (s : Term Sub) (hs : s.tid.isArtificialSinkSub = true) :
    retargetSub p nr s = s := by
  unfold retargetSub; rw [if_pos hs]

/-- the sink blocks the pass appends to `s` -/
def newSinks (p : Program) (nr : List Tid) (s : Term Sub) : List (Term Blk) :=
  if retargeted p nr s && !hasArtificialSink s then [artificialSinkBlk (idSuffix s)] else []

theorem mem_newSinks {p : Program} {nr : List Tid} {s : Term Sub} {b : Term Blk} (h : b ∈ newSinks p nr s) :
    b = artificialSinkBlk (idSuffix s) ∧ hasArtificialSink s = false := by
  unfold newSinks at h
  split at h
  · next hc => exact ⟨List.mem_singleton.mp h, (Bool.not_eq_true' _).mp (Bool.and_eq_true_iff.mp hc).2⟩
  · cases h

theorem newSinks_eq {p : Program} {nr : List Tid} {s : Term Sub} (hr : retargeted p nr s = true)
    (hh : hasArtificialSink s = false) : newSinks p nr s = [artificialSinkBlk (idSuffix s)] := by
  unfold newSinks; rw [hr, hh]; rfl

theorem retargetSub_blocks (p : Program) (nr : List Tid) (s : Term Sub) (hs : s.tid.isArtificialSinkSub = false) :
    (retargetSub p nr s).term.blocks = s.term.blocks.map (retargetBlk p nr (idSuffix s)) ++ newSinks p nr s := by
  -- the mapped sub has a sink block iff `s` has one: block TIDs and the suffix are unchanged
  have hsink : hasArtificialSink (mapBlocks (retargetBlk p nr (idSuffix s)) s) = hasArtificialSink s := by
    simp only [hasArtificialSink, mapBlocks, List.any_map, Function.comp_def]
    rfl
  unfold retargetSub newSinks
  rw [if_neg (by rw [hs]; exact Bool.false_ne_true)]
  show (if retargeted p nr s = true then addArtificialSinkBlk (mapBlocks (retargetBlk p nr (idSuffix s)) s)
    else mapBlocks (retargetBlk p nr (idSuffix s)) s).term.blocks = _
  cases retargeted p nr s
  · exact (List.append_nil _).symm
  · rw [if_pos rfl, addArtificialSinkBlk_blocks, hsink]
    cases hasArtificialSink s <;> rfl

theorem retargetSub_hasReturn (p : Program) (nr : List Tid) (s : Term Sub) :
    hasReturn (retargetSub p nr s) = hasReturn s := by
  cases hs : s.tid.isArtificialSinkSub with
  | true => rw [retargetSub_sink p nr s hs]
  | false =>
    have hnew : (newSinks p nr s).any (fun b => b.term.jmps.any fun j => Jmp.isReturn j.term) = false :=
      List.any_eq_false.mpr fun b hb => by rw [(mem_newSinks hb).1]; simp [artificialSinkBlk]
    unfold hasReturn
    rw [retargetSub_blocks p nr s hs, List.any_append, hnew, Bool.or_false, List.any_map]
    exact congrArg (List.any s.term.blocks) (funext (retargetBlk_hasReturn p nr _))

theorem retargetSub_entry (p : Program) (nr : List Tid) (s : Term Sub) :
    entryTid (retargetSub p nr s) = entryTid s := by
  cases hs : s.tid.isArtificialSinkSub with
  | true => rw [retargetSub_sink p nr s hs]
  | false =>
    unfold entryTid
    rw [retargetSub_blocks p nr s hs]
    cases hb : s.term.blocks with
    | nil => simp [newSinks, retargeted, hb]
    | cons b bs => rfl

theorem nonReturningSubs_retarget (p : Program) (nr : List Tid) :
    nonReturningSubs { p with subs := p.subs.map (retargetSub p nr) } = nonReturningSubs p := by
  simp only [nonReturningSubs, List.filter_map, tids, List.map_map, Function.comp_def, retargetSub_tid,
    retargetSub_hasReturn]

theorem blkAll_sinkBlk (sfx : String) : blkAll (artificialSinkBlk sfx) = [Tid.artificialSinkBlock sfx] := rfl

theorem retargetBlk_from (p : Program) (nr : List Tid) (sfx : String) (b : Term Blk) : BlkFrom (retargetBlk p nr sfx b) b :=
  .of_map _ (retargetCall_skeleton p nr sfx) rfl rfl

theorem retargetNonReturning_from (p : Program) : BlocksFrom p (retargetNonReturning p) :=
  fun s' hs' b' hb' => by
    obtain ⟨s, hs, rfl⟩ := List.mem_map.mp hs'
    cases hsink : s.tid.isArtificialSinkSub with
    | true => rw [retargetSub_sink _ _ s hsink] at hb'; exact .inr ⟨s, hs, b', hb', .refl b'⟩
    | false =>
      rw [retargetSub_blocks _ _ s hsink] at hb'
      rcases List.mem_append.mp hb' with h | h
      · obtain ⟨b, hb, rfl⟩ := List.mem_map.mp h
        exact .inr ⟨s, hs, b, hb, retargetBlk_from _ _ _ b⟩
      · exact .inl (by rw [(mem_newSinks h).1]; exact ⟨rfl, rfl⟩)

theorem pass5_wf (progTid : Tid) (p q : Program) (H : TidDiscipline progTid p) (I : Inv4 progTid p q) :
    WF progTid p (retargetNonReturning q) := by
  generalize hnr : nonReturningSubs q = nr
  have hq5 : retargetNonReturning q = { q with subs := q.subs.map (retargetSub q nr) } := by
    simp [retargetNonReturning, hnr]
  have sinkExact : ∀ s ∈ q.subs, ∀ t ∈ subTidsB s, t.isArtificialSinkBlock (idSuffix s) = true →
      t = Tid.artificialSinkBlock (idSuffix s) := by
    intro s hs t ht hlike
    rcases I.form s hs t ht with h | ⟨t0, ht0, rfl⟩
    · have := (H.sinkLike t h s.tid (I.subsBase s hs)).1
      rw [show sfxOf s.tid = idSuffix s from rfl, hlike] at this
      cases this
    · rw [(H.sinkLike t0 ht0 s.tid (I.subsBase s hs)).2 hlike, sinkBlock_eq_suf]
  have noSink : ∀ s ∈ q.subs, hasArtificialSink s = false → Tid.artificialSinkBlock (idSuffix s) ∉ subTidsB s := by
    intro s hs hh hmem
    obtain ⟨b, hb, e⟩ := List.mem_map.mp (I.sinkClone s hs hmem)
    have := List.any_eq_false.mp hh b hb
    rw [e, isArtificialSinkBlock_self] at this
    exact this rfl
  -- the TIDs a sub gains
  let E : Term Sub → List Tid := fun s =>
    if s.tid.isArtificialSinkSub then [] else (newSinks q nr s).flatMap blkAll
  have hE : ∀ s, ∀ x ∈ E s, x = Tid.artificialSinkBlock (idSuffix s) ∧ hasArtificialSink s = false := by
    intro s x hx
    simp only [E] at hx
    split at hx
    · cases hx
    · obtain ⟨b, hb, hxb⟩ := List.mem_flatMap.mp hx
      obtain ⟨rfl, hh⟩ := mem_newSinks hb
      exact ⟨List.mem_singleton.mp hxb, hh⟩
  have hEn : ∀ s, (E s).Nodup := by
    intro s
    simp only [E, newSinks]
    split
    · exact List.nodup_nil
    · split
      · exact List.nodup_cons.mpr ⟨List.not_mem_nil, List.nodup_nil⟩
      · exact List.nodup_nil
  have hTids : ∀ s, subTidsB (retargetSub q nr s) = subTidsB s ++ E s := by
    intro s
    cases hsink : s.tid.isArtificialSinkSub with
    | true => rw [retargetSub_sink q nr s hsink]; simp [E, hsink]
    | false =>
      simp only [subTidsB, retargetSub_tid, retargetSub_blocks q nr s hsink, List.flatMap_append, List.flatMap_map,
        retargetBlk_blkAll, E, hsink]
      rfl
  have hblk : ∀ s, s.tid.isArtificialSinkSub = false → ∀ b5 ∈ (retargetSub q nr s).term.blocks,
      (∃ b ∈ s.term.blocks, b5 = retargetBlk q nr (idSuffix s) b) ∨ b5 = artificialSinkBlk (idSuffix s) := by
    intro s hsink b5 hb5
    rw [retargetSub_blocks q nr s hsink] at hb5
    rcases List.mem_append.mp hb5 with h | h
    · obtain ⟨b, hb, e⟩ := List.mem_map.mp h
      exact .inl ⟨b, hb, e.symm⟩
    · exact .inr (mem_newSinks h).1
  have hloc : ∀ s ∈ q.subs, ∀ b5 ∈ (retargetSub q nr s).term.blocks, ∀ t ∈ succTids b5,
      t ∈ tids (retargetSub q nr s).term.blocks := by
    intro s hs b5 hb5 t ht
    cases hsink : s.tid.isArtificialSinkSub with
    | true =>
      rw [retargetSub_sink q nr s hsink] at hb5 ⊢
      exact I.locals s hs b5 hb5 t ht
    | false =>
      have hold : ∀ t ∈ tids s.term.blocks, t ∈ tids (retargetSub q nr s).term.blocks := by
        intro t ht
        rw [retargetSub_blocks q nr s hsink, tids, List.map_append, List.map_map]
        exact List.mem_append_left _ ht
      rcases hblk s hsink b5 hb5 with ⟨b, hb, rfl⟩ | rfl
      · rcases retargetBlk_succ q nr (idSuffix s) b t ht with h1 | ⟨rfl, h2⟩
        · exact hold t (I.locals s hs b hb t h1)
        · -- a call of `s` was retargeted: `s` had a sink block, or got one
          have hret : retargeted q nr s = true := List.any_eq_true.mpr ⟨b, hb, h2⟩
          cases hh : hasArtificialSink s with
          | true =>
            obtain ⟨b0, hb0, e⟩ := List.any_eq_true.mp hh
            refine hold _ (List.mem_map.mpr ⟨b0, hb0, ?_⟩)
            exact sinkExact s hs b0.tid (mem_subTidsB_of_blk hb0 (List.mem_cons_self ..)) e
          | false =>
            rw [retargetSub_blocks q nr s hsink, newSinks_eq hret hh, tids, List.map_append]
            exact List.mem_append_right _ (List.mem_singleton.mpr rfl)
      · cases ht
  exact {
    unique := by
      refine ((allTidsB_perm _).cons progTid).nodup_iff.mp ?_
      have : allTidsB (retargetNonReturning q) = q.subs.flatMap (fun s => subTidsB s ++ E s) := by
        rw [hq5]; simp only [allTidsB, List.flatMap_map, hTids]
      rw [this]
      refine nodup_flatMap_suffixed H I.nodup I.subsBase I.form E (fun s _ x hx => ?_) (fun s _ => hEn s)
        (fun s hs x hx => (hE s x hx).1 ▸ noSink s hs (hE s x hx).2)
      exact ⟨_, List.mem_cons_of_mem _ (List.mem_cons_self ..), (hE s x hx).1.trans (sinkBlock_eq_suf s)⟩
    entry s hs := by
      obtain ⟨s', hs', e1, e2⟩ := I.entry s hs
      refine ⟨retargetSub q nr s', ?_, (retargetSub_tid q nr s').trans e1, (retargetSub_entry q nr s').trans e2⟩
      rw [hq5]; exact List.mem_map.mpr ⟨s', hs', rfl⟩
    localTargets s5 hs5 := by
      rw [hq5] at hs5
      obtain ⟨s, hs, rfl⟩ := List.mem_map.mp hs5
      exact hloc s hs
    callTargets s5 hs5 b5 hb5 t ht := by
      have htids5 : tids (retargetNonReturning q).subs = tids q.subs := by
        rw [hq5]; simp [tids, List.map_map, Function.comp_def, retargetSub_tid]
      rw [htids5]
      rw [hq5] at hs5 ⊢
      obtain ⟨s, hs, rfl⟩ := List.mem_map.mp hs5
      cases hsink : s.tid.isArtificialSinkSub with
      | true =>
        rw [retargetSub_sink q nr s hsink] at hb5
        exact I.calls s hs b5 hb5 t ht
      | false =>
        rcases hblk s hsink b5 hb5 with ⟨b, hb, rfl⟩ | rfl
        · rw [retargetBlk_call] at ht
          exact I.calls s hs b hb t ht
        · cases ht
    noReturn s5 hs5 hns b5 hb5 j5 hj5 := by
      have hcnr : ∀ tgt, calleeNonReturning (retargetNonReturning q) (nonReturningSubs (retargetNonReturning q)) tgt =
          calleeNonReturning q nr tgt := by
        intro tgt
        rw [hq5, nonReturningSubs_retarget, hnr]
        rfl
      rw [hq5] at hs5
      obtain ⟨s, hs, rfl⟩ := List.mem_map.mp hs5
      rw [retargetSub_tid] at hns
      match hj : j5.term with
      | .Call tgt (some r) =>
        simp only [NoRetOk, idSuffix_retargetSub]
        intro hc
        rw [hcnr] at hc
        -- `r` looks like the sink of `s` and is a block of `s` after the pass
        have hlike : r.isArtificialSinkBlock (idSuffix s) = true := by
          rcases hblk s hns b5 hb5 with ⟨b, hb, rfl⟩ | rfl
          · obtain ⟨j, _, rfl⟩ := List.mem_map.mp hj5
            exact retargetCall_noRet q nr _ j hj hc
          · cases hj5
        have hr : r ∈ tids (retargetSub q nr s).term.blocks :=
          hloc s hs b5 hb5 r (List.mem_append_left _ (List.mem_filterMap.mpr ⟨j5, hj5, by rw [hj]; rfl⟩))
        obtain ⟨br, hbr, e⟩ := List.mem_map.mp hr
        have : r ∈ subTidsB s ++ E s := hTids s ▸ e ▸ mem_subTidsB_of_blk hbr (List.mem_cons_self ..)
        rcases List.mem_append.mp this with h | h
        · exact sinkExact s hs r h hlike
        · exact (hE s r h).1
      | .Call _ none | .Branch _ | .BranchInd _ | .CBranch _ _ | .CallInd _ _ | .Return _ | .CallOther _ _ =>
        simp [NoRetOk]
    shape hsh := (retargetNonReturning_from q).shape (I.shape hsh) }

/-- `normalize_basic` only removes defs and jumps, changes TIDs, and adds empty blocks. -/
theorem normalizeBasic_blocksFrom (progTid : Tid) (p : Program) : BlocksFrom p (normalizeBasic progTid p) :=
  ((stage3_from progTid p).trans (makeBlockToSubUnique_from _)).trans (retargetNonReturning_from _)

end CweModel.C09
