/-
C09 — passes 1–3 of `normalize_basic` (`remove_duplicate_tids`, `add_artifical_sink`,
`remove_references_to_nonexisting_tids`); `stage3_inv`: what they establish, `Inv3`.
-/
import CweModel.C09.Blocks
open CweModel.IR CweModel.Reach
namespace CweModel.C09

/-! ### pass 1: `remove_duplicate_tids`

What the pass maintains at every level (term list, block, block list, function, function list): the
TIDs it keeps, put in front of the TIDs known before, are pairwise different, `(kept ++ known).Nodup`.
"Fresh" and "duplicate free" are the two halves of this (`List.nodup_append`), and the statement for
one level is the hypothesis for the next, because `known` is threaded through in exactly this way. -/

theorem keep_sublist {α : Type} (known : List Tid) (ts : List (Term α)) : (keep known ts).Sublist ts := by
  induction ts generalizing known with
  | nil => simp [keep]
  | cons t ts ih =>
    simp only [keep]
    split
    · exact (ih known).cons _
    · exact (ih _).cons_cons _

theorem mem_of_mem_keep {α : Type} {known : List Tid} {ts : List (Term α)} {x : Term α}
    (h : x ∈ keep known ts) : x ∈ ts := (keep_sublist known ts).subset h

theorem nodup_append_swap {l₁ l₂ k : List Tid} (h : (l₂ ++ (l₁ ++ k)).Nodup) : ((l₁ ++ l₂) ++ k).Nodup := by
  rw [List.append_assoc]
  exact (List.perm_append_comm_assoc l₂ l₁ k).nodup_iff.mp h

theorem keep_nodup {α : Type} {known : List Tid} (hk : known.Nodup) (ts : List (Term α)) :
    (tids (keep known ts) ++ known).Nodup := by
  induction ts generalizing known with
  | nil => exact hk
  | cons t ts ih =>
    simp only [keep]
    split
    · exact ih hk
    · next hn => exact List.perm_middle.nodup_iff.mp (ih (List.nodup_cons.mpr ⟨hn, hk⟩))

theorem keep_head {α : Type} (known : List Tid) (t : Term α) (ts : List (Term α)) (h : t.tid ∉ known) :
    (keep known (t :: ts)).head? = some t := by
  simp [keep, h]

theorem keep_tids_subset {α : Type} (known : List Tid) (ts : List (Term α)) :
    ∀ t ∈ tids (keep known ts), t ∈ tids ts :=
  fun _ h => ((keep_sublist known ts).map _).subset h

theorem dedupBlk_tid (known : List Tid) (b : Term Blk) : (dedupBlk known b).tid = b.tid := rfl

theorem dedupBlk_hints (known : List Tid) (b : Term Blk) :
    (dedupBlk known b).term.indirectJmpTargets = b.term.indirectJmpTargets := rfl

theorem dedupBlk_jmps_sublist (known : List Tid) (b : Term Blk) :
    (dedupBlk known b).term.jmps.Sublist b.term.jmps := keep_sublist _ _

theorem dedupBlk_succ_subset (k : List Tid) (b : Term Blk) : ∀ t ∈ succTids (dedupBlk k b), t ∈ succTids b := by
  intro t ht
  simp only [succTids, List.mem_append] at ht ⊢
  rcases ht with h | h
  · exact .inl (((dedupBlk_jmps_sublist k b).filterMap _).subset h)
  · exact .inr h

theorem dedupBlk_call_subset (k : List Tid) (b : Term Blk) : ∀ t ∈ callTargets (dedupBlk k b), t ∈ callTargets b :=
  fun _ h => ((dedupBlk_jmps_sublist k b).filterMap _).subset h

theorem dedupBlk_content_subset (known : List Tid) (b : Term Blk) :
    ∀ t ∈ blkContentTids (dedupBlk known b), t ∈ blkContentTids b := by
  intro t ht
  simp only [blkContentTids, dedupBlk, List.mem_append] at ht ⊢
  rcases ht with h | h
  · exact .inl (keep_tids_subset _ _ _ h)
  · exact .inr (keep_tids_subset _ _ _ h)

theorem dedupBlk_nodup {known : List Tid} (hk : known.Nodup) (b : Term Blk) :
    (blkContentTids (dedupBlk known b) ++ known).Nodup :=
  nodup_append_swap (keep_nodup (keep_nodup hk _) _)

theorem dedupContents_tids (known : List Tid) (bs : List (Term Blk)) :
    tids (dedupContents known bs) = tids bs := by
  induction bs generalizing known with
  | nil => rfl
  | cons b bs ih => simp [dedupContents, tids, dedupBlk_tid] at ih ⊢; exact ih _

theorem dedupContents_length (known : List Tid) (bs : List (Term Blk)) :
    (dedupContents known bs).length = bs.length := by
  have := congrArg List.length (dedupContents_tids known bs)
  simpa [tids] using this

theorem dedupContents_nodup {known : List Tid} (hk : known.Nodup) (bs : List (Term Blk)) :
    ((dedupContents known bs).flatMap blkContentTids ++ known).Nodup := by
  induction bs generalizing known with
  | nil => exact hk
  | cons b bs ih => exact nodup_append_swap (ih (dedupBlk_nodup hk b))

theorem mem_dedupContents {known : List Tid} {bs : List (Term Blk)} {b' : Term Blk}
    (h : b' ∈ dedupContents known bs) : ∃ k, ∃ b ∈ bs, b' = dedupBlk k b := by
  induction bs generalizing known with
  | nil => simp [dedupContents] at h
  | cons b bs ih =>
    simp only [dedupContents, List.mem_cons] at h
    rcases h with rfl | h
    · exact ⟨known, b, List.mem_cons_self .., rfl⟩
    · obtain ⟨k, b0, hb0, e⟩ := ih h
      exact ⟨k, b0, List.mem_cons_of_mem _ hb0, e⟩

theorem dedupContents_content_subset (known : List Tid) (bs : List (Term Blk)) :
    ∀ t ∈ (dedupContents known bs).flatMap blkContentTids, t ∈ bs.flatMap blkContentTids := by
  intro t ht
  obtain ⟨b', hb', htb⟩ := List.mem_flatMap.mp ht
  obtain ⟨k, b, hb, rfl⟩ := mem_dedupContents hb'
  exact List.mem_flatMap.mpr ⟨b, hb, dedupBlk_content_subset _ _ _ htb⟩

theorem dedupContents_head (known : List Tid) (bs : List (Term Blk)) :
    (dedupContents known bs).head?.map (·.tid) = bs.head?.map (·.tid) := by
  cases bs <;> simp [dedupContents, dedupBlk_tid]

theorem dedupSub_tid (known : List Tid) (s : Term Sub) : (dedupSub known s).tid = s.tid := rfl

theorem mem_dedupSub_blocks {known : List Tid} {s : Term Sub} {b' : Term Blk}
    (h : b' ∈ (dedupSub known s).term.blocks) : ∃ k, ∃ b ∈ s.term.blocks, b' = dedupBlk k b := by
  obtain ⟨k, b, hb, e⟩ := mem_dedupContents h
  exact ⟨k, b, mem_of_mem_keep hb, e⟩

theorem dedupSub_subTids_subset (known : List Tid) (s : Term Sub) :
    ∀ t ∈ subTids (dedupSub known s), t ∈ subTids s := by
  intro t ht
  simp only [subTids, dedupSub, List.mem_cons, List.mem_append, dedupContents_tids] at ht ⊢
  rcases ht with h | h | h
  · exact .inl h
  · exact .inr (.inl (keep_tids_subset _ _ _ h))
  · refine .inr (.inr ?_)
    have := dedupContents_content_subset _ _ _ h
    obtain ⟨b, hb, htb⟩ := List.mem_flatMap.mp this
    exact List.mem_flatMap.mpr ⟨b, mem_of_mem_keep hb, htb⟩

theorem dedupSub_nodup {known : List Tid} (hk : known.Nodup) (s : Term Sub) (hs : s.tid ∉ known) :
    (subTids (dedupSub known s) ++ known).Nodup := by
  have h := dedupContents_nodup (keep_nodup (List.nodup_cons.mpr ⟨hs, hk⟩) s.term.blocks) (keep (s.tid :: known) s.term.blocks)
  simp only [subTids, dedupSub, dedupContents_tids]
  exact List.perm_middle.nodup_iff.mp (nodup_append_swap h)

theorem dedupSub_entry (known : List Tid) (s : Term Sub)
    (h : match s.term.blocks with | b :: _ => b.tid ∉ s.tid :: known | [] => True) :
    entryTid (dedupSub known s) = entryTid s := by
  simp only [entryTid, dedupSub, dedupContents_head]
  cases hb : s.term.blocks with
  | nil => simp [keep]
  | cons b bs =>
    rw [hb] at h
    simp only at h
    rw [keep_head _ _ _ h]
    simp

theorem dedupSubs_tids (known : List Tid) (ss : List (Term Sub)) : tids (dedupSubs known ss) = tids ss := by
  induction ss generalizing known with
  | nil => rfl
  | cons s ss ih => simp [dedupSubs, tids, dedupSub_tid] at ih ⊢; exact ih _

theorem mem_dedupSubs {known : List Tid} {ss : List (Term Sub)} {s' : Term Sub}
    (h : s' ∈ dedupSubs known ss) : ∃ k, ∃ s ∈ ss, s' = dedupSub k s := by
  induction ss generalizing known with
  | nil => simp [dedupSubs] at h
  | cons s ss ih =>
    simp only [dedupSubs, List.mem_cons] at h
    rcases h with rfl | h
    · exact ⟨known, s, List.mem_cons_self .., rfl⟩
    · obtain ⟨k, s0, hs0, e⟩ := ih h
      exact ⟨k, s0, List.mem_cons_of_mem _ hs0, e⟩

theorem dedupSubs_nodup {known : List Tid} (hk : known.Nodup) (ss : List (Term Sub)) (hp : dupSubPanic known ss = false) :
    ((dedupSubs known ss).flatMap subTids ++ known).Nodup := by
  induction ss generalizing known with
  | nil => exact hk
  | cons s ss ih =>
    simp only [dupSubPanic, Bool.or_eq_false_iff, decide_eq_false_iff_not] at hp
    exact nodup_append_swap (ih (dedupSub_nodup hk s hp.1) hp.2)

theorem dedupSubs_subset (known : List Tid) (ss : List (Term Sub)) :
    ∀ t ∈ (dedupSubs known ss).flatMap subTids, t ∈ ss.flatMap subTids := by
  intro t ht
  obtain ⟨s', hs', hts⟩ := List.mem_flatMap.mp ht
  obtain ⟨k, s, hs, rfl⟩ := mem_dedupSubs hs'
  exact List.mem_flatMap.mpr ⟨s, hs, dedupSub_subTids_subset _ _ _ hts⟩

theorem entryFresh_mono {K K' : List Tid} (h : ∀ t ∈ K', t ∈ K) (ss : List (Term Sub))
    (hf : EntryFresh K ss) : EntryFresh K' ss := by
  induction ss generalizing K K' with
  | nil => trivial
  | cons s ss ih =>
    simp only [EntryFresh] at hf ⊢
    refine ⟨?_, ih ?_ hf.2⟩
    · have h1 := hf.1
      cases hb : s.term.blocks with
      | nil => trivial
      | cons b bs =>
        rw [hb] at h1
        simp only [List.mem_cons, not_or] at h1 ⊢
        exact ⟨h1.1, fun hk => h1.2 (h _ hk)⟩
    · intro t ht
      rcases List.mem_append.mp ht with h1 | h1
      · exact List.mem_append_left _ h1
      · exact List.mem_append_right _ (h _ h1)

theorem dedupSubs_entry (known : List Tid) (ss : List (Term Sub)) (hf : EntryFresh known ss) :
    ∀ s ∈ ss, ∃ s' ∈ dedupSubs known ss, s'.tid = s.tid ∧ entryTid s' = entryTid s := by
  induction ss generalizing known with
  | nil => simp
  | cons s ss ih =>
    simp only [EntryFresh] at hf
    intro x hx
    rcases List.mem_cons.mp hx with rfl | hx
    · exact ⟨dedupSub known x, by simp [dedupSubs], rfl, dedupSub_entry _ _ hf.1⟩
    · have hf2 : EntryFresh (subTids (dedupSub known s) ++ known) ss := by
        refine entryFresh_mono ?_ ss hf.2
        intro t ht
        rcases List.mem_append.mp ht with h1 | h1
        · exact List.mem_append_left _ (dedupSub_subTids_subset _ _ _ h1)
        · exact List.mem_append_right _ h1
      obtain ⟨s', hs', e⟩ := ih _ hf2 x hx
      exact ⟨s', by simp only [dedupSubs]; exact List.mem_cons_of_mem _ hs', e⟩

theorem dedupBlk_from (known : List Tid) (b : Term Blk) : BlkFrom (dedupBlk known b) b :=
  ⟨(keep_sublist _ _).map _, (keep_sublist _ _).map _⟩

theorem removeDuplicateTids_from (progTid : Tid) (p : Program) : BlocksFrom p (removeDuplicateTids progTid p) :=
  fun s' hs' b' hb' => by
    obtain ⟨k, s, hs, rfl⟩ := mem_dedupSubs hs'
    obtain ⟨k', b, hb, rfl⟩ := mem_dedupSub_blocks hb'
    exact .inr ⟨s, hs, b, hb, dedupBlk_from k' b⟩

/-! ### pass 2: `add_artifical_sink` -/

theorem mem_insertSub {x s : Term Sub} {l : List (Term Sub)} (h : s ∈ insertSub x l) : s = x ∨ s ∈ l := by
  induction l with
  | nil => simp [insertSub] at h; exact .inl h
  | cons a l ih =>
    simp only [insertSub] at h
    split at h
    · rcases List.mem_cons.mp h with h | h
      · exact .inl h
      · exact .inr (List.mem_cons_of_mem _ h)
    · split at h
      · rcases List.mem_cons.mp h with h | h
        · exact .inl h
        · exact .inr h
      · rcases List.mem_cons.mp h with h | h
        · exact .inr (h ▸ List.mem_cons_self ..)
        · rcases ih h with h | h
          · exact .inl h
          · exact .inr (List.mem_cons_of_mem _ h)

theorem insertSub_perm (x : Term Sub) (l : List (Term Sub)) (h : x.tid ∉ tids l) :
    (insertSub x l).Perm (x :: l) := by
  induction l with
  | nil => exact .refl _
  | cons a l ih =>
    simp only [tids, List.map_cons, List.mem_cons, not_or] at h
    simp only [insertSub, if_neg h.1]
    split
    · exact .refl _
    · exact ((ih h.2).cons a).trans (List.Perm.swap x a l)

theorem subTids_sinkSub : subTids artificialSinkSub = [Tid.artificialSinkSub, Tid.artificialSinkBlock ""] := rfl

theorem sinkSub_ne_sinkBlk : Tid.artificialSinkSub ≠ Tid.artificialSinkBlock "" := by
  simp [Tid.artificialSinkSub, Tid.artificialSinkBlock, artificialSinkSubId, artificialSinkBlockPrefix]

theorem addArtificialSinkSub_from (p : Program) : BlocksFrom p (addArtificialSinkSub p) :=
  fun s' hs' b' hb' => by
    rcases mem_insertSub hs' with rfl | hs
    · exact .inl (by rw [List.mem_singleton.mp hb']; exact ⟨rfl, rfl⟩)
    · exact .inr ⟨s', hs, b', hb', .refl b'⟩

/-! ### pass 3: `remove_references_to_nonexisting_tids` -/

theorem retargetJmp_tid (T : List Tid) (j : Term Jmp) : (retargetJmp T j).tid = j.tid := by
  rw [retargetJmp_eq]; split <;> rfl

theorem retargetJmp_local (T : List Tid) (j : Term Jmp) (t : Tid)
    (h : Jmp.localTarget? (retargetJmp T j).term = some t) :
    (t ∈ T ∧ Jmp.localTarget? j.term = some t) ∨ t = Tid.artificialSinkBlock "" := by
  rw [retargetJmp_eq] at h
  split at h
  · obtain ⟨t0, h0, rfl⟩ := Option.map_eq_some_iff.mp ((localTarget?_mapTarget _ _).symm.trans h)
    unfold orSink
    split
    · next hm => exact .inl ⟨hm, h0⟩
    · exact .inr rfl
  · cases h

theorem retargetJmp_call (T : List Tid) (j : Term Jmp) (t : Tid)
    (h : Jmp.callTarget? (retargetJmp T j).term = some t) :
    (t ∈ T ∧ Jmp.callTarget? j.term = some t) ∨ t = Tid.artificialSinkSub := by
  rw [retargetJmp_eq] at h
  split at h
  · next hall =>
    have h0 := (callTarget?_mapTarget _ _).symm.trans h
    rw [h0] at hall
    exact .inl ⟨of_decide_eq_true hall, h0⟩
  · exact .inr (Option.some.inj h).symm

theorem cleanBlk_tid (T : List Tid) (b : Term Blk) : (cleanBlk T b).tid = b.tid := rfl

theorem cleanBlk_content (T : List Tid) (b : Term Blk) :
    blkContentTids (cleanBlk T b) = blkContentTids b := by
  simp [blkContentTids, cleanBlk, tids, List.map_map, Function.comp_def, retargetJmp_tid]

theorem cleanBlk_succ (T : List Tid) (b : Term Blk) (t : Tid) (h : t ∈ succTids (cleanBlk T b)) :
    (t ∈ T ∧ t ∈ succTids b) ∨ t = Tid.artificialSinkBlock "" := by
  simp only [succTids, cleanBlk, List.mem_append, List.mem_filterMap, List.mem_map, List.mem_filter,
    decide_eq_true_eq] at h ⊢
  rcases h with ⟨j', ⟨j, hj, rfl⟩, hl⟩ | ⟨h1, h2⟩
  · rcases retargetJmp_local T j t hl with ⟨h1, h2⟩ | h1
    · exact .inl ⟨h1, .inl ⟨j, hj, h2⟩⟩
    · exact .inr h1
  · exact .inl ⟨h2, .inr h1⟩

theorem cleanBlk_call (T : List Tid) (b : Term Blk) (t : Tid) (h : t ∈ callTargets (cleanBlk T b)) :
    (t ∈ T ∧ t ∈ callTargets b) ∨ t = Tid.artificialSinkSub := by
  simp only [callTargets, cleanBlk, List.mem_filterMap, List.mem_map] at h ⊢
  obtain ⟨j', ⟨j, hj, rfl⟩, hl⟩ := h
  rcases retargetJmp_call T j t hl with ⟨h1, h2⟩ | h1
  · exact .inl ⟨h1, j, hj, h2⟩
  · exact .inr h1

theorem mapBlocks_tid (f : Term Blk → Term Blk) (s : Term Sub) : (mapBlocks f s).tid = s.tid := rfl

theorem mapBlocks_subTids (f : Term Blk → Term Blk) (s : Term Sub)
    (h1 : ∀ b, (f b).tid = b.tid) (h2 : ∀ b, blkContentTids (f b) = blkContentTids b) :
    subTids (mapBlocks f s) = subTids s := by
  simp [subTids, mapBlocks, tids, List.map_map, Function.comp_def, h1, List.flatMap_map, h2]

theorem mapBlocks_blockTids (f : Term Blk → Term Blk) (s : Term Sub) (h1 : ∀ b, (f b).tid = b.tid) :
    tids (mapBlocks f s).term.blocks = tids s.term.blocks := by
  simp [mapBlocks, tids, List.map_map, Function.comp_def, h1]

theorem mapBlocks_entry (f : Term Blk → Term Blk) (s : Term Sub) (h1 : ∀ b, (f b).tid = b.tid) :
    entryTid (mapBlocks f s) = entryTid s := by
  simp only [entryTid, mapBlocks]
  cases s.term.blocks <;> simp [h1]

theorem cleanBlk_from (T : List Tid) (b : Term Blk) : BlkFrom (cleanBlk T b) b :=
  .of_map _ (retargetJmp_skeleton T) rfl rfl

theorem removeReferences_from (p : Program) : BlocksFrom p (removeReferences p) :=
  fun s' hs' b' hb' => by
    obtain ⟨s, hs, rfl⟩ := List.mem_map.mp hs'
    obtain ⟨b, hb, rfl⟩ := List.mem_map.mp hb'
    exact .inr ⟨s, hs, b, hb, cleanBlk_from _ b⟩

/-! ### passes 1–3: `stage3` -/

theorem stage3_from (progTid : Tid) (p : Program) : BlocksFrom p (stage3 progTid p) :=
  ((removeDuplicateTids_from progTid p).trans (addArtificialSinkSub_from _)).trans (removeReferences_from _)

/-- What passes 1–3 establish (under the TID discipline of the raw program `p`). -/
structure Inv3 (progTid : Tid) (p q : Program) : Prop where
  nodup : (progTid :: allTids q).Nodup
  tidsBase : ∀ t ∈ allTids q, t ∈ baseTids p
  subsBase : ∀ t ∈ tids q.subs, t ∈ baseSubs p
  entry : ∀ s ∈ p.subs, ∃ s' ∈ q.subs, s'.tid = s.tid ∧ entryTid s' = entryTid s
  locals : ∀ s ∈ q.subs, ∀ b ∈ s.term.blocks, ∀ t ∈ succTids b, t ∈ blockTids q
  calls : ∀ s ∈ q.subs, ∀ b ∈ s.term.blocks, ∀ t ∈ callTargets b, t ∈ tids q.subs ∨ t ∈ externTids q
  externs : q.externSymbols = p.externSymbols
  shape : (∀ s ∈ p.subs, ∀ b ∈ s.term.blocks, shapeOk b = true) →
    ∀ s ∈ q.subs, ∀ b ∈ s.term.blocks, shapeOk b = true
  sinkBlk : Tid.artificialSinkBlock "" ∈ blockTids q

theorem stage3_inv (progTid : Tid) (p : Program) (H : TidDiscipline progTid p) :
    Inv3 progTid p (stage3 progTid p) := by
  have hshape := (stage3_from progTid p).shape
  -- pass 1
  have ⟨hN1, _, hF1⟩ := List.nodup_append.mp (dedupSubs_nodup (List.nodup_cons.mpr ⟨List.not_mem_nil, List.nodup_nil⟩) p.subs H.noDupSub)
  have hS1 := dedupSubs_subset [progTid] p.subs
  have hT1 := dedupSubs_tids [progTid] p.subs
  have hE1 := dedupSubs_entry [progTid] p.subs H.entryFresh
  generalize hq1 : dedupSubs [progTid] p.subs = l1 at hN1 hF1 hS1 hT1 hE1
  -- pass 2
  have hsinkT : artificialSinkSub.tid ∉ tids l1 := by
    rw [hT1]
    intro h
    obtain ⟨s, hs, e⟩ := List.mem_map.mp h
    exact H.sinkFresh.1 (List.mem_cons_of_mem _ (List.mem_flatMap.mpr ⟨s, hs, List.mem_cons.mpr (.inl e.symm)⟩))
  have hperm := insertSub_perm artificialSinkSub l1 hsinkT
  have hperm2 : ((insertSub artificialSinkSub l1).flatMap subTids).Perm
      (Tid.artificialSinkSub :: Tid.artificialSinkBlock "" :: l1.flatMap subTids) := by
    have := hperm.flatMap_right subTids
    simpa [subTids_sinkSub] using this
  generalize hq2 : insertSub artificialSinkSub l1 = l2 at hperm hperm2
  have hmem2 : ∀ s ∈ l2, s = artificialSinkSub ∨ s ∈ l1 := fun s hs => by
    have := hperm.subset hs
    simpa using this
  have hsub2 : ∀ t ∈ tids l2, t ∈ baseSubs p := by
    intro t ht
    obtain ⟨s, hs, rfl⟩ := List.mem_map.mp ht
    rcases hmem2 s hs with rfl | h
    · exact List.mem_cons_self ..
    · exact List.mem_cons_of_mem _ (hT1 ▸ List.mem_map.mpr ⟨s, h, rfl⟩)
  -- pass 3
  have hstage : stage3 progTid p =
      { p with subs := l2.map (mapBlocks (cleanBlk (tids l2 ++ l2.flatMap (fun s => tids s.term.blocks) ++ externTids p))) } := by
    simp only [stage3, removeReferences, addArtificialSinkSub, removeDuplicateTids, jumpTargets, blockTids,
      externTids, hq1, hq2]
  rw [hstage] at hshape ⊢
  generalize hT : tids l2 ++ l2.flatMap (fun s => tids s.term.blocks) ++ externTids p = T at hshape ⊢
  have hall3 : allTids { p with subs := l2.map (mapBlocks (cleanBlk T)) } = l2.flatMap subTids := by
    simp only [allTids, List.flatMap_map]
    congr 1
    funext s
    exact mapBlocks_subTids _ _ (cleanBlk_tid T) (cleanBlk_content T)
  have htids3 : tids (l2.map (mapBlocks (cleanBlk T))) = tids l2 := by
    simp [tids, List.map_map, Function.comp_def, mapBlocks_tid]
  have hblk3 : blockTids { p with subs := l2.map (mapBlocks (cleanBlk T)) } = l2.flatMap (fun s => tids s.term.blocks) := by
    simp only [blockTids, List.flatMap_map]
    congr 1
    funext s
    exact mapBlocks_blockTids _ _ (cleanBlk_tid T)
  have hsinkMem : artificialSinkSub ∈ l2 := hperm.mem_iff.mpr (List.mem_cons_self ..)
  have hsinkBlkMem : Tid.artificialSinkBlock "" ∈ l2.flatMap (fun s => tids s.term.blocks) :=
    List.mem_flatMap.mpr ⟨artificialSinkSub, hsinkMem, List.mem_singleton.mpr rfl⟩
  have hsinkSubMem : Tid.artificialSinkSub ∈ tids l2 :=
    List.mem_map.mpr ⟨artificialSinkSub, hsinkMem, rfl⟩
  have hraw : ∀ s2 ∈ l2, ∀ b2 ∈ s2.term.blocks,
      b2 = artificialSinkBlk "" ∨ ∃ s ∈ p.subs, ∃ b ∈ s.term.blocks, ∃ k, b2 = dedupBlk k b := by
    intro s2 hs2 b2 hb2
    rcases hmem2 s2 hs2 with rfl | h
    · left; simpa [artificialSinkSub] using hb2
    · right
      obtain ⟨k, s, hs, rfl⟩ := mem_dedupSubs (hq1 ▸ h)
      obtain ⟨k', b, hb, rfl⟩ := mem_dedupSub_blocks hb2
      exact ⟨s, hs, b, hb, k', rfl⟩
  have hblk2 : ∀ t ∈ l2.flatMap (fun s => tids s.term.blocks), t = Tid.artificialSinkBlock "" ∨ t ∈ blockTids p := by
    intro t ht
    obtain ⟨s2, hs2, hbt⟩ := List.mem_flatMap.mp ht
    obtain ⟨b2, hb2, rfl⟩ := List.mem_map.mp hbt
    rcases hraw s2 hs2 b2 hb2 with rfl | ⟨s, hs, b, hb, k, rfl⟩
    · exact .inl rfl
    · exact .inr (List.mem_flatMap.mpr ⟨s, hs, List.mem_map.mpr ⟨b, hb, rfl⟩⟩)
  exact {
    nodup := by
      rw [hall3]
      have h0 : (progTid :: Tid.artificialSinkSub :: Tid.artificialSinkBlock "" :: l1.flatMap subTids).Nodup := by
        have hs1 : Tid.artificialSinkSub ∉ progTid :: allTids p := H.sinkFresh.1
        have hs2 : Tid.artificialSinkBlock "" ∉ progTid :: allTids p := H.sinkFresh.2
        simp only [List.mem_cons, not_or] at hs1 hs2
        refine List.nodup_cons.mpr ⟨?_, List.nodup_cons.mpr ⟨?_, List.nodup_cons.mpr ⟨?_, hN1⟩⟩⟩
        · simp only [List.mem_cons, not_or]
          exact ⟨fun h => hs1.1 h.symm, fun h => hs2.1 h.symm, fun h => hF1 _ h _ (List.mem_cons_self ..) rfl⟩
        · simp only [List.mem_cons, not_or]
          exact ⟨sinkSub_ne_sinkBlk, fun h => hs1.2 (hS1 _ h)⟩
        · exact fun h => hs2.2 (hS1 _ h)
      exact ((hperm2.cons progTid).nodup_iff).mpr h0
    tidsBase := by
      rw [hall3]
      intro t ht
      have := hperm2.subset ht
      simp only [List.mem_cons] at this
      rcases this with h | h | h
      · exact h ▸ List.mem_cons_self ..
      · exact h ▸ List.mem_cons_of_mem _ (List.mem_cons_self ..)
      · exact List.mem_cons_of_mem _ (List.mem_cons_of_mem _ (hS1 _ h))
    subsBase := by
      show ∀ t ∈ tids (l2.map (mapBlocks (cleanBlk T))), t ∈ baseSubs p
      rw [htids3]; exact hsub2
    entry s hs := by
      obtain ⟨s1, hs1, e1, e2⟩ := hE1 s hs
      have : s1 ∈ l2 := hperm.symm.subset (List.mem_cons_of_mem _ hs1)
      exact ⟨mapBlocks (cleanBlk T) s1, List.mem_map.mpr ⟨s1, this, rfl⟩, e1,
        (mapBlocks_entry _ _ (cleanBlk_tid T)).trans e2⟩
    locals s3 hs3 b3 hb3 t ht := by
      rw [hblk3]
      obtain ⟨s2, hs2, rfl⟩ := List.mem_map.mp hs3
      obtain ⟨b2, hb2, rfl⟩ := List.mem_map.mp hb3
      rcases cleanBlk_succ T b2 t ht with ⟨h1, h2⟩ | rfl
      · rcases hraw s2 hs2 b2 hb2 with rfl | ⟨s, hs, b, hb, k, rfl⟩
        · simp [succTids, artificialSinkBlk] at h2
        · have hk := H.localKinds s hs b hb t (dedupBlk_succ_subset k b t h2)
          rw [← hT] at h1
          simp only [List.mem_append] at h1
          rcases h1 with (h1 | h1) | h1
          · exact absurd (hsub2 t h1) hk.1
          · exact h1
          · exact absurd h1 hk.2
      · exact hsinkBlkMem
    calls s3 hs3 b3 hb3 t ht := by
      show t ∈ tids (l2.map (mapBlocks (cleanBlk T))) ∨ t ∈ externTids p
      rw [htids3]
      obtain ⟨s2, hs2, rfl⟩ := List.mem_map.mp hs3
      obtain ⟨b2, hb2, rfl⟩ := List.mem_map.mp hb3
      rcases cleanBlk_call T b2 t ht with ⟨h1, h2⟩ | rfl
      · rcases hraw s2 hs2 b2 hb2 with rfl | ⟨s, hs, b, hb, k, rfl⟩
        · simp [callTargets, artificialSinkBlk] at h2
        · have hk := H.callKinds s hs b hb t (dedupBlk_call_subset k b t h2)
          rw [← hT] at h1
          simp only [List.mem_append] at h1
          rcases h1 with (h1 | h1) | h1
          · exact .inl h1
          · rcases hblk2 t h1 with h | h
            · exact absurd h hk.2
            · exact absurd h hk.1
          · exact .inr h1
      · exact .inl hsinkSubMem
    externs := rfl
    shape := hshape
    sinkBlk := hblk3 ▸ hsinkBlkMem }

end CweModel.C09
