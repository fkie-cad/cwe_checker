/-
C09 — Basic normalization establishes the IR invariants analyses rely on.

Property (full statement): for every program as the P-Code extractor may emit it (jumps and calls to
nonexistent targets, non-entry blocks shared between functions, duplicate identifiers, calls to
non-returning functions, empty functions), basic normalization yields a program in which all term
identifiers are unique, every function still starts with its original entry block, every direct
jump, call and return target exists, and every intraprocedural target is a block of the same
function. Calls to non-returning functions return to the caller's artificial sink, and building the
control flow graph of the result never fails.

What is proved here, for ALL programs `p` (no bound on the number of functions, blocks or terms):
`TidDiscipline progTid p → WF progTid p (normalizeBasic progTid p)` and no panic, where
`TidDiscipline` makes "as the P-Code extractor may emit it" precise (TID format discipline: sub TIDs
are first occurrences, entry blocks are first occurrences, jump targets are never function/extern
TIDs and call targets never block TIDs, `suffixFresh`, `suffixInj`, `sinkLike`); all of it is decidable and evaluated
by the driver on every generated program.
"Building the control flow graph never fails": `WF` implies the precondition `Cfg.CfgReady` /
`Cfg.WellFormedNormalized` of the CFG model (`Base/Cfg.lean`), given the jump-shape assumption of
`graph.rs` on the raw blocks; with `C08.buildCfg_spec` this gives `normalizeBasic_cfg_ok`: the model of
`get_program_cfg` returns a graph on the normalised program. The real `get_program_cfg` is run on
every normalised program by the harness.
-/
import CweModel.C09.P5
import CweModel.Base.Cfg
import CweModel.C08.Props
open CweModel.IR CweModel.Reach
namespace CweModel.C09

/-- **C09-wf.** For every raw program obeying the TID discipline, `normalize_basic` yields a
program with unique TIDs, unchanged entry blocks, existing and function-local intraprocedural
targets, existing call targets, and non-returning calls returning to the caller's artificial sink. -/
theorem normalizeBasic_wf (progTid : Tid) (p : Program) (H : TidDiscipline progTid p) :
    WF progTid p (normalizeBasic progTid p) :=
  pass5_wf progTid p _ H (pass4_inv progTid p _ H (stage3_inv progTid p H))

/-- **C09-no-panic.** Under the same hypotheses neither `panic!("Duplicate of TID …")` in
`remove_duplicate_tids` nor the `unwrap()` in `duplicate_blocks_contained_in_several_subs` fires. -/
theorem normalizeBasic_no_panic (progTid : Tid) (p : Program) (H : TidDiscipline progTid p) :
    normalizePanics progTid p = false := by
  have I := stage3_inv progTid p H
  simp only [normalizePanics, H.noDupSub, Bool.false_or]
  generalize stage3 progTid p = q at I
  unfold clonePanics
  rw [List.any_eq_false]
  intro s hs
  rw [Bool.not_eq_true, List.any_eq_false]
  intro t ht
  have hb := reach_blocks q I.locals s hs t ht
  obtain ⟨v, hv⟩ := lookupLast_isSome_of_mem (l := blockList q) (by rw [blockList_keys]; exact hb)
  simp [hv]

theorem ite_not_eq_none {a : Prop} [Decidable a] {e r : Option String} (he : e ≠ none) :
    (if ¬ a then e else r) = none ↔ a ∧ r = none := by
  by_cases h : a <;> simp [h, he]

/-- **C09-spec-exec.** The executable check used by the driver decides `WF`. -/
theorem wfCheck_none_iff (progTid : Tid) (p q : Program) : wfCheck progTid p q = none ↔ WF progTid p q := by
  unfold wfCheck
  rw [ite_not_eq_none (by simp), ite_not_eq_none (by simp), ite_not_eq_none (by split <;> simp),
    ite_not_eq_none (by simp), ite_not_eq_none (by simp), ite_not_eq_none (by simp)]
  exact ⟨fun ⟨a, b, c, d, e, f, _⟩ => ⟨a, b, c, d, e, f⟩, fun w => ⟨w.1, w.2, w.3, w.4, w.5, w.6, rfl⟩⟩

/-! ### CFG construction does not fail

`Base/Cfg.lean` has its own vocabulary for the jumps of a block; it agrees with the one of `WF`. -/

theorem isCBranch_eq (j : Term Jmp) : Cfg.isCBranch j = Jmp.isCBranch j.term := by
  obtain ⟨_, jt⟩ := j; cases jt <;> rfl

theorem jmpShapeOk_eq (b : Term Blk) : Cfg.jmpShapeOk b = shapeOk b := by
  unfold Cfg.jmpShapeOk shapeOk
  rcases b.term.jmps with _ | ⟨j, _ | ⟨_, _ | _⟩⟩
  · rfl
  · rfl
  · exact isCBranch_eq j
  · rfl

theorem intraTargets_eq (j : Term Jmp) : Cfg.intraTargets j = (Jmp.localTarget? j.term).toList := by
  obtain ⟨_, jt⟩ := j
  cases jt with
  | Call _ r | CallInd _ r | CallOther _ r => cases r <;> rfl
  | _ => rfl

theorem callTargets_eq (j : Term Jmp) : Cfg.callTargets j = (Jmp.callTarget? j.term).toList := by
  obtain ⟨_, jt⟩ := j; cases jt <;> rfl

/-- **C09-cfg-ready.** A well-formed normalised program whose raw blocks had the jump shape
`graph.rs` assumes satisfies `Cfg.WellFormedNormalized`, the precondition under which the model of
`get_program_cfg` (`Base/Cfg.lean`) is shown not to fail. -/
theorem wf_wellFormedNormalized (progTid : Tid) (p q : Program) (w : WF progTid p q)
    (hsh : ∀ s ∈ p.subs, ∀ b ∈ s.term.blocks, shapeOk b = true) : Cfg.WellFormedNormalized q where
  -- `Cfg.allTids q` is `allTidsB q` written out
  tidsUnique := (allTidsB_perm q).nodup_iff.mpr (List.nodup_cons.mp w.unique).2
  shape s hs b hb := (jmpShapeOk_eq b).trans (w.shape hsh s hs b hb)
  targets s hs b hb j hj t ht := by
    rw [intraTargets_eq, Option.mem_toList] at ht
    exact List.mem_map.mp (w.localTargets s hs b hb t (List.mem_append_left _ (List.mem_filterMap.mpr ⟨j, hj, ht⟩)))
  hints s hs b hb t ht := List.mem_map.mp (w.localTargets s hs b hb t (List.mem_append_right _ ht))
  callTargets s hs b hb j hj t ht := by
    rw [callTargets_eq, Option.mem_toList] at ht
    rcases w.callTargets s hs b hb t (List.mem_filterMap.mpr ⟨j, hj, ht⟩) with h | h
    · exact .inr (List.mem_map.mp h)
    · exact .inl (List.any_eq_true.mpr ⟨t, h, decide_eq_true rfl⟩)

theorem wf_cfgReady (progTid : Tid) (p q : Program) (w : WF progTid p q)
    (hsh : ∀ s ∈ p.subs, ∀ b ∈ s.term.blocks, shapeOk b = true) : Cfg.CfgReady q :=
  C08.wellFormedNormalized_cfgReady (wf_wellFormedNormalized progTid p q w hsh)

/-- **C09-cfg.** `normalize_basic` establishes the precondition of CFG construction. -/
theorem normalizeBasic_cfgReady (progTid : Tid) (p : Program) (H : TidDiscipline progTid p)
    (hsh : ∀ s ∈ p.subs, ∀ b ∈ s.term.blocks, shapeOk b = true) :
    Cfg.CfgReady (normalizeBasic progTid p) ∧ Cfg.WellFormedNormalized (normalizeBasic progTid p) :=
  ⟨wf_cfgReady progTid p _ (normalizeBasic_wf progTid p H) hsh,
   wf_wellFormedNormalized progTid p _ (normalizeBasic_wf progTid p H) hsh⟩

/-- **C09-cfg-ok.** Building the control flow graph of the normalised program does not fail (model of
`get_program_cfg` in `Base/Cfg.lean`, success under `CfgReady` by `C08.buildCfg_spec`). -/
theorem normalizeBasic_cfg_ok (progTid : Tid) (p : Program) (H : TidDiscipline progTid p)
    (hsh : ∀ s ∈ p.subs, ∀ b ∈ s.term.blocks, shapeOk b = true) :
    ∃ g, Cfg.buildCfgE (normalizeBasic progTid p) = .ok g :=
  C08.buildCfgE_ok (normalizeBasic_cfgReady progTid p H hsh).1

/-! ### A sufficient condition for the string clauses of `TidDiscipline`

If no id of the raw program contains `'_'` and no address is `"UNKNOWN"`, the clauses `sinkFresh`,
`suffixFresh`, `suffixInj` and `sinkLike` hold: `id ++ "_" ++ subId` splits at its last `'_'`, and only
the reserved TIDs pass the address test of `Tid::is_artificial_sink_block`.

String operations do not reduce well in the kernel, so ids are read as character lists through
`String.toList_append`; a literal is `String.ofList` of its characters by definition. -/

theorem eq_of_append_sep {α : Type} {x : α} {a a' b b' : List α} (hb : x ∉ b) (hb' : x ∉ b')
    (h : a ++ x :: b = a' ++ x :: b') : b = b' := by
  have aux : ∀ {m b b' : List α}, x ∉ b → x :: b = m ++ x :: b' → b = b' := by
    intro m b b' hb h
    cases m with
    | nil => exact (List.cons.inj h).2
    | cons c m => exact absurd ((List.cons.inj h).2 ▸ List.mem_append_right m (List.mem_cons_self ..)) hb
  rcases List.append_eq_append_iff.mp h with ⟨m, rfl, hm⟩ | ⟨m, rfl, hm⟩
  · exact aux hb hm
  · exact (aux hb' hm).symm

theorem sinkBlockPrefix_toList : artificialSinkBlockPrefix.toList =
    ['A','r','t','i','f','i','c','i','a','l',' ','S','i','n','k',' ','B','l','o','c','k'] := String.toList_ofList

theorem sinkSubId_toList : artificialSinkSubId.toList =
    ['A','r','t','i','f','i','c','i','a','l',' ','S','i','n','k',' ','S','u','b'] := String.toList_ofList

theorem sinkBlock_toList : (Tid.artificialSinkBlock "").id.toList = artificialSinkBlockPrefix.toList := by
  rw [Tid.artificialSinkBlock, String.append_empty]

theorem sfxOf_toList (s : Tid) : (sfxOf s).toList = '_' :: s.id.toList := by
  rw [sfxOf, String.toList_append]; rfl

theorem withIdSuffix_toList (t : Tid) (sfx : String) : (t.withIdSuffix sfx).id.toList = t.id.toList ++ sfx.toList :=
  String.toList_append

theorem baseSubs_subset (p : Program) : ∀ s ∈ baseSubs p, s ∈ baseTids p := by
  intro t ht
  rcases List.mem_cons.mp ht with rfl | ht
  · exact List.mem_cons_self ..
  · obtain ⟨s, hs, rfl⟩ := List.mem_map.mp ht
    exact List.mem_cons_of_mem _ (List.mem_cons_of_mem _ (List.mem_flatMap.mpr ⟨s, hs, List.mem_cons_self ..⟩))

theorem underscore_not_mem_base {progTid : Tid} {p : Program} (hid : ∀ t ∈ progTid :: allTids p, '_' ∉ t.id.toList) :
    ∀ t ∈ progTid :: baseTids p, '_' ∉ t.id.toList := by
  intro t ht
  simp only [baseTids, List.mem_cons] at ht
  rcases ht with rfl | rfl | rfl | ht
  · exact hid _ (List.mem_cons_self ..)
  · show '_' ∉ artificialSinkSubId.toList
    rw [sinkSubId_toList]; decide
  · rw [sinkBlock_toList, sinkBlockPrefix_toList]; decide
  · exact hid _ (List.mem_cons_of_mem _ ht)

theorem suffixFresh_of_ids {progTid : Tid} {p : Program} (hid : ∀ t ∈ progTid :: allTids p, '_' ∉ t.id.toList)
    (t s : Tid) : t.withIdSuffix (sfxOf s) ∉ progTid :: baseTids p := by
  intro h
  have := underscore_not_mem_base hid _ h
  rw [withIdSuffix_toList, sfxOf_toList] at this
  exact this (List.mem_append_right _ (List.mem_cons_self ..))

theorem suffixInj_of_ids {progTid : Tid} {p : Program} (hid : ∀ t ∈ progTid :: allTids p, '_' ∉ t.id.toList)
    (t t' : Tid) {s s' : Tid} (hs : s ∈ baseSubs p) (hs' : s' ∈ baseSubs p)
    (h : t.withIdSuffix (sfxOf s) = t'.withIdSuffix (sfxOf s')) : s.id = s'.id := by
  have h' := congrArg (·.id.toList) h
  simp only [withIdSuffix_toList, sfxOf_toList] at h'
  have us := fun s hs => underscore_not_mem_base hid s (List.mem_cons_of_mem _ (baseSubs_subset p s hs))
  exact String.toList_inj.mp (eq_of_append_sep (us s hs) (us s' hs') h')

theorem sinkLike_of_ids {progTid : Tid} {p : Program} (hid : ∀ t ∈ progTid :: allTids p, '_' ∉ t.id.toList)
    (haddr : ∀ t ∈ progTid :: allTids p, t.address ≠ "UNKNOWN") {t : Tid} (ht : t ∈ baseTids p) (s : Tid) :
    t.isArtificialSinkBlock (sfxOf s) = false ∧
    ((t.withIdSuffix (sfxOf s)).isArtificialSinkBlock (sfxOf s) = true → t = Tid.artificialSinkBlock "") := by
  constructor
  · -- an id that ends with the suffix contains `'_'`
    refine Bool.eq_false_iff.mpr fun h => ?_
    have hsuf := ((isArtificialSinkBlock_iff _ _).mp h).2.1
    rw [sfxOf_toList] at hsuf
    exact underscore_not_mem_base hid t (List.mem_cons_of_mem _ ht) (hsuf.subset (List.mem_cons_self ..))
  · intro h
    obtain ⟨hpre, _, ha⟩ := (isArtificialSinkBlock_iff _ _).mp h
    simp only [baseTids, List.mem_cons] at ht
    rcases ht with rfl | rfl | ht
    · -- "Artificial Sink Sub…" does not start with "Artificial Sink Block"
      rw [withIdSuffix_toList, show Tid.artificialSinkSub.id = artificialSinkSubId from rfl, sinkBlockPrefix_toList,
        sinkSubId_toList] at hpre
      simp at hpre
    · rfl
    · exact absurd ha (haddr t (List.mem_cons_of_mem _ ht))

/-! ### Non-vacuity: the hypotheses hold on a concrete raw program with every kind of defect -/

section Example
def tB (id : String) : Tid := { id := id, address := "a" }
def jm (id : String) (j : Jmp) : Term Jmp := { tid := tB id, term := j }
def bk (id : String) (jmps : List (Term Jmp)) : Term Blk := { tid := tB id, term := { defs := [], jmps := jmps } }
def sb (id : String) (blocks : List (Term Blk)) : Term Sub :=
  { tid := tB id, term := { name := id, blocks := blocks } }
def ext0 : ExternSymbol where
  tid := tB "sub_exit"
  addresses := []
  name := "exit"
  callingConvention := none
  parameters := []
  returnValues := []
  noReturn := true
  hasVarArgs := false

/-- `f1`: `b1` jumps to a nonexistent block, else to `b2` (returns). `f2`: `b3` calls the non-returning
extern `exit` with the FOREIGN block `b2` as return site and carries a duplicate of the TID `i3`. -/
def p0 : Program :=
  { subs := [sb "f1" [bk "b1" [jm "i1" (.CBranch (tB "b9") (.Var ⟨"ZF", 1, false⟩)), jm "i2" (.Branch (tB "b2"))],
                      bk "b2" [jm "i3" (.Return (.Var ⟨"RAX", 8, false⟩))]],
             sb "f2" [{ tid := tB "b3", term := { defs := [{ tid := tB "i3", term := .Assign ⟨"RAX", 8, false⟩ (.Const 8 0) }],
                                                  jmps := [jm "i4" (.Call (tB "sub_exit") (some (tB "b2")))] } }]],
    externSymbols := [ext0], entryPoints := [] }

theorem p0_discipline : TidDiscipline (tB "prog") p0 :=
  have hid : ∀ t ∈ tB "prog" :: allTids p0, '_' ∉ t.id.toList := by decide +kernel
  have haddr : ∀ t ∈ tB "prog" :: allTids p0, t.address ≠ "UNKNOWN" := by decide +kernel
  { noDupSub := by decide +kernel
    entryFresh := by decide +kernel
    sinkFresh := ⟨fun h => haddr _ h rfl, fun h => haddr _ h rfl⟩
    localKinds := by decide +kernel
    callKinds := by decide +kernel
    subIds := by decide +kernel
    suffixFresh := fun t _ s _ => suffixFresh_of_ids hid t s
    suffixInj := fun t _ t' _ _ hs _ hs' => suffixInj_of_ids hid t t' hs hs'
    sinkLike := fun _ ht s _ => sinkLike_of_ids hid haddr ht s }

example : WF (tB "prog") p0 (normalizeBasic (tB "prog") p0) := normalizeBasic_wf _ _ p0_discipline
example : Cfg.CfgReady (normalizeBasic (tB "prog") p0) := (normalizeBasic_cfgReady _ _ p0_discipline (by decide +kernel)).1

/-- after pass 4: the dangling jump goes to (the clone of) the sink block in `f1`, `b2` is cloned into `f2`
with its jump `i3` as `i3_f2` (the duplicate def `i3` in `b3` was removed by pass 1) and the call's return
site is re-suffixed. Pass 5 then reroutes the return of the call to `exit` to `Artificial Sink Block_f2`
(`#eval` shows it; `is_artificial_sink_block` does not reduce in the kernel). -/
example : (makeBlockToSubUnique (stage3 (tB "prog") p0)).subs.map
      (fun s => (s.tid.id, s.term.blocks.map
        (fun b => (b.tid.id, (succTids b).map (·.id), blkContentTids b |>.map (·.id))))) =
    [("Artificial Sink Sub", [("Artificial Sink Block", [], [])]),
     ("f1", [("b1", ["Artificial Sink Block_f1", "b2"], ["i1", "i2"]), ("b2", [], ["i3"]),
             ("Artificial Sink Block_f1", [], [])]),
     ("f2", [("b3", ["b2_f2"], ["i4"]), ("b2_f2", [], ["i3_f2"])])] := by decide +kernel

/-- the hypotheses are needed: with a shared ENTRY block (`blk_b` is the entry of `sub_b` and listed in
the earlier `sub_a`) the entry of `sub_b` is removed by pass 1 -/
def pBad : Program :=
  { subs := [sb "sub_a" [bk "blk_a" [], bk "blk_b" []], sb "sub_b" [bk "blk_b" [], bk "blk_c" []]],
    externSymbols := [], entryPoints := [] }
example : ¬ EntryFresh [tB "prog"] pBad.subs := by decide +kernel
example : wfCheck (tB "prog") pBad (normalizeBasic (tB "prog") pBad) = some "entry" := by decide +kernel
end Example

end CweModel.C09
