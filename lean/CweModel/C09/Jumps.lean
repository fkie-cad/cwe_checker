/-
C09 — what `normalize_basic` does to a jump: every jump transformer of the passes (`retargetJmp`,
`adjustJmp`, `retargetCall`) leaves the TID, the kind and the expression of a jump alone and rewrites
only its direct jump target / return site through `Jmp.mapTarget` (pass 3 may also replace a call by
the call of the artificial sink function). Each transformer is unfolded once, in its `_eq` lemma; what
the passes and C12 need follows from the facts about `Jmp.mapTarget`.
-/
import CweModel.C09.Model
import CweModel.Base.Jmp
open CweModel.IR
namespace CweModel.C09

theorem localTarget?_mapTarget (f : Tid → Tid) (j : Jmp) :
    Jmp.localTarget? (j.mapTarget f) = (Jmp.localTarget? j).map f := by cases j <;> rfl

theorem callTarget?_mapTarget (f : Tid → Tid) (j : Jmp) : Jmp.callTarget? (j.mapTarget f) = Jmp.callTarget? j := by
  cases j <;> rfl

theorem isReturn_mapTarget (f : Tid → Tid) (j : Jmp) : Jmp.isReturn (j.mapTarget f) = Jmp.isReturn j := by
  cases j <;> rfl

def orSink (T : List Tid) (t : Tid) : Tid := if t ∈ T then t else Tid.artificialSinkBlock ""

/-- `retarget_nonexisting_jump_targets_to_artificial_sink`: a call of a nonexisting function becomes a
non-returning call of the sink function; otherwise only the jump target / return site is looked at. -/
theorem retargetJmp_eq (T : List Tid) (j : Term Jmp) : retargetJmp T j =
    if (Jmp.callTarget? j.term).all (fun c => decide (c ∈ T)) then { j with term := j.term.mapTarget (orSink T) }
    else { j with term := .Call Tid.artificialSinkSub none } := by
  obtain ⟨i, jt⟩ := j
  cases jt with
  | BranchInd _ | Return _ => rfl
  | Branch t | CBranch t _ => by_cases h : t ∈ T <;> simp only [retargetJmp, Jmp.mapTarget, orSink, h, if_true, if_false] <;> rfl
  | CallInd _ r | CallOther _ r =>
    cases r with
    | none => rfl
    | some r => by_cases h : r ∈ T <;> simp only [retargetJmp, Jmp.mapTarget, Option.map, orSink, h, if_true, if_false] <;> rfl
  | Call tgt r =>
    have hc : (Jmp.callTarget? (Jmp.Call tgt r)).all (fun c => decide (c ∈ T)) = decide (tgt ∈ T) := rfl
    by_cases h : tgt ∈ T
    · cases r with
      | none => simp only [retargetJmp, hc, h, if_true, decide_true]; rfl
      | some r => by_cases hr : r ∈ T <;> simp only [retargetJmp, Jmp.mapTarget, Option.map, orSink, hc, h, hr, if_true, if_false, decide_true]
    · simp only [retargetJmp, hc, h, if_false, decide_false, Bool.false_eq_true]

theorem adjustJmp_eq (m : List (Tid × Tid)) (s : Term Sub) (j : Term Jmp) :
    adjustJmp m s j = { j with term := j.term.mapTarget (adjustTid m s) } := by
  obtain ⟨i, jt⟩ := j; cases jt <;> rfl

theorem retargetCall_eq (p : Program) (nr : List Tid) (sfx : String) (j : Term Jmp) : retargetCall p nr sfx j =
    if shouldRetarget p nr sfx j.term then { j with term := j.term.mapTarget fun _ => Tid.artificialSinkBlock sfx }
    else j := by
  obtain ⟨i, jt⟩ := j
  cases jt with
  | Call t r => cases r <;> rfl
  | _ => rfl

end CweModel.C09
