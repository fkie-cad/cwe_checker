/-
C25 — property theorems. Statement of the property:

  For any interleaving of threads sending log messages and warnings to the log collector, every
  message whose send completed before collection was requested is returned, address-less logs keep
  their send order, and for each reporting address exactly the last warning sent for it is kept.

Reading used here (documented behaviour of `collect_and_deduplicate`): logs WITH a location are
deduplicated by their address exactly like warnings, so "returned" means "returned, or superseded by
a later message with the same address, which is returned". All theorems hold for EVERY channel
content `σ` (hence for every interleaving); the `Interleave` theorems at the end instantiate them
for the situation of the property: histories `hs` of the sending threads, all sends completed,
then `Terminate`.
-/
import CweModel.C25.Model

namespace CweModel.C25

variable {K I : Type} [DecidableEq K]

section LastOf
variable {α κ : Type} (key : α → κ)

theorem lastOf_nil (x : α) : ¬ LastOf key x [] := by
  rintro ⟨p, q, h, _⟩
  cases p <;> simp at h

theorem lastOf_cons (x y : α) (l : List α) :
    LastOf key x (y :: l) ↔ LastOf key x l ∨ (y = x ∧ ∀ z ∈ l, key z ≠ key x) := by
  constructor
  · rintro ⟨p, q, h, hq⟩
    cases p with
    | nil =>
      simp only [List.nil_append, List.cons.injEq] at h
      exact Or.inr ⟨h.1, by rw [h.2]; exact hq⟩
    | cons a p =>
      simp only [List.cons_append, List.cons.injEq] at h
      exact Or.inl ⟨p, q, h.2, hq⟩
  · rintro (⟨p, q, h, hq⟩ | ⟨rfl, hq⟩)
    · exact ⟨y :: p, q, by simp [h], hq⟩
    · exact ⟨[], l, rfl, hq⟩

theorem LastOf.mem {x : α} {l : List α} (h : LastOf key x l) : x ∈ l := by
  obtain ⟨p, q, rfl, _⟩ := h
  simp

theorem exists_lastOf {l : List α} : ∀ {x : α}, x ∈ l → ∃ y, key y = key x ∧ LastOf key y l := by
  induction l with
  | nil => intro x hx; cases hx
  | cons a l ih =>
    intro x hx
    by_cases hl : ∃ z ∈ l, key z = key x
    · obtain ⟨z, hz, hzk⟩ := hl
      obtain ⟨y, hy, hlast⟩ := ih hz
      exact ⟨y, hy.trans hzk, (lastOf_cons key y a l).mpr (Or.inl hlast)⟩
    · rcases List.mem_cons.mp hx with rfl | hx'
      · exact ⟨x, rfl, (lastOf_cons key x x l).mpr (Or.inr ⟨rfl, fun z hz hk => hl ⟨z, hz, hk⟩⟩)⟩
      · exact absurd ⟨x, hx', rfl⟩ hl

theorem lastOf_unique {x y : α} {l : List α} (hx : LastOf key x l) (hy : LastOf key y l)
    (hk : key x = key y) : x = y := by
  induction l with
  | nil => exact absurd hx (lastOf_nil key x)
  | cons a l ih =>
    rcases (lastOf_cons key x a l).mp hx with hx' | ⟨rfl, hxq⟩
    · rcases (lastOf_cons key y a l).mp hy with hy' | ⟨rfl, hyq⟩
      · exact ih hx' hy'
      · exact absurd hk (hyq x (LastOf.mem key hx'))
    · rcases (lastOf_cons key y a l).mp hy with hy' | ⟨rfl, _⟩
      · exact absurd hk.symm (hxq y (LastOf.mem key hy'))
      · rfl

theorem lastOfB_iff [DecidableEq α] [DecidableEq κ] (x : α) (l : List α) :
    lastOfB key x l = true ↔ LastOf key x l := by
  induction l with
  | nil => simp [lastOfB, lastOf_nil]
  | cons a l ih =>
    rw [lastOf_cons, ← ih]
    simp [lastOfB]

end LastOf

section Map
variable {V κ : Type} [DecidableEq κ] (key : V → κ)

theorem mem_insertBy (m : List V) (v x : V) :
    x ∈ insertBy key m v ↔ x = v ∨ (x ∈ m ∧ key x ≠ key v) := by
  simp [insertBy]

theorem mem_foldl_insertBy (vs : List V) (m : List V) (x : V) :
    x ∈ vs.foldl (insertBy key) m ↔ LastOf key x vs ∨ (x ∈ m ∧ ∀ y ∈ vs, key y ≠ key x) := by
  induction vs generalizing m with
  | nil => simp [lastOf_nil]
  | cons v vs ih =>
    rw [List.foldl_cons, ih, mem_insertBy, lastOf_cons, List.forall_mem_cons]
    constructor
    · rintro (h | ⟨rfl | ⟨hm, hk⟩, hvs⟩)
      · exact Or.inl (Or.inl h)
      · exact Or.inl (Or.inr ⟨rfl, hvs⟩)
      · exact Or.inr ⟨hm, Ne.symm hk, hvs⟩
    · rintro ((h | ⟨rfl, hvs⟩) | ⟨hm, hk, hvs⟩)
      · exact Or.inl h
      · exact Or.inr ⟨Or.inl rfl, hvs⟩
      · exact Or.inr ⟨Or.inr ⟨hm, Ne.symm hk⟩, hvs⟩

theorem nodup_insertBy (m : List V) (v : V) (h : (m.map key).Nodup) :
    ((insertBy key m v).map key).Nodup := by
  simp only [insertBy, List.map_cons, List.nodup_cons, List.mem_map, List.mem_filter,
    decide_eq_true_eq, not_exists, not_and]
  refine ⟨fun x hx e => hx.2 e, ?_⟩
  exact (List.filter_sublist.map key).nodup h

theorem nodup_foldl_insertBy (vs m : List V) (h : (m.map key).Nodup) :
    ((vs.foldl (insertBy key) m).map key).Nodup := by
  induction vs generalizing m with
  | nil => exact h
  | cons v vs ih => exact ih _ (nodup_insertBy key m v h)

theorem mem_values (le : V → V → Bool) (m : List V) (x : V) : x ∈ values le m ↔ x ∈ m := by
  simp [values, List.mem_mergeSort]

omit [DecidableEq κ] in
theorem nodup_values (le : V → V → Bool) (m : List V) (h : (m.map key).Nodup) :
    ((values le m).map key).Nodup :=
  ((List.mergeSort_perm m le).map key).nodup_iff.mpr h

theorem mem_values_foldl (le : V → V → Bool) (vs : List V) (x : V) :
    x ∈ values le (vs.foldl (insertBy key) []) ↔ LastOf key x vs := by
  rw [mem_values, mem_foldl_insertBy]
  exact or_iff_left (nomatch ·.1)

theorem nodup_values_foldl (le : V → V → Bool) (vs : List V) :
    ((values le (vs.foldl (insertBy key) [])).map key).Nodup :=
  nodup_values _ _ _ (nodup_foldl_insertBy _ _ _ List.nodup_nil)

end Map

omit [DecidableEq K] in
theorem pre_cons_terminate (σ : List (Msg K I)) : pre (Msg.terminate :: σ) = [] := by
  simp [pre, Msg.isTerminate]

omit [DecidableEq K] in
theorem mem_filterMap_log (p : Log K I → Bool) {l : Log K I} {σ : List (Msg K I)} :
    l ∈ σ.filterMap (fun m => match m with | .log x => if p x then some x else none | _ => none) ↔
      .log l ∈ σ ∧ p l = true := by
  rw [List.mem_filterMap]
  constructor
  · rintro ⟨_ | _ | _, hm, h⟩
    · dsimp only at h
      split at h <;> cases h
      exact ⟨hm, ‹_›⟩
    all_goals cases h
  · exact fun ⟨hm, h⟩ => ⟨_, hm, if_pos h⟩

omit [DecidableEq K] in
theorem mem_keyedLogsOf {l : Log K I} {σ : List (Msg K I)} :
    l ∈ keyedLogsOf σ ↔ .log l ∈ σ ∧ l.addr.isSome = true :=
  mem_filterMap_log (·.addr.isSome)

omit [DecidableEq K] in
theorem mem_generalOf {l : Log K I} {σ : List (Msg K I)} :
    l ∈ generalOf σ ↔ .log l ∈ σ ∧ l.addr.isNone = true :=
  mem_filterMap_log (·.addr.isNone)

omit [DecidableEq K] in
theorem mem_cwesOf {w : Cwe K I} {σ : List (Msg K I)} : w ∈ cwesOf σ ↔ .cwe w ∈ σ := by
  simp only [cwesOf, List.mem_filterMap]
  constructor
  · rintro ⟨_ | _ | _, hm, h⟩ <;> cases h
    exact hm
  · exact fun hm => ⟨_, hm, rfl⟩

theorem recvLoop_eq (s : State K I) (σ : List (Msg K I)) :
    recvLoop s σ =
      if (cwesOf (pre σ)).all (fun w => !w.addrs.isEmpty) then
        some ⟨(keyedLogsOf (pre σ)).foldl (insertBy (·.addr)) s.logsWithAddress,
              s.generalLogs ++ generalOf (pre σ),
              (cwesOf (pre σ)).foldl (insertBy Cwe.key) s.collectedCwes⟩
      else none := by
  induction σ generalizing s with
  | nil => exact congrArg some (congrArg (State.mk _ · _) (List.append_nil _).symm)
  | cons m σ ih =>
    -- on a known head, `recvLoop`, `pre`, the three filters and one `foldl` step all unfold by `rfl`
    match m with
    | .terminate => exact congrArg some (congrArg (State.mk _ · _) (List.append_nil _).symm)
    | .log ⟨_, some _⟩ => exact ih _
    | .log ⟨_, none⟩ =>
      refine (ih _).trans ?_
      simp only [List.append_assoc]
      rfl
    | .cwe ⟨_, []⟩ => rfl
    | .cwe ⟨_, _ :: _⟩ => exact ih _

section Collector
variable (leL : Log K I → Log K I → Bool) (leC : Cwe K I → Cwe K I → Bool)
variable {σ : List (Msg K I)} {logs : List (Log K I)} {cwes : List (Cwe K I)}

theorem collector_eq (σ : List (Msg K I)) :
    collector leL leC σ =
      if (cwesOf (pre σ)).all (fun w => !w.addrs.isEmpty) then
        some (values leL ((keyedLogsOf (pre σ)).foldl (insertBy (·.addr)) []) ++ generalOf (pre σ),
              values leC ((cwesOf (pre σ)).foldl (insertBy Cwe.key) []))
      else none := by
  rw [collector, recvLoop_eq]
  split <;> rfl

/-- **C25-total.** The collector returns a result (does not hit its `panic!`) iff every warning
received before `Terminate` has at least one address. -/
theorem collector_isSome_iff (σ : List (Msg K I)) :
    (collector leL leC σ).isSome = true ↔ ∀ w ∈ cwesOf (pre σ), w.addrs ≠ [] := by
  have h : (cwesOf (pre σ)).all (fun w => !w.addrs.isEmpty) = true ↔ ∀ w ∈ cwesOf (pre σ), w.addrs ≠ [] := by
    simp
  rw [collector_eq, ← h]
  cases List.all _ _ <;> simp

theorem collector_some (h : collector leL leC σ = some (logs, cwes)) :
    logs = values leL ((keyedLogsOf (pre σ)).foldl (insertBy (·.addr)) []) ++ generalOf (pre σ)
    ∧ cwes = values leC ((cwesOf (pre σ)).foldl (insertBy Cwe.key) []) := by
  rw [collector_eq] at h
  split at h <;> cases h
  exact ⟨rfl, rfl⟩

theorem keyed_part_isSome (x : Log K I)
    (hx : x ∈ values leL ((keyedLogsOf (pre σ)).foldl (insertBy (·.addr)) [])) : x.addr.isSome = true :=
  (mem_keyedLogsOf.mp ((mem_values_foldl _ _ _ _).mp hx).mem).2

/-- **C25-order.** The address-less logs in the result are exactly the address-less logs received
before `Terminate`, in the order in which they were received (none lost, none invented). -/
theorem general_logs_in_send_order (h : collector leL leC σ = some (logs, cwes)) :
    logs.filter (fun l => l.addr.isNone) = generalOf (pre σ) := by
  rw [(collector_some leL leC h).1, List.filter_append, List.filter_eq_self.mpr fun x hx => (mem_generalOf.mp hx).2,
    List.filter_eq_nil_iff.mpr, List.nil_append]
  intro x hx
  simp [Option.isSome_iff_ne_none.mp (keyed_part_isSome leL x hx)]

theorem located_logs_eq (h : collector leL leC σ = some (logs, cwes)) :
    logs.filter (fun l => l.addr.isSome) = values leL ((keyedLogsOf (pre σ)).foldl (insertBy (·.addr)) []) := by
  rw [(collector_some leL leC h).1, List.filter_append, List.filter_eq_self.mpr (keyed_part_isSome leL),
    List.filter_eq_nil_iff.mpr, List.append_nil]
  intro x hx
  simp [Option.isNone_iff_eq_none.mp (mem_generalOf.mp hx).2]

/-- **C25-logs.** A log with a location is in the result iff it is the last log received for its
address before `Terminate`. -/
theorem located_log_mem_iff (h : collector leL leC σ = some (logs, cwes)) (l : Log K I)
    (hl : l.addr.isSome = true) :
    l ∈ logs ↔ LastOf (·.addr) l (keyedLogsOf (pre σ)) := by
  have : l ∈ logs ↔ l ∈ logs.filter (fun l => l.addr.isSome) := by simp [hl]
  rw [this, located_logs_eq leL leC h, mem_values_foldl]

/-- **C25-warnings.** A warning is in the result iff it is the last warning received for its
(first) address before `Terminate`… -/
theorem cwe_mem_iff (h : collector leL leC σ = some (logs, cwes)) (w : Cwe K I) :
    w ∈ cwes ↔ LastOf Cwe.key w (cwesOf (pre σ)) := by
  rw [(collector_some leL leC h).2, mem_values_foldl]

/-- …and there is exactly one warning per address in the result ("exactly the last warning"). -/
theorem cwe_keys_nodup (h : collector leL leC σ = some (logs, cwes)) : (cwes.map Cwe.key).Nodup := by
  rw [(collector_some leL leC h).2]
  exact nodup_values_foldl _ _ _

theorem located_log_keys_nodup (h : collector leL leC σ = some (logs, cwes)) :
    ((logs.filter (fun l => l.addr.isSome)).map (·.addr)).Nodup := by
  rw [located_logs_eq leL leC h]
  exact nodup_values_foldl _ _ _

/-- what "returned" means for a message, `rcv` being the messages received before collection was
requested -/
def Delivered (rcv : List (Msg K I)) (logs : List (Log K I)) (cwes : List (Cwe K I)) : Msg K I → Prop
  | .log l =>
    match l.addr with
    | none => l ∈ logs
    | some _ => ∃ l' ∈ logs, l'.addr = l.addr ∧ LastOf (·.addr) l' (keyedLogsOf rcv)
  | .cwe w => ∃ w' ∈ cwes, w'.key = w.key ∧ LastOf Cwe.key w' (cwesOf rcv)
  | .terminate => True

/-- **C25-delivery.** Every message received before `Terminate` is returned: an address-less log
itself; a located log or a warning itself or — if later messages for the same address were
received — the last of those. Nothing is lost. -/
theorem delivered_or_superseded (h : collector leL leC σ = some (logs, cwes)) (m : Msg K I)
    (hm : m ∈ pre σ) : Delivered (pre σ) logs cwes m := by
  match m with
  | .terminate => trivial
  | .cwe w =>
    obtain ⟨w', hk, hlast⟩ := exists_lastOf Cwe.key (mem_cwesOf.mpr hm)
    exact ⟨w', (cwe_mem_iff leL leC h w').mpr hlast, hk, hlast⟩
  | .log ⟨i, none⟩ =>
    have hg := mem_generalOf.mpr ⟨hm, rfl⟩
    rw [← general_logs_in_send_order leL leC h] at hg
    exact (List.mem_filter.mp hg).1
  | .log ⟨i, some a⟩ =>
    obtain ⟨l', hkey, hlast⟩ := exists_lastOf (·.addr) (mem_keyedLogsOf.mpr ⟨hm, rfl⟩)
    exact ⟨l', (located_log_mem_iff leL leC h l' (mem_keyedLogsOf.mp hlast.mem).2).mpr hlast, hkey, hlast⟩

end Collector

section Interleave
variable {α : Type}

theorem Interleave.perm {hs : List (List α)} {σ : List α} (hi : Interleave hs σ) : σ.Perm hs.flatten := by
  induction hi with
  | done hall => rw [List.flatten_eq_nil_iff.mpr hall]
  | step _ ih =>
    simp only [List.flatten_append, List.flatten_cons, List.cons_append] at ih ⊢
    exact (ih.cons _).trans List.perm_middle.symm

theorem Interleave.sublist {hs : List (List α)} {σ : List α} (hi : Interleave hs σ) :
    ∀ h ∈ hs, h.Sublist σ := by
  induction hi with
  | done hall => intro h hh; rw [hall h hh]; exact List.nil_sublist _
  | @step p q t x σ _ ih =>
    intro h hh
    rcases List.mem_append.mp hh with hp | hq
    · exact (ih h (List.mem_append_left _ hp)).cons _
    · rcases List.mem_cons.mp hq with rfl | hq'
      · exact (ih t (List.mem_append_right _ (List.mem_cons_self ..))).cons_cons _
      · exact (ih h (List.mem_append_right _ (List.mem_cons_of_mem _ hq'))).cons _

theorem Interleave.mem_iff {hs : List (List α)} {σ : List α} (hi : Interleave hs σ) (m : α) :
    m ∈ σ ↔ ∃ h ∈ hs, m ∈ h := by
  rw [hi.perm.mem_iff, List.mem_flatten]

theorem popHead_some [DecidableEq α] {x : α} {hs hs' : List (List α)} (h : popHead x hs = some hs') :
    ∃ p t q, hs = p ++ (x :: t) :: q ∧ hs' = p ++ t :: q := by
  induction hs generalizing hs' with
  | nil => simp [popHead] at h
  | cons a hs ih =>
    cases a with
    | nil =>
      simp only [popHead, Option.map_eq_some_iff] at h
      obtain ⟨r, hr, rfl⟩ := h
      obtain ⟨p, t, q, rfl, rfl⟩ := ih hr
      exact ⟨[] :: p, t, q, rfl, rfl⟩
    | cons y t =>
      simp only [popHead] at h
      split at h
      · rename_i hy
        subst hy
        simp only [Option.some.injEq] at h
        exact ⟨[], t, hs, rfl, h.symm⟩
      · simp only [Option.map_eq_some_iff] at h
        obtain ⟨r, hr, rfl⟩ := h
        obtain ⟨p, t', q, rfl, rfl⟩ := ih hr
        exact ⟨(y :: t) :: p, t', q, rfl, rfl⟩

theorem isInterleaveB_sound [DecidableEq α] (hs : List (List α)) (σ : List α)
    (h : isInterleaveB hs σ = true) : Interleave hs σ := by
  induction σ generalizing hs with
  | nil =>
    simp only [isInterleaveB, List.all_eq_true, List.isEmpty_iff] at h
    exact Interleave.done h
  | cons x σ ih =>
    simp only [isInterleaveB] at h
    split at h
    · rename_i hs' hp
      obtain ⟨p, t, q, rfl, rfl⟩ := popHead_some hp
      exact Interleave.step (ih _ h)
    · cases h

theorem popAt_some [DecidableEq α] {x : α} {i : Nat} {hs hs' : List (List α)} (h : popAt x i hs = some hs') :
    ∃ p t q, hs = p ++ (x :: t) :: q ∧ hs' = p ++ t :: q := by
  induction hs generalizing i hs' with
  | nil => simp [popAt] at h
  | cons a hs ih =>
    cases i with
    | zero =>
      cases a with
      | nil => simp [popAt] at h
      | cons y t =>
        simp only [popAt] at h
        split at h
        · rename_i hy
          subst hy
          simp only [Option.some.injEq] at h
          exact ⟨[], t, hs, rfl, h.symm⟩
        · cases h
    | succ i =>
      simp only [popAt, Option.map_eq_some_iff] at h
      obtain ⟨r, hr, rfl⟩ := h
      obtain ⟨p, t, q, rfl, rfl⟩ := ih hr
      exact ⟨a :: p, t, q, rfl, rfl⟩

theorem isInterleaveIdxB_sound [DecidableEq α] (hs : List (List α)) (σ : List (Nat × α))
    (h : isInterleaveIdxB hs σ = true) : Interleave hs (σ.map (·.2)) := by
  induction σ generalizing hs with
  | nil =>
    simp only [isInterleaveIdxB, List.all_eq_true, List.isEmpty_iff] at h
    exact Interleave.done h
  | cons ix σ ih =>
    obtain ⟨i, x⟩ := ix
    simp only [isInterleaveIdxB] at h
    split at h
    · rename_i hs' hp
      obtain ⟨p, t, q, rfl, rfl⟩ := popAt_some hp
      exact Interleave.step (ih _ h)
    · cases h

end Interleave

omit [DecidableEq K] in
theorem pre_append_terminate (τ rest : List (Msg K I)) (hτ : ∀ m ∈ τ, m.isTerminate = false) :
    pre (τ ++ Msg.terminate :: rest) = τ := by
  rw [pre, List.takeWhile_append_of_pos (by simpa using hτ)]
  exact List.append_nil τ

section Threads
variable (leL : Log K I → Log K I → Bool) (leC : Cwe K I → Cwe K I → Bool)
variable {hs : List (List (Msg K I))} {τ rest : List (Msg K I)}
variable {logs : List (Log K I)} {cwes : List (Cwe K I)}

/-- **C25-threads.** Sending threads with histories `hs` (log messages and warnings), ANY
interleaving `τ` of them in the channel, all sends completed before collection is requested
(`Terminate` comes after `τ`; `rest` = whatever is sent later). Then
 (1) every message of every thread is returned (itself, or the last message for its address),
 (2) each thread's address-less logs appear in the result in the order the thread sent them, and
     the address-less logs of the result are exactly those of `τ` in channel order,
 (3) a warning is kept iff it is the last one in `τ` for its address, one warning per address. -/
theorem threads_property (hnt : ∀ h ∈ hs, ∀ m ∈ h, m.isTerminate = false)
    (hi : Interleave hs τ) (hc : collector leL leC (τ ++ Msg.terminate :: rest) = some (logs, cwes)) :
    (∀ h ∈ hs, ∀ m ∈ h, Delivered τ logs cwes m)
    ∧ (∀ h ∈ hs, (generalOf h).Sublist logs) ∧ logs.filter (fun l => l.addr.isNone) = generalOf τ
    ∧ (∀ w, w ∈ cwes ↔ LastOf Cwe.key w (cwesOf τ)) ∧ (cwes.map Cwe.key).Nodup := by
  have hpre : pre (τ ++ Msg.terminate :: rest) = τ :=
    pre_append_terminate τ rest fun m hm => let ⟨h, hh, hmh⟩ := (hi.mem_iff m).mp hm; hnt h hh m hmh
  have hdel := delivered_or_superseded leL leC hc
  have hord := general_logs_in_send_order leL leC hc
  have hcwe := cwe_mem_iff leL leC hc
  rw [hpre] at hdel hord hcwe
  refine ⟨fun h hh m hm => hdel m ((hi.mem_iff m).mpr ⟨h, hh, hm⟩), fun h hh => ?_, hord, hcwe, cwe_keys_nodup leL leC hc⟩
  have h1 : (generalOf h).Sublist (generalOf τ) := (hi.sublist h hh).filterMap _
  rw [← hord] at h1
  exact h1.trans List.filter_sublist

/-- A `Terminate` inside a history only shortens what the collector reads of `τ`. -/
theorem interleaving_no_panic (haddr : ∀ h ∈ hs, ∀ w ∈ cwesOf h, w.addrs ≠ [])
    (hi : Interleave hs τ) : (collector leL leC (τ ++ Msg.terminate :: rest)).isSome = true := by
  have hpre : ∀ m ∈ pre (τ ++ Msg.terminate :: rest), m ∈ τ := fun m hm => by
    rw [pre, List.takeWhile_append] at hm
    split at hm
    · simpa [Msg.isTerminate] using hm
    · exact (List.takeWhile_sublist _).subset hm
  rw [collector_isSome_iff]
  intro w hw
  obtain ⟨h, hh, hmh⟩ := (hi.mem_iff _).mp (hpre _ (mem_cwesOf.mp hw))
  exact haddr h hh w (mem_cwesOf.mpr hmh)

theorem threads_no_panic (hnt : ∀ h ∈ hs, ∀ m ∈ h, m.isTerminate = false)
    (haddr : ∀ h ∈ hs, ∀ w ∈ cwesOf h, w.addrs ≠ [])
    (hi : Interleave hs τ) : (collector leL leC (τ ++ Msg.terminate :: rest)).isSome = true :=
  interleaving_no_panic leL leC haddr hi

end Threads

section Examples
abbrev L' := Log Nat Nat
abbrev M' := Msg Nat Nat

def leL' (a b : L') : Bool := decide (a.addr.getD 0 ≤ b.addr.getD 0)
def leC' (a b : Cwe Nat Nat) : Bool := decide (a.key.getD 0 ≤ b.key.getD 0)

def th1 : List M' := [.log ⟨1, none⟩, .cwe ⟨2, [7, 8]⟩, .log ⟨3, none⟩]
def th2 : List M' := [.cwe ⟨4, [7]⟩, .log ⟨5, some 9⟩, .log ⟨6, some 9⟩]
def tau : List M' := [.cwe ⟨4, [7]⟩, .log ⟨1, none⟩, .log ⟨5, some 9⟩, .cwe ⟨2, [7, 8]⟩, .log ⟨6, some 9⟩, .log ⟨3, none⟩]

example : Interleave [th1, th2] tau := isInterleaveB_sound _ _ (by decide +kernel)
example : ∀ h ∈ [th1, th2], ∀ m ∈ h, m.isTerminate = false := by decide +kernel
example : collector leL' leC' (tau ++ Msg.terminate :: [.log ⟨99, none⟩])
    = some ([⟨6, some 9⟩, ⟨1, none⟩, ⟨3, none⟩], [⟨2, [7, 8]⟩]) := by
  decide +kernel
example : LastOf Cwe.key (⟨2, [7, 8]⟩ : Cwe Nat Nat) (cwesOf tau) :=
  (lastOfB_iff _ _ _).mp (by decide +kernel)

end Examples

end CweModel.C25
