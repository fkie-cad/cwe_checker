/-
C03 — the interface every abstract value kind is seen through (`AbstractDomain` + `HasTop` of
`src/cwe_checker_lib/src/abstract_domain/mod.rs`) and the three merge laws of the property, stated
once for an arbitrary kind.

`Dom V C` is the *executable* part: `merge`, `mergeWith` (`merge_with`), `isTop`, `top`
(`HasTop::top(&self)`) and a decidable concretisation `mem v c` ("the concrete value `c` is
represented by `v`"). The driver executes exactly these records on the implementation outputs.

`Laws D wf G` is the *proved* part for the values satisfying `wf` (the values "of the same kind":
same byte size, well-formed interval, ...), `G` being the set represented by the kind's `Top`
element (which need not be everything: `DataDomain`, `Taint`).

`Joins A B R` is laws 1 and 2 for three readings `A`, `B`, `R : C → Prop`. A kind satisfying `Laws`
joins its values (`Laws.joins`); the containers are proved to join what they say about one key
(`Maps.lean`), one component (`Data.lean`) or one slot (`MemRegion.lean`), and the literal form of
law 2 follows once (`Joins.absorb_merged`).
-/
namespace CweModel.C03

structure Dom (V C : Type) where
  /-- decidable concretisation -/
  mem : V → C → Bool
  /-- `AbstractDomain::merge` -/
  merge : V → V → V
  /-- `AbstractDomain::merge_with` (result value of the in-place update) -/
  mergeWith : V → V → V
  /-- `AbstractDomain::is_top` -/
  isTop : V → Bool
  /-- `HasTop::top(&self)` -/
  top : V → V

/-- the default body of `AbstractDomain::merge_with`:
`if self != other { *self = self.merge(other) }` -/
def defaultMergeWith {V : Type} [DecidableEq V] (merge : V → V → V) (a b : V) : V :=
  if a = b then a else merge a b

variable {V C : Type}

def Dom.γ (D : Dom V C) (v : V) (c : C) : Prop := D.mem v c = true

instance (D : Dom V C) (v : V) (c : C) : Decidable (D.γ v c) :=
  inferInstanceAs (Decidable (D.mem v c = true))

def Dom.le (D : Dom V C) (b a : V) : Prop := ∀ c, D.γ b c → D.γ a c

def Dom.eqv (D : Dom V C) (a b : V) : Prop := ∀ c, D.γ a c ↔ D.γ b c

/-- The laws of property C03 for one kind of abstract value.

* `sound_l/sound_r`: every concrete value represented by either input is represented by the merge.
* `absorb`: merging a value with something it already absorbed (`γ b ⊆ γ a`) does not enlarge
  its represented set. (The literal form `γ (merge (merge a b) b) = γ (merge a b)` and
  `γ (merge a a) = γ a` are the derived theorems `Laws.absorb_merged`, `Laws.idem` below.)
* `mergeWith_eqv`: `merge_with` represents the same set as `merge`.
* `isTop_γ`, `top_γ`: all `Top` elements of the kind represent the same set `G`. -/
structure Laws (D : Dom V C) (wf : V → Prop) (G : C → Prop) : Prop where
  merge_wf : ∀ {a b}, wf a → wf b → wf (D.merge a b)
  mergeWith_wf : ∀ {a b}, wf a → wf b → wf (D.mergeWith a b)
  top_wf : ∀ {a}, wf a → wf (D.top a)
  sound_l : ∀ {a b}, wf a → wf b → D.le a (D.merge a b)
  sound_r : ∀ {a b}, wf a → wf b → D.le b (D.merge a b)
  absorb : ∀ {a b}, wf a → wf b → D.le b a → D.eqv (D.merge a b) a
  mergeWith_eqv : ∀ {a b}, wf a → wf b → D.eqv (D.mergeWith a b) (D.merge a b)
  isTop_γ : ∀ {a}, wf a → D.isTop a = true → ∀ c, D.γ a c ↔ G c
  top_γ : ∀ {a}, wf a → ∀ c, D.γ (D.top a) c ↔ G c

def Joins (A B R : C → Prop) : Prop :=
  (∀ c, A c ∨ B c → R c) ∧ ((∀ c, B c → A c) → ∀ c, R c ↔ A c)

theorem Joins.of_ge {A B : C → Prop} (h : ∀ c, B c → A c) : Joins A B A :=
  ⟨fun c hc => hc.elim id (h c), fun _ _ => Iff.rfl⟩

theorem Joins.of_le {A B : C → Prop} (h : ∀ c, A c → B c) : Joins A B B :=
  ⟨fun c hc => hc.elim (h c) id, fun h' c => ⟨h' c, h c⟩⟩

theorem Joins.congr {A A' B B' R R' : C → Prop} (h : Joins A B R) (hA : ∀ c, A c ↔ A' c)
    (hB : ∀ c, B c ↔ B' c) (hR : ∀ c, R c ↔ R' c) : Joins A' B' R' :=
  ⟨fun c hc => (hR c).mp (h.1 c (hc.imp (hA c).mpr (hB c).mpr)),
   fun hle c => ((hR c).symm.trans (h.2 (fun c hc => (hA c).mpr (hle c ((hB c).mp hc))) c)).trans (hA c)⟩

theorem Joins.absorb_merged {A B R R' : C → Prop} (h : Joins A B R) (h' : Joins R B R') (c : C) :
    R' c ↔ R c :=
  h'.2 (fun c hc => h.1 c (.inr hc)) c

namespace Laws
variable {D : Dom V C} {wf : V → Prop} {G : C → Prop}

theorem eqv_refl (D : Dom V C) (a : V) : D.eqv a a := fun _ => Iff.rfl
theorem eqv_symm {a b : V} (h : D.eqv a b) : D.eqv b a := fun c => (h c).symm
theorem le_refl (D : Dom V C) (a : V) : D.le a a := fun _ h => h
theorem le_trans {a b c : V} (h₁ : D.le a b) (h₂ : D.le b c) : D.le a c := fun x h => h₂ x (h₁ x h)
theorem le_of_eqv {a b : V} (h : D.eqv a b) : D.le a b := fun c => (h c).mp
theorem ge_of_eqv {a b : V} (h : D.eqv a b) : D.le b a := fun c => (h c).mpr

/-- **C03 law 3 (generic).** merging a value with itself represents the same set -/
theorem idem (L : Laws D wf G) {a : V} (ha : wf a) : D.eqv (D.merge a a) a :=
  L.absorb ha ha (le_refl D a)

/-- **C03 law 2, literal form (generic).** an input that was already merged in does not enlarge
the represented set when it is merged in again -/
theorem absorb_merged (L : Laws D wf G) {a b : V} (ha : wf a) (hb : wf b) :
    D.eqv (D.merge (D.merge a b) b) (D.merge a b) :=
  L.absorb (L.merge_wf ha hb) hb (L.sound_r ha hb)

theorem absorb_merged_left (L : Laws D wf G) {a b : V} (ha : wf a) (hb : wf b) :
    D.eqv (D.merge (D.merge a b) a) (D.merge a b) :=
  L.absorb (L.merge_wf ha hb) ha (L.sound_l ha hb)

theorem joins (L : Laws D wf G) {a b : V} (ha : wf a) (hb : wf b) :
    Joins (D.γ a) (D.γ b) (D.γ (D.merge a b)) :=
  ⟨fun c h => h.elim (L.sound_l ha hb c) (L.sound_r ha hb c), L.absorb ha hb⟩

theorem mw_joins (L : Laws D wf G) {a b : V} (ha : wf a) (hb : wf b) :
    Joins (D.γ a) (D.γ b) (D.γ (D.mergeWith a b)) :=
  (L.joins ha hb).congr (fun _ => Iff.rfl) (fun _ => Iff.rfl) fun c => (L.mergeWith_eqv ha hb c).symm

end Laws

theorem defaultMergeWith_wf [DecidableEq V] {wf : V → Prop} {merge : V → V → V} {a b : V} (ha : wf a)
    (hm : wf (merge a b)) : wf (defaultMergeWith merge a b) := by
  unfold defaultMergeWith; split
  · exact ha
  · exact hm

theorem defaultMergeWith_eqv [DecidableEq V] (D : Dom V C) (a b : V)
    (hmw : D.mergeWith = defaultMergeWith D.merge) (hidem : D.eqv (D.merge a a) a) :
    D.eqv (D.mergeWith a b) (D.merge a b) := by
  rw [hmw]; unfold defaultMergeWith
  by_cases h : a = b
  · subst h; simp only [if_true]; exact Laws.eqv_symm hidem
  · simp only [h, if_false]; exact Laws.eqv_refl D _

end CweModel.C03
