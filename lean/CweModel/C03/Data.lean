/-
C03 — `DataDomain<T>` (`src/cwe_checker_lib/src/abstract_domain/data.rs`, `data/trait_impl.rs`):
relative targets `id ↦ offset : T`, an optional absolute value `: T`, and the
`contains_top_values` flag. Generic over the offset/value kind `T` (`IntervalDomain`,
`BitvectorDomain`).

Concretisation. A `DataDomain` represents *tagged* values (`Sym`): "offset `o` relative to the
object `id`", "absolute value `c`", or "a value of unknown origin". A set flag
(`contains_top_values`) means that anything may be represented. `DataDom.γρ` is the derived
concretisation under a valuation `ρ` of the identifiers (`id ↦ base address`): the plain values
`ρ id + o`, `c`, or anything. All laws transfer from the tagged to the valuated reading because the
latter is a monotone image of the former.
-/
import CweModel.C03.Dom
import CweModel.C03.AList

namespace CweModel.C03

/-- `struct DataDomain<T> { size, relative_values: BTreeMap<AbstractIdentifier, T>, absolute_value: Option<T>, contains_top_values }`.
Identifiers are numbered by their `Ord` position. -/
structure DataDom (T : Type) where
  size : Nat
  rel : AList T
  abs : Option T
  top : Bool
deriving DecidableEq, Repr

inductive Sym (C : Type) where
  | rel (id : Int) (off : C)
  | abs (c : C)
  | top
deriving DecidableEq, Repr

variable {T C : Type}

/-- loop body of the `relative_values` merge:
`entry(id).and_modify(|offset| *offset = offset.merge(offset_other)).or_insert_with(|| offset_other.clone())` -/
def combRel (D : Dom T C) (_k : Int) : Option T → Option T → Option T
  | some v, some w => some (D.merge v w)
  | some v, none => some v
  | none, some w => some w
  | none, none => none

/-- the `absolute_value` match of `DataDomain::merge` -/
def mergeAbs (D : Dom T C) : Option T → Option T → Option T
  | some l, some r => some (D.merge l r)
  | some v, none => some v
  | none, some v => some v
  | none, none => none

def optMem (D : Dom T C) : Option T → C → Bool
  | some t, c => D.mem t c
  | none, _ => false

namespace DataDom

/-- `AbstractDomain::merge` of `DataDomain<T>` -/
def merge (D : Dom T C) (a b : DataDom T) : DataDom T where
  size := a.size
  rel := mergeBy (combRel D) a.rel b.rel
  abs := mergeAbs D a.abs b.abs
  top := a.top || b.top

/-- `is_top`: `relative_values.is_empty() && absolute_value.is_none() && contains_top_values` -/
def isTop (a : DataDom T) : Bool := a.rel.isEmpty && a.abs.isNone && a.top

/-- `HasTop::top` = `new_top(self.bytesize())` -/
def topOf (a : DataDom T) : DataDom T := { size := a.size, rel := [], abs := none, top := true }

def mem (D : Dom T C) (a : DataDom T) : Sym C → Bool
  | .rel id o => a.top || optMem D (a.rel.get id) o
  | .abs c => a.top || optMem D a.abs c
  | .top => a.top

def WF (wfT : T → Prop) (s : Nat) (a : DataDom T) : Prop :=
  a.size = s ∧ (∀ k t, a.rel.get k = some t → wfT t) ∧ (∀ t, a.abs = some t → wfT t)

end DataDom

/-- `DataDomain<T>` as a value kind (`merge_with` is the trait default) -/
def dataDom [DecidableEq T] (D : Dom T C) : Dom (DataDom T) (Sym C) where
  mem := DataDom.mem D
  merge := DataDom.merge D
  mergeWith := defaultMergeWith (DataDom.merge D)
  isTop := DataDom.isTop
  top := DataDom.topOf

section
variable {D : Dom T C} {wfT : T → Prop} {GT : C → Prop}

theorem combRel_eq (D : Dom T C) (k : Int) (ov ow : Option T) : combRel D k ov ow = mergeAbs D ov ow := by
  cases ov <;> cases ow <;> rfl

theorem get_merge_rel (D : Dom T C) (a b : DataDom T) (k : Int) :
    (DataDom.merge D a b).rel.get k = mergeAbs D (a.rel.get k) (b.rel.get k) :=
  (get_mergeBy (combRel D) (fun _ => rfl) a.rel b.rel k).trans (combRel_eq D k _ _)

/-- an absent component represents nothing, so the present one is the merge -/
theorem mergeAbs_joins (L : Laws D wfT GT) {ov ow : Option T} (hv : ∀ v, ov = some v → wfT v)
    (hw : ∀ w, ow = some w → wfT w) :
    Joins (optMem D ov · = true) (optMem D ow · = true) (optMem D (mergeAbs D ov ow) · = true) := by
  cases ov <;> cases ow
  · exact Joins.of_ge fun _ => id
  · exact Joins.of_le fun _ h => nomatch h
  · exact Joins.of_ge fun _ h => nomatch h
  · exact L.joins (hv _ rfl) (hw _ rfl)

theorem comp_wf (L : Laws D wfT GT) {ov ow : Option T} (hv : ∀ v, ov = some v → wfT v)
    (hw : ∀ w, ow = some w → wfT w) (u : T) (hu : mergeAbs D ov ow = some u) : wfT u := by
  cases ov <;> cases ow
  · cases hu
  · exact hw u hu
  · exact hv u hu
  · exact Option.some.inj hu ▸ L.merge_wf (hv _ rfl) (hw _ rfl)

theorem DataDom.merge_wf (L : Laws D wfT GT) {s : Nat} {a b : DataDom T}
    (ha : DataDom.WF wfT s a) (hb : DataDom.WF wfT s b) : DataDom.WF wfT s (DataDom.merge D a b) :=
  ⟨ha.1, fun k t ht => comp_wf L (ha.2.1 k) (hb.2.1 k) t (get_merge_rel D a b k ▸ ht),
    comp_wf L ha.2.2 hb.2.2⟩

/-- membership in one of the components (a relative target or the absolute value), the part of
`DataDom.mem` next to the top flag -/
def DataDom.compMem (D : Dom T C) (a : DataDom T) : Sym C → Bool
  | .rel id o => optMem D (a.rel.get id) o
  | .abs c => optMem D a.abs c
  | .top => false

theorem DataDom.mem_eq (D : Dom T C) (a : DataDom T) (x : Sym C) :
    DataDom.mem D a x = (a.top || DataDom.compMem D a x) := by
  cases x <;> simp [DataDom.mem, DataDom.compMem]

theorem DataDom.mem_of_top (D : Dom T C) {a : DataDom T} (h : a.top = true) (x : Sym C) :
    DataDom.mem D a x = true := by
  rw [DataDom.mem_eq, h]; rfl

theorem DataDom.compMem_joins (L : Laws D wfT GT) {s : Nat} {a b : DataDom T}
    (ha : DataDom.WF wfT s a) (hb : DataDom.WF wfT s b) :
    Joins (DataDom.compMem D a · = true) (DataDom.compMem D b · = true)
      (DataDom.compMem D (DataDom.merge D a b) · = true) := by
  have hrel := fun id => get_merge_rel D a b id ▸ mergeAbs_joins L (ha.2.1 id) (hb.2.1 id)
  have habs := mergeAbs_joins L ha.2.2 hb.2.2
  refine ⟨fun x h => ?_, fun hle x => ?_⟩ <;> cases x
  · exact (hrel _).1 _ h
  · exact habs.1 _ h
  · exact h.elim id id
  · exact (hrel _).2 (fun c => hle (.rel _ c)) _
  · exact habs.2 (fun c => hle (.abs c)) _
  · exact Iff.rfl

/-- laws 1 and 2 for `DataDomain::merge`: the flags are or-ed, and a value whose flag is not set
absorbs only values whose flag is not set, where everything happens in the components -/
theorem DataDom.merge_joins (L : Laws D wfT GT) {s : Nat} {a b : DataDom T}
    (ha : DataDom.WF wfT s a) (hb : DataDom.WF wfT s b) :
    Joins (DataDom.mem D a · = true) (DataDom.mem D b · = true)
      (DataDom.mem D (DataDom.merge D a b) · = true) := by
  have hc := DataDom.compMem_joins L ha hb
  refine ⟨fun x h => ?_, fun hle x => ?_⟩
  · simp only [DataDom.mem_eq] at h ⊢
    show ((a.top || b.top) || _) = true
    simp only [Bool.or_eq_true] at h ⊢
    rcases h with (h | h) | (h | h)
    · exact .inl (.inl h)
    · exact .inr (hc.1 x (.inl h))
    · exact .inl (.inr h)
    · exact .inr (hc.1 x (.inr h))
  · simp only [DataDom.mem_eq] at hle ⊢
    show ((a.top || b.top) || _) = true ↔ _
    cases hat : a.top with
    | true => exact iff_of_true rfl rfl
    | false =>
      have hbt : b.top = false := Bool.eq_false_iff.mpr fun h => by simpa [hat, h, DataDom.compMem] using hle .top
      simp only [hat, hbt, Bool.false_or] at hle ⊢
      exact hc.2 hle x

theorem DataDom.merge_sound (L : Laws D wfT GT) {s : Nat} {a b : DataDom T}
    (ha : DataDom.WF wfT s a) (hb : DataDom.WF wfT s b) (x : Sym C)
    (h : DataDom.mem D a x = true ∨ DataDom.mem D b x = true) :
    DataDom.mem D (DataDom.merge D a b) x = true :=
  (DataDom.merge_joins L ha hb).1 x h

variable [DecidableEq T]

/-- **C03-data.** `DataDomain<T>` satisfies the merge laws on values of one byte size, for every
offset/value kind `T` that satisfies them: the merge contains both inputs (relative targets,
absolute values and the top flag), re-merging an absorbed value changes nothing, `merge a a`
represents what `a` represents, `merge_with` agrees with `merge`, and `is_top` values represent
everything. -/
theorem dataDom_laws (L : Laws D wfT GT) (s : Nat) :
    Laws (dataDom D) (DataDom.WF wfT s) (fun _ => True) where
  merge_wf := DataDom.merge_wf L
  mergeWith_wf := fun ha hb => defaultMergeWith_wf ha (DataDom.merge_wf L ha hb)
  top_wf := fun ha => ⟨ha.1, fun _ _ h => (by cases h), fun _ h => (by cases h)⟩
  sound_l := fun ha hb x hx => DataDom.merge_sound L ha hb x (.inl hx)
  sound_r := fun ha hb x hx => DataDom.merge_sound L ha hb x (.inr hx)
  absorb := fun ha hb => (DataDom.merge_joins L ha hb).2
  mergeWith_eqv := fun {a b} ha _ => defaultMergeWith_eqv (dataDom D) a b rfl
    ((DataDom.merge_joins L ha ha).2 fun _ h => h)
  isTop_γ := fun {a} _ ht x =>
    iff_of_true (DataDom.mem_of_top D (Bool.and_eq_true_iff.mp ht).2 x) trivial
  top_γ := fun _ x => iff_of_true (DataDom.mem_of_top D rfl x) trivial

/-- meaning of a tagged value under a valuation of the identifiers -/
def Sym.eval (add : C → C → C) (ρ : Int → C) : Sym C → C → Prop
  | .rel id o, x => x = add (ρ id) o
  | .abs c, x => x = c
  | .top, _ => True

def DataDom.γρ (D : Dom T C) (add : C → C → C) (ρ : Int → C) (a : DataDom T) (x : C) : Prop :=
  ∃ s, (dataDom D).γ a s ∧ Sym.eval add ρ s x

theorem DataDom.γρ_mono {a b : DataDom T} (h : (dataDom D).le a b) {add : C → C → C} {ρ : Int → C} {x : C} :
    DataDom.γρ D add ρ a x → DataDom.γρ D add ρ b x :=
  fun ⟨y, hy, he⟩ => ⟨y, h y hy, he⟩

theorem DataDom.γρ_congr {a b : DataDom T} (h : (dataDom D).eqv a b) {add : C → C → C} {ρ : Int → C} {x : C} :
    DataDom.γρ D add ρ a x ↔ DataDom.γρ D add ρ b x :=
  ⟨DataDom.γρ_mono (Laws.le_of_eqv h), DataDom.γρ_mono (Laws.ge_of_eqv h)⟩

/-- **C03-data-valuated (law 1).** `γρ a ∪ γρ b ⊆ γρ (merge a b)` for every valuation -/
theorem DataDom.γρ_sound (L : Laws D wfT GT) {s : Nat} {a b : DataDom T}
    (ha : DataDom.WF wfT s a) (hb : DataDom.WF wfT s b) (add : C → C → C) (ρ : Int → C) (x : C)
    (h : DataDom.γρ D add ρ a x ∨ DataDom.γρ D add ρ b x) :
    DataDom.γρ D add ρ (DataDom.merge D a b) x :=
  h.elim (DataDom.γρ_mono ((dataDom_laws L s).sound_l ha hb))
    (DataDom.γρ_mono ((dataDom_laws L s).sound_r ha hb))

/-- **C03-data-valuated (law 2).** `γρ (merge (merge a b) b) = γρ (merge a b)` -/
theorem DataDom.γρ_absorb_merged (L : Laws D wfT GT) {s : Nat} {a b : DataDom T}
    (ha : DataDom.WF wfT s a) (hb : DataDom.WF wfT s b) (add : C → C → C) (ρ : Int → C) (x : C) :
    DataDom.γρ D add ρ (DataDom.merge D (DataDom.merge D a b) b) x
      ↔ DataDom.γρ D add ρ (DataDom.merge D a b) x :=
  DataDom.γρ_congr ((dataDom_laws L s).absorb_merged ha hb)

/-- **C03-data-valuated (law 3).** `γρ (merge a a) = γρ a` -/
theorem DataDom.γρ_idem (L : Laws D wfT GT) {s : Nat} {a : DataDom T}
    (ha : DataDom.WF wfT s a) (add : C → C → C) (ρ : Int → C) (x : C) :
    DataDom.γρ D add ρ (DataDom.merge D a a) x ↔ DataDom.γρ D add ρ a x :=
  DataDom.γρ_congr ((dataDom_laws L s).idem ha)

theorem DataDom.γρ_top (add : C → C → C) (ρ : Int → C) {a : DataDom T} (h : a.top = true) (x : C) :
    DataDom.γρ D add ρ a x :=
  ⟨.top, h, trivial⟩

end

end CweModel.C03
