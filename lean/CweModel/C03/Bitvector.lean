/-
C03 — `BitvectorDomain` (`src/cwe_checker_lib/src/abstract_domain/bitvector.rs`):
`Top(bytesize)` or one known bit-vector.

Concrete values are pairs `(bytesize, value)`; "of the same kind" means "of the same byte size".
-/
import CweModel.C03.Dom

namespace CweModel.C03

/-- `enum BitvectorDomain { Top(ByteSize), Value(Bitvector) }`; a bit-vector is (bytes, unsigned value) -/
inductive BvDom where
  | top (bytes : Nat)
  | val (bytes : Nat) (v : Nat)
deriving DecidableEq, Repr

/-- a concrete bit-vector: (byte size, unsigned value) -/
abbrev Bv := Nat × Nat

namespace BvDom

/-- `SizedDomain::bytesize` -/
def bytesize : BvDom → Nat
  | top s => s
  | val s _ => s

/-- `HasTop::top` -/
def topOf (a : BvDom) : BvDom := .top a.bytesize

/-- `AbstractDomain::merge`: `if self == other { self.clone() } else { self.top() }` -/
def merge (a b : BvDom) : BvDom := if a = b then a else a.topOf

def isTop : BvDom → Bool
  | top _ => true
  | val _ _ => false

def mem : BvDom → Bv → Bool
  | top s, c => c.1 == s
  | val s v, c => c.1 == s && c.2 == v

end BvDom

/-- `BitvectorDomain` as a value kind (`merge_with` is the trait default) -/
def bvDom : Dom BvDom Bv where
  mem := BvDom.mem
  merge := BvDom.merge
  mergeWith := defaultMergeWith BvDom.merge
  isTop := BvDom.isTop
  top := BvDom.topOf

def BvDom.wf (s : Nat) (a : BvDom) : Prop := a.bytesize = s

/-- the set represented by `Top(s)`: all bit-vectors of `s` bytes -/
def bvTop (s : Nat) (c : Bv) : Prop := c.1 = s

theorem BvDom.mem_top_iff (a : BvDom) (c : Bv) : BvDom.mem a.topOf c = true ↔ c.1 = a.bytesize :=
  beq_iff_eq

theorem BvDom.mem_size {a : BvDom} {c : Bv} (h : BvDom.mem a c = true) : c.1 = a.bytesize := by
  cases a with
  | top s => exact beq_iff_eq.mp h
  | val s v => exact beq_iff_eq.mp (Bool.and_eq_true_iff.mp h).1

theorem BvDom.bytesize_merge (a b : BvDom) : (BvDom.merge a b).bytesize = a.bytesize := by
  unfold BvDom.merge; split <;> rfl

theorem BvDom.merge_self (a : BvDom) : BvDom.merge a a = a := if_pos rfl

theorem BvDom.merge_top (s : Nat) (b : BvDom) : BvDom.merge (.top s) b = .top s := by
  unfold BvDom.merge; split <;> rfl

theorem BvDom.mem_merge {a b : BvDom} (hs : b.bytesize = a.bytesize) {c : Bv}
    (h : BvDom.mem a c = true ∨ BvDom.mem b c = true) : BvDom.mem (BvDom.merge a b) c = true := by
  unfold BvDom.merge; split
  · next e => exact h.elim id (e ▸ id)
  · exact (BvDom.mem_top_iff a c).mpr (h.elim BvDom.mem_size fun h => (BvDom.mem_size h).trans hs)

theorem BvDom.eq_of_le_val {b : BvDom} {s v : Nat}
    (hle : ∀ c, BvDom.mem b c = true → BvDom.mem (.val s v) c = true) : b = .val s v := by
  cases b with
  | top sb => simpa [BvDom.mem] using hle (sb, v + 1) (by simp [BvDom.mem])
  | val sb vb =>
    have h := hle (sb, vb) (by simp [BvDom.mem])
    simp only [BvDom.mem, Bool.and_eq_true, beq_iff_eq] at h
    rw [h.1, h.2]

/-- **C03-bitvector.** `BitvectorDomain` satisfies the merge laws on values of one byte size:
the merge contains both inputs, re-merging an absorbed value changes nothing, `merge a a = a`,
`merge_with` agrees with `merge`. -/
theorem bvDom_laws (s : Nat) : Laws bvDom (BvDom.wf s) (bvTop s) where
  merge_wf := fun {a b} ha _ => (BvDom.bytesize_merge a b).trans ha
  mergeWith_wf := fun {a b} ha _ => defaultMergeWith_wf ha ((BvDom.bytesize_merge a b).trans ha)
  top_wf := fun ha => ha
  sound_l := fun ha hb c hc => BvDom.mem_merge (hb.trans ha.symm) (.inl hc)
  sound_r := fun ha hb c hc => BvDom.mem_merge (hb.trans ha.symm) (.inr hc)
  absorb := fun {a b} _ _ hle c => by
    show BvDom.mem (BvDom.merge a b) c = true ↔ BvDom.mem a c = true
    cases a with
    | top sa => rw [BvDom.merge_top]
    | val sa va => rw [BvDom.eq_of_le_val hle, BvDom.merge_self]
  mergeWith_eqv := fun {a b} _ _ =>
    defaultMergeWith_eqv bvDom a b rfl fun c => by
      show BvDom.mem (BvDom.merge a a) c = true ↔ BvDom.mem a c = true; rw [BvDom.merge_self]
  isTop_γ := fun {a} ha ht c => by
    cases a with
    | top sa => exact beq_iff_eq.trans (by rw [bvTop, ← ha]; rfl)
    | val _ _ => cases ht
  top_γ := fun {a} ha c => (BvDom.mem_top_iff a c).trans (by rw [bvTop, ha])

theorem bvDom_mergeWith_eq (a b : BvDom) : bvDom.mergeWith a b = bvDom.merge a b := by
  show defaultMergeWith BvDom.merge a b = BvDom.merge a b
  unfold defaultMergeWith; split
  · next h => rw [h, BvDom.merge_self]
  · rfl

/-- `Top` is maximal for this kind (needed by the Intersect strategy) -/
theorem bvTop_max (s : Nat) (a : BvDom) (ha : BvDom.wf s a) (c : Bv) (h : bvDom.γ a c) : bvTop s c := by
  rw [bvTop, ← ha]; exact BvDom.mem_size h

-- non-vacuity
example : BvDom.wf 1 (.val 1 7) ∧ BvDom.wf 1 (.val 1 9) := ⟨rfl, rfl⟩
example : BvDom.merge (.val 1 7) (.val 1 9) = .top 1 := by decide
example : bvDom.γ (BvDom.merge (.val 1 7) (.val 1 9)) (1, 9) := by decide

end CweModel.C03
