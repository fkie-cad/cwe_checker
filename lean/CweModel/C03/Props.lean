/-
C03 — property theorems. Statement of the property:

  For every pair of abstract values of the same kind (known-bitvector values, intervals with
  widening, pointer/value sets with offsets, taint values, keyed maps under each merge strategy,
  memory regions), every concrete value represented by either input is represented by their merge.
  Merging a value with something it already absorbed does not enlarge its represented set, and
  merging a value with itself represents the same set.

The laws are the structure `Laws` (Dom.lean), "already absorbed" in the inclusion form
`γ b ⊆ γ a → γ (merge a b) = γ a`; every kind of value and every container has its file. Here: the instances
obtained by composing them (`DataDomain` over each offset kind, maps and regions over each value kind) and
non-vacuity examples. Every instance that involves intervals carries the bound of `ivDom_laws_partial` on the
byte size (1 to 8).
-/
import CweModel.C03.Model

namespace CweModel.C03

/-- **C03-data-bitvector.** `DataDomain<BitvectorDomain>` of byte size `s` satisfies the laws. -/
theorem dataBv_laws (s : Nat) :
    Laws (dataDom bvDom) (DataDom.WF (BvDom.wf s) s) (fun _ => True) :=
  dataDom_laws (bvDom_laws s) s

/-- size expected at a key (any assignment of sizes to keys) -/
abbrev KeySizes := Int → Nat

/-- **C03-map-bitvector (law 1).** maps into `BitvectorDomain`, every strategy -/
theorem mapBv_sound (S : Strategy) (sz : KeySizes) {a b : AList BvDom}
    (ha : MapWF (fun k => BvDom.wf (sz k)) a) (hb : MapWF (fun k => BvDom.wf (sz k)) b)
    (k : Int) (c : Bv)
    (h : readKey S bvDom (bvTop (sz k)) (a.get k) c ∨ readKey S bvDom (bvTop (sz k)) (b.get k) c) :
    readKey S bvDom (bvTop (sz k)) ((mapMerge S bvDom a b).get k) c :=
  mapMerge_sound (fun k => bvDom_laws (sz k)) S (fun _ k v hv c hc => bvTop_max (sz k) v hv c hc)
    ha hb k c h

/-- **C03-map-bitvector (law 2).** -/
theorem mapBv_absorb_merged (S : Strategy) (sz : KeySizes) {a b : AList BvDom}
    (ha : MapWF (fun k => BvDom.wf (sz k)) a) (hb : MapWF (fun k => BvDom.wf (sz k)) b)
    (k : Int) (c : Bv) :
    readKey S bvDom (bvTop (sz k)) ((mapMerge S bvDom (mapMerge S bvDom a b) b).get k) c
      ↔ readKey S bvDom (bvTop (sz k)) ((mapMerge S bvDom a b).get k) c :=
  mapMerge_absorb_merged (fun k => bvDom_laws (sz k)) S
    (fun _ k v hv c hc => bvTop_max (sz k) v hv c hc) ha hb k c

/-- **C03-map-data (law 1).** maps into `DataDomain<BitvectorDomain>`, every strategy
(the test case of `domain_map.rs`) -/
theorem mapDataBv_sound (S : Strategy) (sz : KeySizes) {a b : AList (DataDom BvDom)}
    (ha : MapWF (fun k => DataDom.WF (BvDom.wf (sz k)) (sz k)) a)
    (hb : MapWF (fun k => DataDom.WF (BvDom.wf (sz k)) (sz k)) b) (k : Int) (c : Sym Bv)
    (h : readKey S (dataDom bvDom) (fun _ => True) (a.get k) c ∨
         readKey S (dataDom bvDom) (fun _ => True) (b.get k) c) :
    readKey S (dataDom bvDom) (fun _ => True) ((mapMerge S (dataDom bvDom) a b).get k) c :=
  mapMerge_sound (fun k => dataBv_laws (sz k)) S (fun _ _ _ _ _ _ => trivial) ha hb k c h

/-- **C03-map-data (law 2).** -/
theorem mapDataBv_absorb_merged (S : Strategy) (sz : KeySizes) {a b : AList (DataDom BvDom)}
    (ha : MapWF (fun k => DataDom.WF (BvDom.wf (sz k)) (sz k)) a)
    (hb : MapWF (fun k => DataDom.WF (BvDom.wf (sz k)) (sz k)) b) (k : Int) (c : Sym Bv) :
    readKey S (dataDom bvDom) (fun _ => True)
        ((mapMerge S (dataDom bvDom) (mapMerge S (dataDom bvDom) a b) b).get k) c
      ↔ readKey S (dataDom bvDom) (fun _ => True) ((mapMerge S (dataDom bvDom) a b).get k) c :=
  mapMerge_absorb_merged (fun k => dataBv_laws (sz k)) S (fun _ _ _ _ _ _ => trivial) ha hb k c

/-- **C03-map-taint (law 1).** maps into `Taint` under Union and MergeTop (`Top` = untainted is
not maximal, so the Intersect strategy's own precondition fails for this kind) -/
theorem mapTaint_sound (S : Strategy) (hS : S ≠ .intersect) (sz : KeySizes) {a b : AList Taint}
    (ha : MapWF (fun k => Taint.wf (sz k)) a) (hb : MapWF (fun k => Taint.wf (sz k)) b)
    (k : Int) (c : Nat × Bool)
    (h : readKey S taintDom (taintTop (sz k)) (a.get k) c ∨
         readKey S taintDom (taintTop (sz k)) (b.get k) c) :
    readKey S taintDom (taintTop (sz k)) ((mapMerge S taintDom a b).get k) c :=
  mapMerge_sound (fun k => taintDom_laws (sz k)) S (fun h => absurd h hS) ha hb k c h

open CweModel.Itv in
/-- **C03-data-interval.** `DataDomain<IntervalDomain>` (the value type of the pointer inference) -/
theorem dataIv_laws_partial (s : Nat) (hs1 : 1 ≤ s) (hs8 : s ≤ 8) :
    Laws (dataDom ivDom) (DataDom.WF (ivWF (8 * s)) s) (fun _ => True) :=
  dataDom_laws (ivDom_laws_partial s hs1 hs8) s

open CweModel.Itv in
/-- **C03-map-interval (law 1).** maps into `IntervalDomain`, every strategy; `sz k` is the byte
size of the values at key `k` -/
theorem mapIv_sound_partial (S : Strategy) (sz : KeySizes) (hsz : ∀ k, 1 ≤ sz k ∧ sz k ≤ 8)
    {a b : AList IntervalDomain} (ha : MapWF (fun k => ivWF (8 * sz k)) a)
    (hb : MapWF (fun k => ivWF (8 * sz k)) b) (k : Int) (x : Int)
    (h : readKey S ivDom (InRange (8 * sz k)) (a.get k) x ∨
         readKey S ivDom (InRange (8 * sz k)) (b.get k) x) :
    readKey S ivDom (InRange (8 * sz k)) ((mapMerge S ivDom a b).get k) x :=
  mapMerge_sound (fun k => ivDom_laws_partial (sz k) (hsz k).1 (hsz k).2) S
    (fun _ k v hv c hc => ivTop_max (8 * sz k) v hv c hc) ha hb k x h

open CweModel.Itv in
/-- **C03-map-interval (law 2).** -/
theorem mapIv_absorb_merged_partial (S : Strategy) (sz : KeySizes) (hsz : ∀ k, 1 ≤ sz k ∧ sz k ≤ 8)
    {a b : AList IntervalDomain} (ha : MapWF (fun k => ivWF (8 * sz k)) a)
    (hb : MapWF (fun k => ivWF (8 * sz k)) b) (k : Int) (x : Int) :
    readKey S ivDom (InRange (8 * sz k)) ((mapMerge S ivDom (mapMerge S ivDom a b) b).get k) x
      ↔ readKey S ivDom (InRange (8 * sz k)) ((mapMerge S ivDom a b).get k) x :=
  mapMerge_absorb_merged (fun k => ivDom_laws_partial (sz k) (hsz k).1 (hsz k).2) S
    (fun _ k v hv c hc => ivTop_max (8 * sz k) v hv c hc) ha hb k x

open CweModel.MemRegion

/-- `BitvectorDomain` with its size operations -/
def bvSized : SizedDom BvDom Bv := { bvDom with size := BvDom.bytesize, newTop := BvDom.top }

theorem bvSized_laws : SizedLaws bvSized (fun _ => True) BvDom.wf bvTop where
  laws := fun s _ => bvDom_laws s
  size_wf := fun h => h
  newTop_wf := fun _ _ => rfl
  newTop_γ := fun _ _ => beq_iff_eq
  top_max := fun {s v} hv c hc => bvTop_max s v hv c hc

theorem bvSized_lawful : @LawfulValueDomain BvDom bvSized.valueDomain :=
  @LawfulValueDomain.mk BvDom bvSized.valueDomain (fun _ => rfl) (fun _ => rfl) (fun _ => rfl)
    (fun a b _ => BvDom.bytesize_merge a b)

/-- **C03-memregion-bitvector (laws 1 and 2).** -/
theorem memBv_sound {a b : Region BvDom}
    (ha : RegionWF bvSized (fun _ => True) BvDom.wf a) (hb : RegionWF bvSized (fun _ => True) BvDom.wf b)
    (p : Int) (s : Nat) (c : Bv)
    (h : bvDom.γ (memGet bvSized a p s) c ∨ bvDom.γ (memGet bvSized b p s) c) :
    bvDom.γ (memGet bvSized (memMerge bvSized a b) p s) c :=
  memMerge_sound bvSized_laws ha hb p s trivial c h

theorem memBv_absorb_merged {a b : Region BvDom}
    (ha : RegionWF bvSized (fun _ => True) BvDom.wf a) (hb : RegionWF bvSized (fun _ => True) BvDom.wf b)
    (p : Int) (s : Nat) (c : Bv) :
    bvDom.γ (memGet bvSized (memMerge bvSized (memMerge bvSized a b) b) p s) c ↔
    bvDom.γ (memGet bvSized (memMerge bvSized a b) p s) c :=
  memMerge_absorb_merged bvSized_laws bvSized_lawful ha hb p s trivial c

open CweModel.Itv in
/-- `IntervalDomain` with its size operations (sizes in bytes) -/
def ivSized : SizedDom IntervalDomain Int :=
  { ivDom with size := ivBytes, newTop := fun s => IntervalDomain.newTop (8 * s) }

open CweModel.Itv in
theorem ivSized_laws_partial :
    SizedLaws ivSized (fun s => 1 ≤ s ∧ s ≤ 8) (fun s => ivWF (8 * s)) (fun s => InRange (8 * s)) where
  laws := fun s hs => ivDom_laws_partial s hs.1 hs.2
  size_wf := fun h => Nat.eq_of_mul_eq_mul_left (by decide) (ivWF_bytes h)
  newTop_wf := fun s hs => ivWF_newTop (by omega)
  newTop_γ := fun s c => (ivDom_γ _ c).trans (Interval.mem_newTop (8 * s) c)
  top_max := fun {s v} hv c hc => ivTop_max (8 * s) v hv c hc

open CweModel.Itv in
theorem ivSized_lawful : @LawfulValueDomain IntervalDomain ivSized.valueDomain :=
  @LawfulValueDomain.mk IntervalDomain ivSized.valueDomain
    (fun n => show (8 * n + 7) / 8 = n by omega)
    (fun n => isTop_newTop (8 * n))
    (fun _ => rfl)
    (fun a b _ => show ivBytes (signedMergeAndWiden a b) = ivBytes a by
      unfold ivBytes; rw [signedMergeAndWiden_w])

open CweModel.Itv in
/-- **C03-memregion-interval (laws 1 and 2, cells of 1..8 bytes).** -/
theorem memIv_sound_partial {a b : Region IntervalDomain}
    (ha : RegionWF ivSized (fun s => 1 ≤ s ∧ s ≤ 8) (fun s => ivWF (8 * s)) a)
    (hb : RegionWF ivSized (fun s => 1 ≤ s ∧ s ≤ 8) (fun s => ivWF (8 * s)) b)
    (p : Int) (s : Nat) (hs : 1 ≤ s ∧ s ≤ 8) (x : Int)
    (h : ivDom.γ (memGet ivSized a p s) x ∨ ivDom.γ (memGet ivSized b p s) x) :
    ivDom.γ (memGet ivSized (memMerge ivSized a b) p s) x :=
  memMerge_sound ivSized_laws_partial ha hb p s hs x h

open CweModel.Itv in
theorem memIv_absorb_merged_partial {a b : Region IntervalDomain}
    (ha : RegionWF ivSized (fun s => 1 ≤ s ∧ s ≤ 8) (fun s => ivWF (8 * s)) a)
    (hb : RegionWF ivSized (fun s => 1 ≤ s ∧ s ≤ 8) (fun s => ivWF (8 * s)) b)
    (p : Int) (s : Nat) (hs : 1 ≤ s ∧ s ≤ 8) (x : Int) :
    ivDom.γ (memGet ivSized (memMerge ivSized (memMerge ivSized a b) b) p s) x ↔
    ivDom.γ (memGet ivSized (memMerge ivSized a b) p s) x :=
  memMerge_absorb_merged ivSized_laws_partial ivSized_lawful ha hb p s hs x

/-- `DataDomain<T>` with its size operations -/
def dataSized {T C : Type} [DecidableEq T] (D : Dom T C) : SizedDom (DataDom T) (Sym C) :=
  { dataDom D with size := fun d => d.size, newTop := fun s => ⟨s, [], none, true⟩ }

theorem dataSized_laws {T C : Type} [DecidableEq T] {D : Dom T C} {valid : Nat → Prop}
    {wfT : Nat → T → Prop} {GT : Nat → C → Prop} (LT : ∀ s, valid s → Laws D (wfT s) (GT s)) :
    SizedLaws (dataSized D) valid (fun s => DataDom.WF (wfT s) s) (fun _ _ => True) where
  laws := fun s hs => dataDom_laws (LT s hs) s
  size_wf := fun h => h.1
  newTop_wf := fun s _ => ⟨rfl, fun _ _ h => (by cases h), fun _ h => (by cases h)⟩
  newTop_γ := fun s c => iff_of_true (DataDom.mem_of_top D rfl c) trivial
  top_max := fun _ _ _ => trivial

theorem dataSized_lawful {T C : Type} [DecidableEq T] (D : Dom T C) :
    @LawfulValueDomain (DataDom T) (dataSized D).valueDomain :=
  @LawfulValueDomain.mk (DataDom T) (dataSized D).valueDomain (fun _ => rfl) (fun _ => rfl)
    (fun _ => rfl) (fun _ _ _ => rfl)

/-- **C03-memregion-data (laws 1 and 2).** regions of `DataDomain<T>` values, for every offset kind
`T` satisfying the laws at the sizes `valid` -/
theorem memData_sound {T C : Type} [DecidableEq T] {D : Dom T C} {valid : Nat → Prop}
    {wfT : Nat → T → Prop} {GT : Nat → C → Prop} (LT : ∀ s, valid s → Laws D (wfT s) (GT s))
    {a b : Region (DataDom T)}
    (ha : RegionWF (dataSized D) valid (fun s => DataDom.WF (wfT s) s) a)
    (hb : RegionWF (dataSized D) valid (fun s => DataDom.WF (wfT s) s) b)
    (p : Int) (s : Nat) (hs : valid s) (c : Sym C)
    (h : (dataDom D).γ (memGet (dataSized D) a p s) c ∨ (dataDom D).γ (memGet (dataSized D) b p s) c) :
    (dataDom D).γ (memGet (dataSized D) (memMerge (dataSized D) a b) p s) c :=
  memMerge_sound (dataSized_laws LT) ha hb p s hs c h

theorem memData_absorb_merged {T C : Type} [DecidableEq T] {D : Dom T C} {valid : Nat → Prop}
    {wfT : Nat → T → Prop} {GT : Nat → C → Prop} (LT : ∀ s, valid s → Laws D (wfT s) (GT s))
    {a b : Region (DataDom T)}
    (ha : RegionWF (dataSized D) valid (fun s => DataDom.WF (wfT s) s) a)
    (hb : RegionWF (dataSized D) valid (fun s => DataDom.WF (wfT s) s) b)
    (p : Int) (s : Nat) (hs : valid s) (c : Sym C) :
    (dataDom D).γ (memGet (dataSized D) (memMerge (dataSized D) (memMerge (dataSized D) a b) b) p s) c ↔
    (dataDom D).γ (memGet (dataSized D) (memMerge (dataSized D) a b) p s) c :=
  memMerge_absorb_merged (dataSized_laws LT) (dataSized_lawful D) ha hb p s hs c

/-! ### non-vacuity: the test case of `domain_map.rs::test_merge_strategies` -/

def exLeft : AList (DataDom BvDom) :=
  [(0, ⟨8, [], some (.val 8 0), false⟩), (1, ⟨8, [], some (.val 8 0), false⟩), (5, ⟨8, [], none, true⟩)]
def exRight : AList (DataDom BvDom) :=
  [(1, ⟨8, [], some (.val 8 1), false⟩), (2, ⟨8, [], some (.val 8 1), false⟩), (5, ⟨8, [], none, true⟩)]

theorem wf_absOnly (s : Nat) (x : Option BvDom) (t : Bool) (hx : ∀ v, x = some v → v.bytesize = s) :
    DataDom.WF (BvDom.wf s) s ⟨s, [], x, t⟩ :=
  ⟨rfl, fun _ _ h => (by cases h), hx⟩

example : MapWF (fun _ => DataDom.WF (BvDom.wf 8) 8) exLeft :=
  have val : ∀ n, DataDom.WF (BvDom.wf 8) 8 ⟨8, [], some (.val 8 n), false⟩ :=
    fun _ => wf_absOnly 8 _ _ fun _ h => Option.some.inj h ▸ rfl
  mapWF_cons (val 0) (mapWF_cons (val 0) (mapWF_cons (wf_absOnly 8 none true fun _ h => nomatch h) mapWF_nil))

example : mapMerge .union (dataDom bvDom) exLeft exRight =
    [(0, ⟨8, [], some (.val 8 0), false⟩), (1, ⟨8, [], some (.top 8), false⟩),
     (2, ⟨8, [], some (.val 8 1), false⟩), (5, ⟨8, [], none, true⟩)] := rfl
example : mapMerge .intersect (dataDom bvDom) exLeft exRight =
    [(1, ⟨8, [], some (.top 8), false⟩)] := rfl
example : mapMerge .mergeTop (dataDom bvDom) exLeft exRight =
    [(0, ⟨8, [], some (.val 8 0), true⟩), (1, ⟨8, [], some (.top 8), false⟩),
     (2, ⟨8, [], some (.val 8 1), true⟩)] := rfl

/-! ### non-vacuity for regions -/

def exRegA : Region BvDom := [(0, .val 4 1), (8, .val 8 7)]
def exRegB : Region BvDom := [(0, .val 4 1), (12, .val 4 9)]

theorem exReg_wf (r : Region BvDom) (h : r = exRegA ∨ r = exRegB) :
    RegionWF bvSized (fun _ => True) BvDom.wf r := by
  letI := bvSized.valueDomain
  rcases h with rfl | rfl <;>
    exact ⟨⟨by unfold BMap.Sorted; decide, by unfold NoOverlap; decide, by unfold PosSizes; decide,
      by unfold NoTopStored; decide⟩, by unfold Bounded; decide, by unfold BvDom.wf; decide,
      fun _ _ => trivial⟩

-- the shared slot survives, the overlapping cells (8,8 bytes) and (12,4 bytes) are dropped
example : memMerge bvSized exRegA exRegB = [(0, .val 4 1)] := by decide

end CweModel.C03
