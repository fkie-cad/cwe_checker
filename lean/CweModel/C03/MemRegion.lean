/-
C03 — `MemRegion<T>` merge (`src/cwe_checker_lib/src/abstract_domain/mem_region.rs`:
`AbstractDomain::merge`, `merge_inner`, `merge_or_merge_with_top`, `compute_range_end`).

The model of `MemRegion` is the shared one (`CweModel.Base.MemRegion`, written for C05, generic
over the value type through the class `ValueDomain`); C05 proves which cells `merge_inner` keeps
(`CweModel.C05.mem_mergeInner_keeps`). Here the value type is a kind satisfying the merge laws
(`SizedLaws`), and the laws are proved for regions slot by slot (`memGet_joins`): for every position
`p` and size `s`, what `get(p, s)` of the merged region represents joins (`Joins`, Dom.lean) what
`get(p, s)` of the inputs represents. A region gives no information about a slot it does not store
(`get` returns `Top`), so the theorems need a value kind whose `Top` is maximal; `Taint` is not such
a kind (see `Taint.lean`).
-/
import CweModel.C05.Merge
import CweModel.C03.Dom

namespace CweModel.C03
open CweModel.MemRegion CweModel.C05

variable {V C : Type}

/-- a value kind with the two size operations `MemRegion` needs (`SizedDomain`) -/
structure SizedDom (V C : Type) extends Dom V C where
  /-- `SizedDomain::bytesize` -/
  size : V → Nat
  /-- `SizedDomain::new_top(bytesize)` -/
  newTop : Nat → V

/-- the operations `MemRegion<T>` uses, taken from the kind -/
@[reducible] def SizedDom.valueDomain (D : SizedDom V C) : ValueDomain V :=
  { size := D.size, isTop := D.isTop, newTop := D.newTop, topOf := D.top, merge := D.merge }

/-- the merge laws for every size `s` the kind supports (`valid s`), with a maximal `Top` per size -/
structure SizedLaws (D : SizedDom V C) (valid : Nat → Prop) (wf : Nat → V → Prop)
    (G : Nat → C → Prop) : Prop where
  laws : ∀ s, valid s → Laws D.toDom (wf s) (G s)
  size_wf : ∀ {s v}, wf s v → D.size v = s
  newTop_wf : ∀ s, valid s → wf s (D.newTop s)
  newTop_γ : ∀ s c, D.toDom.γ (D.newTop s) c ↔ G s c
  top_max : ∀ {s v}, wf s v → ∀ c, D.toDom.γ v c → G s c

/-- `<MemRegion<T> as AbstractDomain>::merge` over the kind `D` -/
def memMerge [DecidableEq V] (D : SizedDom V C) (a b : Region V) : Region V :=
  @mergeRegions V D.valueDomain _ a b

/-- `merge_with` is the trait default: `if self != other { *self = self.merge(other) }` -/
def memMergeWith [DecidableEq V] (D : SizedDom V C) (a b : Region V) : Region V :=
  defaultMergeWith (memMerge D) a b

/-- `MemRegion::get(position, size)` over the kind `D` -/
def memGet (D : SizedDom V C) (r : Region V) (p : Int) (s : Nat) : V :=
  @CweModel.MemRegion.get V D.valueDomain r p s

/-- a region as produced by the operations of `MemRegion` (C05's invariant, no i64 overflow) whose
stored values are well-formed values of their own size -/
structure RegionWF (D : SizedDom V C) (valid : Nat → Prop) (wf : Nat → V → Prop) (r : Region V) :
    Prop where
  inv : @Inv V D.valueDomain r
  bounded : @Bounded V D.valueDomain r
  vals : ∀ c ∈ r, wf (D.size c.2) c.2
  sizes : ∀ c ∈ r, valid (D.size c.2)

section
variable [DecidableEq V] {D : SizedDom V C} {valid : Nat → Prop} {wf : Nat → V → Prop}
  {G : Nat → C → Prop}

omit [DecidableEq V] in
theorem memGet_cases (D : SizedDom V C) {r : Region V} (hr : BMap.Sorted r) (p : Int) (s : Nat) :
    (memGet D r p s = D.newTop s ∧ ∀ x, (p, x) ∈ r → D.size x ≠ s) ∨
    ∃ x, (p, x) ∈ r ∧ D.size x = s ∧ memGet D r p s = x :=
  (@get_cases V D.valueDomain r p s).imp (fun h => ⟨h.1, fun x hx => h.2 x (BMap.get_of_mem hr hx)⟩)
    fun ⟨x, hg, h⟩ => ⟨x, BMap.mem_of_get hg, h⟩

omit [DecidableEq V] in
theorem RegionWF.cell {r : Region V} (hr : RegionWF D valid wf r) {p : Int} {v : V} (h : (p, v) ∈ r) :
    valid (D.size v) ∧ wf (D.size v) v := ⟨hr.sizes _ h, hr.vals _ h⟩

omit [DecidableEq V] in
theorem RegionWF.sorted {r : Region V} (hr : RegionWF D valid wf r) : BMap.Sorted r :=
  @Inv.sorted V D.valueDomain r hr.inv

omit [DecidableEq V] in
theorem memGet_le_top (L : SizedLaws D valid wf G) {r : Region V} (hr : RegionWF D valid wf r) (p : Int) (s : Nat)
    (c : C) (h : D.toDom.γ (memGet D r p s) c) : G s c := by
  rcases memGet_cases D hr.sorted p s with ⟨e, -⟩ | ⟨x, hx, hs, e⟩ <;> rw [e] at h
  · exact (L.newTop_γ s c).mp h
  · exact L.top_max (hs ▸ (hr.cell hx).2) c h

omit [DecidableEq V] in
theorem memGet_of_mem {r : Region V} (hs : BMap.Sorted r) {p : Int} {v : V} (hm : (p, v) ∈ r) :
    memGet D r p (D.size v) = v := by
  unfold memGet CweModel.MemRegion.get
  rw [BMap.get_of_mem hs hm]
  exact if_pos rfl

omit [DecidableEq V] in
theorem size_merge (L : SizedLaws D valid wf G) {s : Nat} (hs : valid s) {x y : V} (hx : wf s x)
    (hy : wf s y) : D.size (D.merge x y) = s := L.size_wf ((L.laws s hs).merge_wf hx hy)

omit [DecidableEq V] in
/-- C05's `MergeKeeps`, in the operations of the kind `D` -/
theorem mem_mergeInner_keeps {a b : Region V} (ha : RegionWF D valid wf a) (hb : RegionWF D valid wf b)
    {p : Int} {x : V} :
    (p, x) ∈ @mergeInner V D.valueDomain a b ↔ D.isTop x = false ∧
    ((∃ l r, (p, l) ∈ a ∧ (p, r) ∈ b ∧ D.size l = D.size r ∧ x = D.merge l r) ∨
     (∃ l, (p, l) ∈ a ∧ (∀ d ∈ b, @cellsOverlap V D.valueDomain (p, l) d = false) ∧
        x = D.merge l (D.newTop (D.size l))) ∨
     (∃ r, (p, r) ∈ b ∧ (∀ c ∈ a, @cellsOverlap V D.valueDomain (p, r) c = false) ∧
        x = D.merge r (D.newTop (D.size r)))) :=
  @C05.mem_mergeInner_keeps V D.valueDomain a b ha.inv hb.inv (fun c hc => (ha.bounded c hc).1)
    (fun c hc => (hb.bounded c hc).1) (p, x)

omit [DecidableEq V] in
theorem mergeInner_cell_wf (L : SizedLaws D valid wf G) {a b : Region V}
    (ha : RegionWF D valid wf a) (hb : RegionWF D valid wf b) {p : Int} {x : V}
    (hm : (p, x) ∈ @mergeInner V D.valueDomain a b) :
    valid (D.size x) ∧ wf (D.size x) x ∧
    ((∃ l, (p, l) ∈ a ∧ D.size l = D.size x) ∨ (∃ r, (p, r) ∈ b ∧ D.size r = D.size x)) := by
  -- a merged cell is `merge l r` for a stored cell `l` and a value `r` of its size
  have key : ∀ {l r : V}, valid (D.size l) ∧ wf (D.size l) l → wf (D.size l) r →
      valid (D.size (D.merge l r)) ∧ wf (D.size (D.merge l r)) (D.merge l r) ∧
        D.size l = D.size (D.merge l r) := by
    intro l r ⟨hv, hl⟩ hr
    rw [size_merge L hv hl hr]; exact ⟨hv, (L.laws _ hv).merge_wf hl hr, rfl⟩
  rcases ((mem_mergeInner_keeps ha hb).mp hm).2 with ⟨l, r, hl, hr, hsz, rfl⟩ | ⟨l, hl, -, rfl⟩ | ⟨r, hr, -, rfl⟩
  · have h := key (ha.cell hl) (hsz ▸ (hb.cell hr).2)
    exact ⟨h.1, h.2.1, .inl ⟨l, hl, h.2.2⟩⟩
  · have h := key (ha.cell hl) (L.newTop_wf _ (ha.cell hl).1)
    exact ⟨h.1, h.2.1, .inl ⟨l, hl, h.2.2⟩⟩
  · have h := key (hb.cell hr) (L.newTop_wf _ (hb.cell hr).1)
    exact ⟨h.1, h.2.1, .inr ⟨r, hr, h.2.2⟩⟩

/-- **C03-memregion-wf.** the merge of two well-formed regions is a well-formed region -/
theorem regionWF_memMerge (L : SizedLaws D valid wf G) (hLaw : @LawfulValueDomain V D.valueDomain)
    {a b : Region V} (ha : RegionWF D valid wf a) (hb : RegionWF D valid wf b) :
    RegionWF D valid wf (memMerge D a b) := by
  letI := D.valueDomain
  unfold memMerge mergeRegions
  split
  · exact ha
  · haveI := hLaw
    refine ⟨inv_mergeInner ha.inv hb.inv ha.bounded hb.bounded, fun c hc => ?_,
      fun c hc => (mergeInner_cell_wf L ha hb (p := c.1) (x := c.2) hc).2.1,
      fun c hc => (mergeInner_cell_wf L ha hb (p := c.1) (x := c.2) hc).1⟩
    -- the merged cell occupies the bytes of a cell of one of the inputs
    show _ ∧ c.1 + ((D.size c.2 : Nat) : Int) ≤ _
    rcases (mergeInner_cell_wf L ha hb (p := c.1) (x := c.2) hc).2.2 with ⟨l, hl, hsz⟩ | ⟨r, hr, hsz⟩
    · rw [← hsz]; exact ha.bounded _ hl
    · rw [← hsz]; exact hb.bounded _ hr

omit [DecidableEq V] in
/-- **Laws 1 and 2 for `merge_inner`, slot by slot.** What the merged region answers for the slot
`(p, s)` joins what the inputs answer: a slot both hold is merged; a cell no cell of the other region
overlaps is merged with `Top`, which is what the other region answers there; everything else is
dropped and reads `Top`, which lies above every answer. -/
theorem memGet_joins (L : SizedLaws D valid wf G) {a b : Region V} (ha : RegionWF D valid wf a)
    (hb : RegionWF D valid wf b) (p : Int) (s : Nat) (hs : valid s) :
    Joins (D.toDom.γ (memGet D a p s)) (D.toDom.γ (memGet D b p s))
      (D.toDom.γ (memGet D (@mergeInner V D.valueDomain a b) p s)) := by
  letI := D.valueDomain
  have hM : BMap.Sorted (mergeInner a b) := (mergeInner_spec ha.sorted hb.sorted).1
  -- a region holding a cell that overlaps nothing in the other one finds no cell in its slot there
  have alone : ∀ {r r' : Region V} {l : V}, RegionWF D valid wf r → RegionWF D valid wf r' → (p, l) ∈ r →
      (∀ d ∈ r', cellsOverlap (p, l) d = false) → memGet D r' p (D.size l) = D.newTop (D.size l) :=
    fun hr hr' hl hno => ((memGet_cases D hr'.sorted p _).resolve_right fun ⟨x, hx, _, _⟩ =>
      key_ne_of_noOverlap (hr.inv.posSizes _ hl) (hr'.inv.posSizes _ hx) (hno _ hx) rfl).1
  rcases memGet_cases D hM p s with ⟨eM, hnM⟩ | ⟨x, hx, rfl, eM⟩ <;> rw [eM]
  · have hG := L.newTop_γ s
    rcases memGet_cases D ha.sorted p s with ⟨ea, -⟩ | ⟨l, hl, rfl, ea⟩ <;> rw [ea]
    · exact Joins.of_ge fun c h => (hG c).mpr (memGet_le_top L hb p s c h)
    · have hwl := (ha.cell hl).2
      rcases memGet_cases D hb.sorted p (D.size l) with ⟨eb, -⟩ | ⟨r, hr, hsr, eb⟩ <;> rw [eb]
      · exact Joins.of_le fun c h => (hG c).mpr (L.top_max hwl c h)
      · -- both hold a cell in the slot and the merged region does not: the merge was `Top`
        have hwr := hsr ▸ (hb.cell hr).2
        have hLs := L.laws _ hs
        have ht : D.isTop (D.merge l r) = true := by
          cases h : D.isTop (D.merge l r)
          · exact absurd (size_merge L hs hwl hwr)
              (hnM _ ((mem_mergeInner_keeps ha hb).mpr ⟨h, .inl ⟨l, r, hl, hr, hsr.symm, rfl⟩⟩))
          · rfl
        exact (hLs.joins hwl hwr).congr (fun _ => Iff.rfl) (fun _ => Iff.rfl) fun c =>
          (hLs.isTop_γ (hLs.merge_wf hwl hwr) ht c).trans (hG c).symm
  · rcases ((mem_mergeInner_keeps ha hb).mp hx).2 with ⟨l, r, hl, hr, hsz, rfl⟩ | ⟨l, hl, hno, rfl⟩ | ⟨r, hr, hno, rfl⟩
    · obtain ⟨hv, hwl⟩ := ha.cell hl
      have hwr := hsz ▸ (hb.cell hr).2
      rw [size_merge L hv hwl hwr, memGet_of_mem ha.sorted hl, hsz, memGet_of_mem hb.sorted hr]
      exact (L.laws _ hv).joins hwl (hsz ▸ hwr)
    · obtain ⟨hv, hwl⟩ := ha.cell hl
      have hwt := L.newTop_wf _ hv
      rw [size_merge L hv hwl hwt, memGet_of_mem ha.sorted hl, alone ha hb hl hno]
      exact (L.laws _ hv).joins hwl hwt
    · -- `Top` merged with a cell is `Top` again: it contains `Top` and `Top` is maximal
      obtain ⟨hv, hwr⟩ := hb.cell hr
      have hwt := L.newTop_wf _ hv
      have hLs := L.laws _ hv
      rw [size_merge L hv hwr hwt, memGet_of_mem hb.sorted hr, alone hb ha hr hno]
      exact ⟨fun c h => h.elim (hLs.sound_r hwr hwt c) (hLs.sound_l hwr hwt c), fun _ c =>
        ⟨fun h => (L.newTop_γ _ c).mpr (L.top_max (hLs.merge_wf hwr hwt) c h), hLs.sound_r hwr hwt c⟩⟩

theorem memMerge_joins (L : SizedLaws D valid wf G) {a b : Region V} (ha : RegionWF D valid wf a)
    (hb : RegionWF D valid wf b) (p : Int) (s : Nat) (hs : valid s) :
    Joins (D.toDom.γ (memGet D a p s)) (D.toDom.γ (memGet D b p s))
      (D.toDom.γ (memGet D (memMerge D a b) p s)) := by
  unfold memMerge mergeRegions
  split
  · next hab => subst hab; exact Joins.of_ge fun _ => id
  · exact memGet_joins L ha hb p s hs

/-- **C03-memregion (law 1).** For every slot `(p, s)`: every concrete value that `get(p, s)` of
either input region represents is represented by `get(p, s)` of the merged region. -/
theorem memMerge_sound (L : SizedLaws D valid wf G) {a b : Region V} (ha : RegionWF D valid wf a)
    (hb : RegionWF D valid wf b) (p : Int) (s : Nat) (hs : valid s) (c : C)
    (h : D.toDom.γ (memGet D a p s) c ∨ D.toDom.γ (memGet D b p s) c) :
    D.toDom.γ (memGet D (memMerge D a b) p s) c :=
  (memMerge_joins L ha hb p s hs).1 c h

/-- **C03-memregion (law 3).** merging a region with itself returns it unchanged -/
theorem memMerge_self (D : SizedDom V C) (a : Region V) : memMerge D a a = a := by
  unfold memMerge mergeRegions; simp

/-- **C03-memregion (law 4).** the default `merge_with` computes exactly `merge` -/
theorem memMergeWith_eq (D : SizedDom V C) (a b : Region V) : memMergeWith D a b = memMerge D a b := by
  unfold memMergeWith defaultMergeWith
  split
  · rename_i h; subst h; exact (memMerge_self D a).symm
  · rfl

/-- **C03-memregion (law 2).** For every slot `(p, s)`: re-merging an input that was already merged
in does not change what `get(p, s)` represents:
`γ (get (merge (merge a b) b) p s) = γ (get (merge a b) p s)`. -/
theorem memMerge_absorb_merged (L : SizedLaws D valid wf G)
    (hLaw : @LawfulValueDomain V D.valueDomain) {a b : Region V}
    (ha : RegionWF D valid wf a) (hb : RegionWF D valid wf b) (p : Int) (s : Nat) (hs : valid s)
    (c : C) :
    D.toDom.γ (memGet D (memMerge D (memMerge D a b) b) p s) c ↔
    D.toDom.γ (memGet D (memMerge D a b) p s) c :=
  (memMerge_joins L ha hb p s hs).absorb_merged
    (memMerge_joins L (regionWF_memMerge L hLaw ha hb) hb p s hs) c

end
end CweModel.C03
