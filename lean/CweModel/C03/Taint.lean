/-
C03 — `Taint` (`src/cwe_checker_lib/src/analysis/taint/mod.rs`): `Tainted(size)` or `Top(size)`
(untainted).

Concretisation (may-analysis reading): a concrete value of `size` bytes is either untainted
(`false`) or tainted (`true`); `Top` represents only untainted values, `Tainted` represents both.
`Top` is therefore NOT a maximal element (the doc comment of the type says so), which is why the
Intersect strategy / `MemRegion` theorems, which need a maximal `Top`, do not apply to `Taint`.
-/
import CweModel.C03.Dom

namespace CweModel.C03

inductive Taint where
  | tainted (bytes : Nat)
  | top (bytes : Nat)
deriving DecidableEq, Repr

namespace Taint

def bytesize : Taint → Nat
  | tainted s => s
  | top s => s

/-- `merge`: `match (self, other) { (Tainted(size), _) | (_, Tainted(size)) => Tainted(*size), _ => Top(self.bytesize()) }` -/
def merge : Taint → Taint → Taint
  | tainted s, _ => tainted s
  | top _, tainted s => tainted s
  | top s, top _ => top s

/-- `merge_with`: `if let (Top(_), Tainted(_)) = (&self, other) { *self = *other }` -/
def mergeWith : Taint → Taint → Taint
  | top _, tainted s => tainted s
  | a, _ => a

def isTop : Taint → Bool
  | top _ => true
  | tainted _ => false

def topOf (a : Taint) : Taint := top a.bytesize

/-- concrete: (byte size, is tainted) -/
def mem : Taint → Nat × Bool → Bool
  | top s, c => c.1 == s && !c.2
  | tainted s, c => c.1 == s

def wf (s : Nat) (a : Taint) : Prop := a.bytesize = s

end Taint

def taintDom : Dom Taint (Nat × Bool) where
  mem := Taint.mem
  merge := Taint.merge
  mergeWith := Taint.mergeWith
  isTop := Taint.isTop
  top := Taint.topOf

/-- what `Top(s)` represents: the untainted values of `s` bytes -/
def taintTop (s : Nat) (c : Nat × Bool) : Prop := c.1 = s ∧ c.2 = false

/-- **C03-taint-merge_with.** the hand-written `merge_with` computes exactly `merge`
(for all inputs, also of different sizes) -/
theorem Taint.mergeWith_eq_merge (a b : Taint) : Taint.mergeWith a b = Taint.merge a b := by
  cases a <;> cases b <;> rfl

/-- **C03-taint-idem.** -/
theorem Taint.merge_self (a : Taint) : Taint.merge a a = a := by cases a <;> rfl

theorem Taint.mem_top (s : Nat) (c : Nat × Bool) : Taint.mem (.top s) c = true ↔ taintTop s c := by
  simp [Taint.mem, taintTop]

theorem Taint.merge_wf {s : Nat} {a b : Taint} (ha : Taint.wf s a) (hb : Taint.wf s b) :
    Taint.wf s (Taint.merge a b) := by
  cases a <;> cases b <;> first | exact ha | exact hb

theorem Taint.mem_merge {s : Nat} {a b : Taint} (ha : Taint.wf s a) (hb : Taint.wf s b) {c : Nat × Bool}
    (h : Taint.mem a c = true ∨ Taint.mem b c = true) : Taint.mem (Taint.merge a b) c = true := by
  cases a <;> cases b <;> cases ha <;> cases hb <;> rcases h with h | h <;>
    first | exact h | exact (Bool.and_eq_true_iff.mp h).1

/-- **C03-taint.** `Taint` satisfies the merge laws on values of one byte size. -/
theorem taintDom_laws (s : Nat) : Laws taintDom (Taint.wf s) (taintTop s) where
  merge_wf := Taint.merge_wf
  mergeWith_wf := fun {a b} ha hb => by
    show Taint.wf s (Taint.mergeWith a b)
    rw [Taint.mergeWith_eq_merge]; exact Taint.merge_wf ha hb
  top_wf := fun ha => ha
  sound_l := fun ha hb _ hc => Taint.mem_merge ha hb (.inl hc)
  sound_r := fun ha hb _ hc => Taint.mem_merge ha hb (.inr hc)
  absorb := fun {a b} _ _ hle c => by
    cases a with
    | tainted sa => cases b <;> exact Iff.rfl
    | top sa =>
      cases b with
      | top sb => exact Iff.rfl
      | tainted sb =>
        -- `Tainted` is not below `Top`
        cases ((Taint.mem_top sa (sb, true)).mp (hle _ (beq_self_eq_true sb))).2
  mergeWith_eqv := fun {a b} _ _ c => by
    show Taint.mem (Taint.mergeWith a b) c = true ↔ Taint.mem (Taint.merge a b) c = true
    rw [Taint.mergeWith_eq_merge]
  isTop_γ := fun {a} ha ht c => by
    cases a with
    | tainted _ => cases ht
    | top sa => cases ha; exact Taint.mem_top _ c
  top_γ := fun {a} ha c => by rw [← ha]; exact Taint.mem_top _ c

-- non-vacuity
example : Taint.wf 4 (.top 4) ∧ Taint.wf 4 (.tainted 4) := ⟨rfl, rfl⟩
example : taintDom.γ (Taint.merge (.top 4) (.tainted 4)) (4, true) := by decide
example : ¬ taintDom.γ (.top 4) (4, true) := by decide

end CweModel.C03
