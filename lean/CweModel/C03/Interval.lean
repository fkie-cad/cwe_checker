/-
C03 — `IntervalDomain` merge with widening
(`src/cwe_checker_lib/src/abstract_domain/interval.rs`: `signed_merge`, `signed_merge_and_widen`,
`update_widening_lower_bound/upper_bound`; `interval/simple_interval.rs`: `Interval::signed_merge`,
`adjust_start/end_to_value_in_stride`). The structures, `γ` (`Mem`), `WF` and the stride helpers
come from `CweModel.Base.Interval`.

Release-mode arithmetic: the widening threshold `delay + 1`, `delay + stride` wraps in `u64`.
-/
import CweModel.Base.Interval
import CweModel.C03.Dom

namespace CweModel.C03
open CweModel.Itv

/-- `Interval::signed_merge` (both operands have the width of `a`; `checked_sgt` would panic
otherwise) -/
def signedMergeI (a b : Interval) : Interval :=
  if a.start > a.stop ∨ b.start > b.stop then Interval.newTop a.w   -- one of them wraps around
  else
    let start := if a.start ≤ b.start then a.start else b.start      -- signed_min
    let stop := if a.stop ≥ b.stop then a.stop else b.stop           -- signed_max
    let startDiff := if a.start > b.start then wrap a.w (a.start - b.start) else wrap a.w (b.start - a.start)
    let stride := match tryToU64 a.w startDiff with
      | some d => Nat.gcd (Nat.gcd a.stride b.stride) d
      | none => 1
    { w := a.w, start := start, stop := stop, stride := stride }

/-- `IntervalDomain::signed_merge` -/
def signedMerge (a b : IntervalDomain) : IntervalDomain :=
  let m := IntervalDomain.ofInterval (signedMergeI a.interval b.interval)
  let m := m.updateLower a.lower
  let m := m.updateLower b.lower
  let m := m.updateUpper a.upper
  let m := m.updateUpper b.upper
  { m with delay := max a.delay b.delay }

/-- length of an interval as `(end - start).try_to_u64()` -/
def lengthU64 (I : Interval) : Option Nat := tryToU64 I.w (wrap I.w (I.stop - I.start))

/-- the "do not widen below the threshold" test of `signed_merge_and_widen` -/
def belowThreshold (m : IntervalDomain) : Bool :=
  match lengthU64 m.interval with
  | some length => decide (length ≤ max (u64 (m.delay + 1)) (u64 (m.delay + m.interval.stride)))
  | none => false

/-- "widen to the lower bound" step -/
def widenLower (a b m : IntervalDomain) : IntervalDomain × Bool :=
  match m.lower with
  | some l =>
    if a.interval.start ≠ b.interval.start then
      ({ m with interval := ({ m.interval with start := l }).adjustStart, lower := none }, true)
    else (m, false)
  | none => (m, false)

/-- "widen to the upper bound" step -/
def widenUpper (a b : IntervalDomain) (mw : IntervalDomain × Bool) : IntervalDomain × Bool :=
  match mw.1.upper with
  | some u =>
    if a.interval.stop ≠ b.interval.stop then
      ({ mw.1 with interval := ({ mw.1.interval with stop := u }).adjustEnd, upper := none }, true)
    else mw
  | none => mw

/-- `IntervalDomain::signed_merge_and_widen` = `AbstractDomain::merge` -/
def signedMergeAndWiden (a b : IntervalDomain) : IntervalDomain :=
  let m := signedMerge a b
  if m.interval = a.interval ∨ m.interval = b.interval ∨ m.isTop = true then m
  else if belowThreshold m then m
  else
    let r := widenUpper a b (widenLower a b m)
    if r.2 then { r.1 with delay := (lengthU64 r.1.interval).getD 0 }
    else IntervalDomain.newTop m.interval.w

/-- `SizedDomain::bytesize`: `ByteSize::from(BitWidth)` rounds up to full bytes -/
def ivBytes (a : IntervalDomain) : Nat := (a.interval.w + 7) / 8

/-- `IntervalDomain` as a value kind; concrete values are signed integers.
`HasTop::top(&self)` is `new_top(self.bytesize())`. -/
def ivDom : Dom IntervalDomain Int where
  mem := fun a x => decide (a.Mem x)
  merge := signedMergeAndWiden
  mergeWith := defaultMergeWith signedMergeAndWiden
  isTop := IntervalDomain.isTop
  top := fun a => IntervalDomain.newTop (8 * ivBytes a)

theorem toNat_eq_natAbs {d : Int} (h : 0 ≤ d) : d.toNat = d.natAbs :=
  Int.ofNat_inj.mp ((Int.toNat_of_nonneg h).trans (Int.natAbs_of_nonneg h).symm)

def mergedStride (a b : Interval) : Nat :=
  Nat.gcd (Nat.gcd a.stride b.stride) (a.start - b.start).natAbs

/-- the distance of the starts as `signed_merge` computes it -/
theorem tryToU64_absdiff {w : Nat} (hw : 0 < w) (hw64 : w ≤ 64) {s t : Int} (hs : InRange w s)
    (ht : InRange w t) :
    tryToU64 w (if s > t then wrap w (s - t) else wrap w (t - s)) = some (s - t).natAbs := by
  split
  · next h =>
    rw [tryToU64_diff hw hw64 ht hs (Int.le_of_lt h), toNat_eq_natAbs (Int.sub_nonneg_of_le (Int.le_of_lt h))]
  · next h =>
    rw [tryToU64_diff hw hw64 hs ht (Int.not_lt.mp h), toNat_eq_natAbs (Int.sub_nonneg_of_le (Int.not_lt.mp h)),
      ← Int.neg_sub, Int.natAbs_neg]

theorem signedMergeI_spec {a b : Interval} (ha : a.WF) (hb : b.WF) (hw : b.w = a.w)
    (hw64 : a.w ≤ 64) :
    signedMergeI a b =
      { w := a.w, start := min a.start b.start, stop := max a.stop b.stop, stride := mergedStride a b } := by
  unfold signedMergeI
  rw [if_neg fun h => h.elim (Int.not_lt.mpr ha.2.2.2.1) (Int.not_lt.mpr hb.2.2.2.1)]
  simp only [tryToU64_absdiff ha.1 hw64 ha.2.1 (hw ▸ hb.2.1), Int.max_comm a.stop]
  rfl

theorem mergedStride_dvd (a b : Interval) :
    ((mergedStride a b : Nat) : Int) ∣ (a.stride : Int) ∧ ((mergedStride a b : Nat) : Int) ∣ (b.stride : Int) ∧
    ((mergedStride a b : Nat) : Int) ∣ a.start - b.start :=
  ⟨Int.natCast_dvd_natCast.mpr (Nat.dvd_trans (Nat.gcd_dvd_left _ _) (Nat.gcd_dvd_left _ _)),
   Int.natCast_dvd_natCast.mpr (Nat.dvd_trans (Nat.gcd_dvd_left _ _) (Nat.gcd_dvd_right _ _)),
   Int.ofNat_dvd_left.mpr (Nat.gcd_dvd_right _ _)⟩

theorem mergedStride_eq_zero (a b : Interval) :
    mergedStride a b = 0 ↔ a.stride = 0 ∧ b.stride = 0 ∧ a.start = b.start := by
  rw [mergedStride, Nat.gcd_eq_zero_iff, Nat.gcd_eq_zero_iff, Int.natAbs_eq_zero, Int.sub_eq_zero, and_assoc]

/-- law 1 for plain intervals -/
theorem mem_signedMergeI {a b : Interval} (ha : a.WF) (hb : b.WF) (hw : b.w = a.w) (hw64 : a.w ≤ 64)
    {x : Int} (h : a.Mem x ∨ b.Mem x) : (signedMergeI a b).Mem x := by
  rw [signedMergeI_spec ha hb hw hw64]
  obtain ⟨hga, hgb, hgd⟩ := mergedStride_dvd a b
  -- the merged stride divides the distance of `x` to both starts, hence to the smaller one
  have key : ∀ {g s t : Int}, g ∣ x - s → g ∣ x - t → g ∣ x - min s t := by
    intro g s t h₁ h₂; rw [Int.min_def]; split <;> assumption
  rcases h with ⟨h1, h2, h3⟩ | ⟨h1, h2, h3⟩
  · have hx := Int.dvd_trans hga h3
    exact ⟨Int.le_trans (Int.min_le_left _ _) h1, Int.le_trans h2 (Int.le_max_left _ _),
      key hx (dvd_sub_trans hx hgd)⟩
  · have hx := Int.dvd_trans hgb h3
    exact ⟨Int.le_trans (Int.min_le_right _ _) h1, Int.le_trans h2 (Int.le_max_right _ _),
      key (dvd_sub_trans hx (Int.neg_sub a.start b.start ▸ Int.dvd_neg.mpr hgd)) hx⟩

theorem min_eq_max_iff {s₁ e₁ s₂ e₂ : Int} (h₁ : s₁ ≤ e₁) (h₂ : s₂ ≤ e₂) :
    min s₁ s₂ = max e₁ e₂ ↔ s₁ = e₁ ∧ s₂ = e₂ ∧ s₁ = s₂ := by
  constructor
  · intro h
    have a₁ : e₁ ≤ s₁ ∧ e₁ ≤ s₂ := Int.le_min.mp (h ▸ Int.le_max_left e₁ e₂)
    have a₂ : e₂ ≤ s₁ ∧ e₂ ≤ s₂ := Int.le_min.mp (h ▸ Int.le_max_right e₁ e₂)
    exact ⟨Int.le_antisymm h₁ a₁.1, Int.le_antisymm h₂ a₂.2,
      Int.le_antisymm (Int.le_trans h₁ a₁.2) (Int.le_trans h₂ a₂.1)⟩
  · rintro ⟨rfl, rfl, rfl⟩; rw [Int.min_self, Int.max_self]

theorem wf_signedMergeI {a b : Interval} (ha : a.WF) (hb : b.WF) (hw : b.w = a.w) (hw64 : a.w ≤ 64) :
    (signedMergeI a b).WF := by
  have hma := mem_signedMergeI ha hb hw hw64 (Or.inl (Interval.stop_mem a ha))
  have hmb := mem_signedMergeI ha hb hw hw64 (Or.inr (Interval.stop_mem b hb))
  rw [signedMergeI_spec ha hb hw hw64] at hma hmb ⊢
  obtain ⟨hwa, hsa, hea, hsea, hza, -, -⟩ := ha
  obtain ⟨-, hsb, heb, hseb, hzb, -, -⟩ := hb
  rw [hw] at hsb heb
  have hs : InRange a.w (min a.start b.start) :=
    ⟨Int.le_min.mpr ⟨hsa.1, hsb.1⟩, Int.le_trans (Int.min_le_left _ _) hsa.2⟩
  have he : InRange a.w (max a.stop b.stop) :=
    ⟨Int.le_trans hea.1 (Int.le_max_left _ _), Int.max_le.mpr ⟨hea.2, heb.2⟩⟩
  have hse : min a.start b.start ≤ max a.stop b.stop :=
    Int.le_trans (Int.min_le_left _ _) (Int.le_trans hsea (Int.le_max_left _ _))
  have hdvd : ((mergedStride a b : Nat) : Int) ∣ max a.stop b.stop - min a.start b.start := by
    rw [Int.max_def]; split
    · exact hmb.2.2
    · exact hma.2.2
  have hz : mergedStride a b = 0 ↔ min a.start b.start = max a.stop b.stop := by
    rw [mergedStride_eq_zero, hza, hzb, min_eq_max_iff hsea hseb]
  refine ⟨hwa, hs, he, hse, hz, hdvd, ?_⟩
  by_cases h0 : mergedStride a b = 0
  · rw [h0]; exact Nat.two_pow_pos 64
  · -- a non-zero stride divides the positive length, which is below `2^64`
    have hlt := Int.lt_iff_le_and_ne.mpr ⟨hse, fun h => h0 (hz.mpr h)⟩
    exact Int.ofNat_lt.mp (Int.lt_of_le_of_lt (Int.le_of_dvd (Int.sub_pos_of_lt hlt) hdvd)
      (Int.lt_of_lt_of_le (diff_bounds hwa hs he hse).2 (pow2_le_pow2 hw64)))

theorem start_add_stride_mem {I : Interval} (h : I.WF) : I.Mem (I.start + I.stride) := by
  obtain ⟨-, -, -, hse, hz, hd, -⟩ := h
  refine ⟨Int.le_add_of_nonneg_right (Int.natCast_nonneg _), ?_,
    by rw [Int.add_comm, Int.add_sub_cancel]; exact Int.dvd_refl _⟩
  by_cases h0 : I.start = I.stop
  · rw [hz.mpr h0]; simpa using hse
  · -- a non-zero stride divides the positive length
    exact Int.add_le_of_le_sub_left
      (Int.le_of_dvd (Int.sub_pos_of_lt (Int.lt_iff_le_and_ne.mpr ⟨hse, h0⟩)) hd)

/-- law 2 for plain intervals -/
theorem signedMergeI_absorb {a b : Interval} (ha : a.WF) (hb : b.WF) (hw : b.w = a.w)
    (hw64 : a.w ≤ 64) (hle : ∀ x, b.Mem x → a.Mem x) : signedMergeI a b = a := by
  rw [signedMergeI_spec ha hb hw hw64]
  have h1 := hle _ (Interval.start_mem b hb.2.2.2.1)
  have h2 := hle _ (Interval.stop_mem b hb)
  have h3 := hle _ (start_add_stride_mem hb)
  -- the stride of `a` divides the distance of the starts and the stride of `b`
  have hd : (a.stride : Int) ∣ a.start - b.start := Int.neg_sub b.start a.start ▸ Int.dvd_neg.mpr h1.2.2
  have hs := dvd_sub_trans h3.2.2 hd
  rw [Int.add_comm, Int.add_sub_cancel] at hs
  rw [mergedStride, Nat.gcd_eq_left (Int.natCast_dvd_natCast.mp hs), Nat.gcd_eq_left (Int.ofNat_dvd_left.mp hd),
    Int.min_eq_left h1.1, Int.max_eq_left h2.2.1]

theorem signedMergeI_start_lt_stop {a b : Interval} (ha : a.WF) (hb : b.WF) (hw : b.w = a.w)
    (hw64 : a.w ≤ 64) (hne : signedMergeI a b ≠ a) :
    (signedMergeI a b).start < (signedMergeI a b).stop := by
  apply Classical.byContradiction; intro hnp
  have heq := Int.le_antisymm (wf_signedMergeI ha hb hw hw64).2.2.2.1 (Int.not_lt.mp hnp)
  rw [signedMergeI_spec ha hb hw hw64] at heq
  -- otherwise both operands are the same singleton, which `a` absorbs
  obtain ⟨-, e₂, e₃⟩ := (min_eq_max_iff ha.2.2.2.1 hb.2.2.2.1).mp heq
  refine hne (signedMergeI_absorb ha hb hw hw64 fun x hx => ?_)
  have : x = a.start := Int.le_antisymm (e₃ ▸ e₂ ▸ hx.2.1) (e₃ ▸ hx.1)
  exact this ▸ Interval.start_mem a ha.2.2.2.1

/-- the state of the hints after `update_widening_lower/upper_bound`, which only store a bound strictly
outside the interval; this is why widening to a hint extends the interval -/
def HintsOK (m : IntervalDomain) : Prop :=
  (∀ l, m.lower = some l → l < m.interval.start ∧ InRange m.interval.w l) ∧
  (∀ u, m.upper = some u → m.interval.stop < u ∧ InRange m.interval.w u)

def HintInv (I : Interval) (d : Nat) (m : IntervalDomain) : Prop := m.interval = I ∧ m.delay = d ∧ HintsOK m

namespace HintInv
variable {I : Interval} {d : Nat} {m : IntervalDomain} {bd : Option Int}

theorem lower (h : HintInv I d m) (hw : 0 < I.w) (hb : ∀ x, bd = some x → InRange I.w x) :
    HintInv I d (m.updateLower bd) := by
  obtain ⟨rfl, rfl, hm⟩ := h
  rcases updateLower_cases m bd with h | ⟨x, y, hx, hr, hlt, h⟩ <;> rw [h]
  · exact ⟨rfl, rfl, hm⟩
  · exact ⟨rfl, rfl, fun l hl => by cases hl; exact ⟨hlt, roundUp_inRange hw (hb x hx) hr⟩, hm.2⟩

theorem upper (h : HintInv I d m) (hw : 0 < I.w) (hb : ∀ x, bd = some x → InRange I.w x) :
    HintInv I d (m.updateUpper bd) := by
  obtain ⟨rfl, rfl, hm⟩ := h
  rcases updateUpper_cases m bd with h | ⟨x, y, hx, hr, hlt, h⟩ <;> rw [h]
  · exact ⟨rfl, rfl, hm⟩
  · exact ⟨rfl, rfl, hm.1, fun u hu => by cases hu; exact ⟨hlt, roundDown_inRange hw (hb x hx) hr⟩⟩

/-- the hint bookkeeping shared by `signed_merge` and `intersect`: a fresh value of the interval `I` takes over the
hints of both operands -/
theorem ofOperands {a b : IntervalDomain} (ha : a.WF) (hb : b.WF) (hw : b.interval.w = a.interval.w)
    (hI : I.w = a.interval.w) :
    HintInv I 0 ((((IntervalDomain.ofInterval I).updateLower a.lower).updateLower b.lower).updateUpper
      a.upper |>.updateUpper b.upper) := by
  have hw0 : 0 < I.w := hI ▸ ha.1.1
  have h0 : HintInv I 0 (IntervalDomain.ofInterval I) := ⟨rfl, rfl, fun _ h => (by cases h), fun _ h => (by cases h)⟩
  obtain ⟨-, hua, hla, -⟩ := ha
  obtain ⟨-, hub, hlb, -⟩ := hb
  rw [hw] at hub hlb
  rw [← hI] at hua hla hub hlb
  exact (((h0.lower hw0 hla).lower hw0 hlb).upper hw0 hua).upper hw0 hub

end HintInv

theorem signedMergeI_w (a b : Interval) : (signedMergeI a b).w = a.w := by
  unfold signedMergeI
  by_cases h : a.start > a.stop ∨ b.start > b.stop
  · rw [if_pos h]; rfl
  · rw [if_neg h]

theorem signedMerge_interval (a b : IntervalDomain) :
    (signedMerge a b).interval = signedMergeI a.interval b.interval := by
  simp only [signedMerge, updateUpper_interval, updateLower_interval]; rfl

theorem signedMerge_w (a b : IntervalDomain) : (signedMerge a b).interval.w = a.interval.w := by
  rw [signedMerge_interval]; exact signedMergeI_w _ _

theorem signedMerge_hintsOK {a b : IntervalDomain} (ha : a.WF) (hb : b.WF)
    (hw : b.interval.w = a.interval.w) : HintsOK (signedMerge a b) :=
  (HintInv.ofOperands ha hb hw (signedMergeI_w a.interval b.interval)).2.2

theorem signedMerge_wf {a b : IntervalDomain} (ha : a.WF) (hb : b.WF)
    (hw : b.interval.w = a.interval.w) (hw64 : a.interval.w ≤ 64) : (signedMerge a b).WF := by
  have hH := signedMerge_hintsOK ha hb hw
  refine ⟨?_, fun u h => (hH.2 u h).2, fun l h => (hH.1 l h).2, Nat.max_lt.mpr ⟨ha.2.2.2, hb.2.2.2⟩⟩
  rw [signedMerge_interval]; exact wf_signedMergeI ha.1 hb.1 hw hw64

/-- `J` is `I` extended downwards and/or upwards within the same residue class -/
structure Widens (I J : Interval) : Prop where
  w : J.w = I.w
  stride : J.stride = I.stride
  start_le : J.start ≤ I.start
  stop_le : I.stop ≤ J.stop
  start_in : InRange I.w J.start
  stop_in : InRange I.w J.stop
  dvd_start : (I.stride : Int) ∣ I.start - J.start
  dvd_stop : (I.stride : Int) ∣ J.stop - I.stop

theorem Widens.refl {I : Interval} (h : I.WF) : Widens I I :=
  ⟨rfl, rfl, Int.le_refl _, Int.le_refl _, h.2.1, h.2.2.1, Int.sub_self _ ▸ Int.dvd_zero _,
    Int.sub_self _ ▸ Int.dvd_zero _⟩

theorem Widens.mem {I J : Interval} (h : Widens I J) {x : Int} (hx : I.Mem x) : J.Mem x :=
  ⟨Int.le_trans h.start_le hx.1, Int.le_trans hx.2.1 h.stop_le,
    by rw [h.stride]; exact dvd_sub_trans hx.2.2 h.dvd_start⟩

theorem Widens.wf {I J : Interval} (h : Widens I J) (hI : I.WF) (hpos : I.start < I.stop) : J.WF := by
  obtain ⟨hw, -, -, -, hz, hd, hl⟩ := hI
  have hlt : J.start < J.stop := Int.lt_of_le_of_lt h.start_le (Int.lt_of_lt_of_le hpos h.stop_le)
  rw [← h.stride] at hz hl
  exact ⟨h.w ▸ hw, h.w ▸ h.start_in, h.w ▸ h.stop_in, Int.le_of_lt hlt,
    ⟨fun h0 => absurd (hz.mp h0) (Int.ne_of_lt hpos), fun h0 => absurd h0 (Int.ne_of_lt hlt)⟩,
    h.stride ▸ dvd_sub_trans (dvd_sub_trans h.dvd_stop hd) h.dvd_start, hl⟩

theorem Widens.trans {I J K : Interval} (h₁ : Widens I J) (h₂ : Widens J K) : Widens I K := by
  have d₁ := h₂.dvd_start; have d₂ := h₂.dvd_stop
  rw [h₁.stride] at d₁ d₂
  exact ⟨h₂.w.trans h₁.w, h₂.stride.trans h₁.stride, Int.le_trans h₂.start_le h₁.start_le,
    Int.le_trans h₁.stop_le h₂.stop_le, h₁.w ▸ h₂.start_in, h₁.w ▸ h₂.stop_in,
    dvd_sub_trans h₁.dvd_start d₁, dvd_sub_trans d₂ h₁.dvd_stop⟩

theorem Widens.of_mem {I J : Interval} (hI : I.WF) (hpos : I.start < I.stop) (hJ : J.WF) (hw : J.w = I.w)
    (hst : J.stride = I.stride ∨ J.stride = 0) (hm : ∀ x, I.Mem x → J.Mem x) : Widens I J := by
  have m1 := hm _ (I.start_mem hI.start_le_stop)
  have m2 := hm _ (I.stop_mem hI)
  -- `J` has two members, so its stride has not been reset
  have hk : J.stride = I.stride := hst.resolve_right fun h0 =>
    Int.lt_irrefl I.stop (Int.lt_of_le_of_lt
      (Int.le_trans m2.2.1 (Int.le_trans (Int.le_of_eq (hJ.stride_eq_zero_iff.mp h0).symm) m1.1)) hpos)
  exact ⟨hw, hk, m1.1, m2.2.1, hw ▸ hJ.start_inRange, hw ▸ hJ.stop_inRange, hk ▸ m1.2.2,
    hk ▸ dvd_sub_of_dvd_sub hJ.stride_dvd m2.2.2⟩

/-- "widen to the lower bound": set the start to a hint below the interval and round it up into
the residue class of the interval -/
theorem adjustStart_widens {I : Interval} (hI : I.WF) (hpos : I.start < I.stop) (hw64 : I.w ≤ 64)
    {l : Int} (hl : l < I.start) (hlr : InRange I.w l) :
    Widens I ({ I with start := l }).adjustStart ∧ (({ I with start := l }).adjustStart).stop = I.stop := by
  have hle : l ≤ I.stop := Int.le_of_lt (Int.lt_trans hl hpos)
  obtain ⟨h1, h2⟩ := adjustStart_wf (I := { I with start := l }) hI.w_pos hw64 hlr hI.stop_inRange hle hI.stride_lt
  exact ⟨.of_mem hI hpos h1 (adjustStart_w _) h2 fun x hx =>
    (mem_adjustStart (I := { I with start := l }) hI.w_pos hw64 hlr hI.stop_inRange hle).mpr
      ⟨Int.le_trans (Int.le_of_lt hl) hx.1, hx.2.1, dvd_sub_of_dvd_sub hx.2.2 hI.stride_dvd⟩, adjustStart_stop _⟩

/-- "widen to the upper bound" -/
theorem adjustEnd_widens {I : Interval} (hI : I.WF) (hpos : I.start < I.stop) (hw64 : I.w ≤ 64)
    {u : Int} (hu : I.stop < u) (hur : InRange I.w u) :
    Widens I ({ I with stop := u }).adjustEnd ∧ (({ I with stop := u }).adjustEnd).start = I.start := by
  have hle : I.start ≤ u := Int.le_of_lt (Int.lt_trans hpos hu)
  obtain ⟨h1, h2⟩ := adjustEnd_wf (I := { I with stop := u }) hI.w_pos hw64 hI.start_inRange hur hle hI.stride_lt
  exact ⟨.of_mem hI hpos h1 (adjustEnd_w _) h2 fun x hx =>
    (mem_adjustEnd (I := { I with stop := u }) hI.w_pos hw64 hI.start_inRange hur hle).mpr
      ⟨hx.1, Int.le_trans hx.2.1 (Int.le_of_lt hu), hx.2.2⟩, adjustEnd_start _⟩

theorem tryToU64_lt {w : Nat} {x : Int} {u : Nat} (h : tryToU64 w x = some u) : u < 2 ^ 64 := by
  unfold tryToU64 at h
  simp only at h
  split at h
  · cases h; assumption
  · cases h

theorem lengthU64_getD_lt (I : Interval) : (lengthU64 I).getD 0 < 2 ^ 64 := by
  unfold lengthU64
  cases h : tryToU64 I.w (wrap I.w (I.stop - I.start)) with
  | none => decide
  | some u => exact tryToU64_lt h

theorem widenLower_w (a b m : IntervalDomain) : (widenLower a b m).1.interval.w = m.interval.w := by
  unfold widenLower
  cases m.lower with
  | none => rfl
  | some l =>
    simp only
    split
    · exact adjustStart_w _
    · rfl

theorem widenUpper_w (a b : IntervalDomain) (mw : IntervalDomain × Bool) :
    (widenUpper a b mw).1.interval.w = mw.1.interval.w := by
  unfold widenUpper
  cases mw.1.upper with
  | none => rfl
  | some u =>
    simp only
    split
    · exact adjustEnd_w _
    · rfl

theorem widenLower_spec (a b m : IntervalDomain) (hI : m.interval.WF)
    (hpos : m.interval.start < m.interval.stop) (hw64 : m.interval.w ≤ 64) (hH : HintsOK m) :
    Widens m.interval (widenLower a b m).1.interval ∧ HintsOK (widenLower a b m).1 := by
  unfold widenLower
  cases hl : m.lower with
  | none => exact ⟨Widens.refl hI, hH⟩
  | some l =>
    simp only
    split
    · obtain ⟨hlt, hlr⟩ := hH.1 l hl
      obtain ⟨hwd, hstop⟩ := adjustStart_widens hI hpos hw64 hlt hlr
      exact ⟨hwd, fun _ h => (by cases h), fun u hu => by
        have := hH.2 u hu; exact ⟨by simp only; rw [hstop]; exact this.1, by simp only; rw [hwd.w]; exact this.2⟩⟩
    · exact ⟨Widens.refl hI, hH⟩

theorem widenUpper_spec (a b : IntervalDomain) (mw : IntervalDomain × Bool) (hI : mw.1.interval.WF)
    (hpos : mw.1.interval.start < mw.1.interval.stop) (hw64 : mw.1.interval.w ≤ 64) (hH : HintsOK mw.1) :
    Widens mw.1.interval (widenUpper a b mw).1.interval ∧ HintsOK (widenUpper a b mw).1 := by
  unfold widenUpper
  cases hu : mw.1.upper with
  | none => exact ⟨Widens.refl hI, hH⟩
  | some u =>
    simp only
    split
    · obtain ⟨hgt, hur⟩ := hH.2 u hu
      obtain ⟨hwd, hstart⟩ := adjustEnd_widens hI hpos hw64 hgt hur
      exact ⟨hwd, fun l hl => by
        have := hH.1 l hl; exact ⟨by simp only; rw [hstart]; exact this.1, by simp only; rw [hwd.w]; exact this.2⟩,
        fun _ h => (by cases h)⟩
    · exact ⟨Widens.refl hI, hH⟩

theorem widen_facts (a b m : IntervalDomain) (hI : m.interval.WF) (hpos : m.interval.start < m.interval.stop)
    (hw64 : m.interval.w ≤ 64) (hH : HintsOK m) :
    Widens m.interval (widenUpper a b (widenLower a b m)).1.interval ∧
    HintsOK (widenUpper a b (widenLower a b m)).1 := by
  obtain ⟨hwd1, hH1⟩ := widenLower_spec a b m hI hpos hw64 hH
  obtain ⟨hwd2, hH2⟩ := widenUpper_spec a b _ (hwd1.wf hI hpos)
    (Int.lt_of_le_of_lt hwd1.start_le (Int.lt_of_lt_of_le hpos hwd1.stop_le)) (hwd1.w ▸ hw64) hH1
  exact ⟨hwd1.trans hwd2, hH2⟩

def ivWF (w : Nat) (a : IntervalDomain) : Prop := a.WF ∧ a.interval.w = w

theorem ivWF_newTop {w : Nat} (hw : 0 < w) : ivWF w (IntervalDomain.newTop w) :=
  ⟨⟨Interval.wf_newTop w hw, fun _ h => (by cases h), fun _ h => (by cases h), Nat.two_pow_pos 64⟩, rfl⟩

theorem signedMergeAndWiden_cases (a b : IntervalDomain) :
    signedMergeAndWiden a b = signedMerge a b ∨
    (signedMerge a b).interval ≠ a.interval ∧
      (signedMergeAndWiden a b =
          { (widenUpper a b (widenLower a b (signedMerge a b))).1 with
            delay := (lengthU64 (widenUpper a b (widenLower a b (signedMerge a b))).1.interval).getD 0 } ∨
       signedMergeAndWiden a b = IntervalDomain.newTop (signedMerge a b).interval.w) := by
  unfold signedMergeAndWiden
  simp only
  split
  · exact .inl rfl
  · next h =>
    split
    · exact .inl rfl
    · refine .inr ⟨fun e => h (.inl e), ?_⟩
      split
      · exact .inl rfl
      · exact .inr rfl

theorem signedMergeAndWiden_w (a b : IntervalDomain) :
    (signedMergeAndWiden a b).interval.w = a.interval.w := by
  have hm := signedMerge_w a b
  rcases signedMergeAndWiden_cases a b with h | ⟨-, h | h⟩ <;> rw [h]
  · exact hm
  · exact (widenUpper_w a b _).trans ((widenLower_w a b _).trans hm)
  · exact hm

theorem merge_result_of_wf {a b : IntervalDomain} (ha : a.WF) (hb : b.WF)
    (hw : b.interval.w = a.interval.w) (hw64 : a.interval.w ≤ 64) :
    (signedMergeAndWiden a b).WF ∧ (signedMergeAndWiden a b).interval.w = a.interval.w ∧
    (∀ x, (signedMergeI a.interval b.interval).Mem x → (signedMergeAndWiden a b).Mem x) := by
  have hm := signedMerge_wf ha hb hw hw64
  have hmw := signedMerge_w a b
  have eI := signedMerge_interval a b
  have hmem : ∀ x, (signedMergeI a.interval b.interval).Mem x → (signedMerge a b).Mem x :=
    fun x hx => by unfold IntervalDomain.Mem; rwa [eI]
  rcases signedMergeAndWiden_cases a b with h | ⟨hne, h | h⟩ <;> rw [h]
  · exact ⟨hm, hmw, hmem⟩
  · -- widening only happens to a merged interval that differs from `a`'s, hence is no singleton
    have hpos : (signedMerge a b).interval.start < (signedMerge a b).interval.stop := by
      rw [eI]
      exact signedMergeI_start_lt_stop ha.1 hb.1 hw hw64 fun h => hne (eI.trans h)
    obtain ⟨hwd, hH⟩ := widen_facts a b _ hm.1 hpos (hmw ▸ hw64) (signedMerge_hintsOK ha hb hw)
    exact ⟨⟨hwd.wf hm.1 hpos, fun u h => (hH.2 u h).2, fun l h => (hH.1 l h).2, lengthU64_getD_lt _⟩,
      hwd.w.trans hmw, fun x hx => hwd.mem (hmem x hx)⟩
  · refine ⟨hmw ▸ (ivWF_newTop ha.1.w_pos).1, hmw, fun x hx => ?_⟩
    have := Interval.mem_inRange (wf_signedMergeI ha.1 hb.1 hw hw64) hx
    rw [signedMergeI_w, ← hmw] at this
    exact (Interval.mem_newTop _ x).mpr this

/-- what `signed_merge_and_widen` returns on well-formed inputs of the same width (≤ 64 bits):
a well-formed value of that width that contains the plain merged interval -/
theorem merge_result {a b : IntervalDomain} (ha : a.WF) (hb : b.WF)
    (hw : b.interval.w = a.interval.w) (hw1 : 1 < a.interval.w) (hw64 : a.interval.w ≤ 64) :
    (signedMergeAndWiden a b).WF ∧ (signedMergeAndWiden a b).interval.w = a.interval.w ∧
    (∀ x, (signedMergeI a.interval b.interval).Mem x → (signedMergeAndWiden a b).Mem x) :=
  merge_result_of_wf ha hb hw hw64

theorem ivDom_γ (a : IntervalDomain) (x : Int) : ivDom.γ a x ↔ a.Mem x := by
  unfold Dom.γ ivDom; simp

/-- law 2 in the inclusion form, with the structural consequence: merging an already contained
value performs no widening and leaves the interval (the value set) unchanged -/
theorem signedMergeAndWiden_absorb {a b : IntervalDomain} (ha : a.WF) (hb : b.WF)
    (hw : b.interval.w = a.interval.w) (hw64 : a.interval.w ≤ 64)
    (hle : ∀ x, b.Mem x → a.Mem x) : (signedMergeAndWiden a b).interval = a.interval := by
  have : (signedMerge a b).interval = a.interval :=
    (signedMerge_interval a b).trans (signedMergeI_absorb ha.1 hb.1 hw hw64 hle)
  unfold signedMergeAndWiden
  simp only [this, true_or, if_true]

theorem wrap_smin_pred (w : Nat) (hw : 0 < w) : wrap w (smin w - 1) = smax w := by
  have h : smin w ≤ smax w ∧ smin w - 1 = smax w + -1 * pow2 w := by
    have := pow2_pos (w - 1); have := pow2_eq w hw
    unfold smin smax; omega
  exact wrap_eq w hw (-1) ⟨h.1, Int.le_refl _⟩ h.2

theorem isTop_newTop (w : Nat) : (IntervalDomain.newTop w).isTop = true := by
  show (wrap w (smin w - 1) == smax w && 1 == 1) = true
  rcases Nat.eq_zero_or_pos w with rfl | hw
  · decide
  · rw [wrap_smin_pred w hw]; simp

theorem eq_newTop_of_isTop {I : Interval} (h : I.WF) (ht : I.isTop = true) : I = Interval.newTop I.w := by
  obtain ⟨w, s, e, k⟩ := I
  obtain ⟨hw, hs, he, hse, -, -, -⟩ := h
  simp only [Interval.isTop, Bool.and_eq_true, beq_iff_eq] at ht hw hs he hse
  -- otherwise `s - 1` is in range and equals the stop, which is not below the start
  have hstart : s = smin w := by
    apply Classical.byContradiction; intro hne
    have hin : InRange w (s - 1) :=
      ⟨Int.le_sub_one_of_lt (Int.lt_iff_le_and_ne.mpr ⟨hs.1, Ne.symm hne⟩),
       Int.le_trans (Int.sub_le_self s (by decide)) hs.2⟩
    rw [wrap_of_inRange _ hw hin] at ht; omega
  rw [hstart, wrap_smin_pred w hw] at ht
  rw [hstart, ← ht.1, ht.2]; rfl

theorem isTop_mem {a : IntervalDomain} (ha : a.WF) (ht : a.isTop = true) (x : Int) :
    a.Mem x ↔ InRange a.interval.w x := by
  unfold IntervalDomain.Mem
  rw [eq_newTop_of_isTop ha.1 ht]; exact Interval.mem_newTop _ x

theorem signedMergeAndWiden_ub {w : Nat} (hw64 : w ≤ 64) {a b : IntervalDomain} (ha : ivWF w a)
    (hb : ivWF w b) :
    ivWF w (signedMergeAndWiden a b) ∧ (∀ x, a.Mem x → (signedMergeAndWiden a b).Mem x) ∧
      ∀ x, b.Mem x → (signedMergeAndWiden a b).Mem x := by
  have hw := hb.2.trans ha.2.symm
  obtain ⟨h1, h2, h3⟩ := merge_result_of_wf ha.1 hb.1 hw (ha.2 ▸ hw64)
  have hm := fun x hx => h3 x (mem_signedMergeI ha.1.1 hb.1.1 hw (ha.2 ▸ hw64) hx)
  exact ⟨⟨h1, h2.trans ha.2⟩, fun x hx => hm x (.inl hx), fun x hx => hm x (.inr hx)⟩

theorem ivWF_merge {w : Nat} (hw64 : w ≤ 64) {a b : IntervalDomain} (ha : ivWF w a)
    (hb : ivWF w b) :
    ivWF w (ivDom.merge a b) ∧ ivDom.le a (ivDom.merge a b) ∧ ivDom.le b (ivDom.merge a b) := by
  obtain ⟨h1, h2, h3⟩ := signedMergeAndWiden_ub hw64 ha hb
  exact ⟨h1, fun x hx => (ivDom_γ _ x).mpr (h2 x ((ivDom_γ a x).mp hx)),
    fun x hx => (ivDom_γ _ x).mpr (h3 x ((ivDom_γ b x).mp hx))⟩

theorem ivWF_absorb {w : Nat} (hw64 : w ≤ 64) {a b : IntervalDomain} (ha : ivWF w a) (hb : ivWF w b)
    (hle : ivDom.le b a) : ivDom.eqv (ivDom.merge a b) a := by
  intro x
  have := signedMergeAndWiden_absorb ha.1 hb.1 (hb.2.trans ha.2.symm) (ha.2 ▸ hw64)
    fun x hx => (ivDom_γ a x).mp (hle x ((ivDom_γ b x).mpr hx))
  rw [ivDom_γ, ivDom_γ]
  show (signedMergeAndWiden a b).interval.Mem x ↔ a.interval.Mem x
  rw [this]

theorem ivWF_bytes {s : Nat} {a : IntervalDomain} (ha : ivWF (8 * s) a) : 8 * ivBytes a = 8 * s := by
  rw [ivBytes, ha.2, Nat.mul_add_div (by decide)]; rfl

/-- **C03-interval (1 to 8 bytes).** `IntervalDomain::merge` = `signed_merge_and_widen`
satisfies the merge laws on well-formed values of one width, *including all widening steps*: the
result (plain merge, widened to a hint with stride adjustment, or `Top`) contains both inputs;
merging something already contained (`γ b ⊆ γ a`) performs no widening and leaves the value set
unchanged (so re-merging an absorbed input, and merging a value with itself, do not enlarge);
`merge_with` represents the same set.

Full statement (not proved for widths above 64 bits, where `try_to_u64`/`try_to_i64` can fail and
the code falls back to stride 1): the same for every byte size. There the inclusion form of
law 2 is in fact FALSE in the model (`[0, 3*2^64]` stride 3 merged with `{3*2^64}` gives stride 1);
laws 1, 3 and the literal form of law 2 are expected to hold. -/
theorem ivDom_laws_partial (s : Nat) (hs1 : 1 ≤ s) (hs8 : s ≤ 8) :
    Laws ivDom (ivWF (8 * s)) (InRange (8 * s)) := by
  have hw0 : 0 < 8 * s := by omega
  have hw64 : 8 * s ≤ 64 := by omega
  exact
    { merge_wf := fun ha hb => (ivWF_merge hw64 ha hb).1
      mergeWith_wf := fun ha hb => defaultMergeWith_wf ha (ivWF_merge hw64 ha hb).1
      top_wf := fun {a} ha => by
        show ivWF _ (IntervalDomain.newTop (8 * ivBytes a))
        rw [ivWF_bytes ha]; exact ivWF_newTop hw0
      sound_l := fun ha hb => (ivWF_merge hw64 ha hb).2.1
      sound_r := fun ha hb => (ivWF_merge hw64 ha hb).2.2
      absorb := ivWF_absorb hw64
      mergeWith_eqv := fun {a b} ha _ =>
        defaultMergeWith_eqv ivDom a b rfl (ivWF_absorb hw64 ha ha (Laws.le_refl _ a))
      isTop_γ := fun {a} ha ht x => by rw [ivDom_γ, isTop_mem ha.1 ht x, ha.2]
      top_γ := fun {a} ha x => by
        rw [ivDom_γ]
        show (Interval.newTop (8 * ivBytes a)).Mem x ↔ _
        rw [ivWF_bytes ha, Interval.mem_newTop] }

/-- `Top` is maximal for this kind (needed by the Intersect strategy and by `MemRegion`) -/
theorem ivTop_max (w : Nat) (a : IntervalDomain) (ha : ivWF w a) (x : Int) (h : ivDom.γ a x) :
    InRange w x := by
  rw [ivDom_γ] at h
  rw [← ha.2]; exact Interval.mem_inRange ha.1.1 h

/-! ### non-vacuity and the wide-width counterexample -/

/-- a loop counter: `[0,4]` stride 4 with upper hint 41, merged with `[8,12]` stride 4 -/
def exA : IntervalDomain := { interval := ⟨8, 0, 4, 4⟩, upper := some 41, lower := none, delay := 0 }
def exB : IntervalDomain := { interval := ⟨8, 8, 12, 4⟩, upper := none, lower := none, delay := 0 }

example : ivWF 8 exA ∧ ivWF 8 exB :=
  ⟨⟨⟨by decide, fun u h => (by cases h; decide), fun l h => (by cases h), (by decide)⟩, rfl⟩,
   ⟨⟨by decide, fun u h => (by cases h), fun l h => (by cases h), (by decide)⟩, rfl⟩⟩
-- widened to the hint 41 rounded down into the residue class: `[0,40]` stride 4
example : signedMergeAndWiden exA exB =
    { interval := ⟨8, 0, 40, 4⟩, upper := none, lower := none, delay := 40 } := by decide
example : (signedMergeAndWiden exA exB).Mem 12 := by decide
-- above 64 bits the inclusion form of law 2 fails in the model (see `ivDom_laws_partial`)
example : (signedMergeI ⟨128, 0, 3 * 2 ^ 64, 3⟩ ⟨128, 3 * 2 ^ 64, 3 * 2 ^ 64, 0⟩).stride = 1 := by decide

end CweModel.C03
