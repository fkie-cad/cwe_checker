/-
C03 — `DomainMap<K, V, S>` under the three `MapMergeStrategy`s
(`src/cwe_checker_lib/src/abstract_domain/domain_map.rs`), generically over the value kind.

Model: `combUnion / combIntersect / combMergeTop` are the loop bodies of the three
`merge_map_with` functions, as a function of "value of the key in `map`" and "value of the key in
`other`". `mapMerge` adds the `if self == other` short cut of `DomainMap::merge(_with)`.

Reading of an absent key (`readKey`): nothing (`⊥`) under Union, the set `G` represented by the value
kind's `Top` under Intersect and MergeTop; for Intersect the theorems require `G` to contain what every
value of the kind represents ("the `Top` value of the value abstract domain is an actual maximal
value").
-/
import CweModel.C03.Dom
import CweModel.C03.AList

namespace CweModel.C03

inductive Strategy where
  | union | intersect | mergeTop
deriving DecidableEq, Repr

variable {V C : Type}

/-- `!value.is_top()` as the result of a `retain` closure / the guard of an `insert` -/
def keepNonTop (D : Dom V C) (v : V) : Option V := if D.isTop v then none else some v

/-- `UnionMergeStrategy::merge_map_with`:
`for (key, value_other) in other { map.entry(key).and_modify(|v| v.merge_with(value_other)).or_insert(value_other) }` -/
def combUnion (D : Dom V C) (_k : Int) : Option V → Option V → Option V
  | some v, some w => some (D.mergeWith v w)
  | some v, none => some v
  | none, some w => some w
  | none, none => none

/-- `IntersectMergeStrategy::merge_map_with`:
`map.retain(|k, value| { let Some(o) = other.get(k) else { return false }; value.merge_with(o); !value.is_top() })` -/
def combIntersect (D : Dom V C) (_k : Int) : Option V → Option V → Option V
  | some v, some w => keepNonTop D (D.mergeWith v w)
  | _, _ => none

/-- `MergeTopStrategy::merge_map_with`: first the `retain` (merge with the other value or with
`value.top()`, drop if the result is top), then the loop over `other` which, for every key that is
*now* absent from `map` — never present, or just dropped by the `retain` — inserts
`value_other.top().merge_with(value_other)` unless that is top. -/
def combMergeTop (D : Dom V C) (_k : Int) : Option V → Option V → Option V
  | some v, some w =>
    let m := D.mergeWith v w
    if D.isTop m then keepNonTop D (D.mergeWith (D.top w) w) else some m
  | some v, none => keepNonTop D (D.mergeWith v (D.top v))
  | none, some w => keepNonTop D (D.mergeWith (D.top w) w)
  | none, none => none

def comb (S : Strategy) (D : Dom V C) : Int → Option V → Option V → Option V :=
  match S with
  | .union => combUnion D
  | .intersect => combIntersect D
  | .mergeTop => combMergeTop D

/-- `S::merge_map_with(map, other)` (also `S::merge_map`, which clones and calls it) -/
def mergeMapWith (S : Strategy) (D : Dom V C) (a b : AList V) : AList V := mergeBy (comb S D) a b

/-- `DomainMap::merge_with`: `if self != other { S::merge_map_with(..) }` -/
def mapMergeWith [DecidableEq V] (S : Strategy) (D : Dom V C) (a b : AList V) : AList V :=
  if a = b then a else mergeMapWith S D a b

/-- `DomainMap::merge`: `if self == other { self.clone() } else { clone; merge_with }` -/
def mapMerge [DecidableEq V] (S : Strategy) (D : Dom V C) (a b : AList V) : AList V :=
  if a = b then a else mapMergeWith S D a b

/-- `DomainMap::is_top` -/
def mapIsTop (m : AList V) : Bool := m.isEmpty

/-- what a map says about the values of key `k`, given the entry found for `k` -/
def readKey (S : Strategy) (D : Dom V C) (G : C → Prop) : Option V → C → Prop
  | some v, c => D.γ v c
  | none, c => if S = .union then False else G c

def MapWF (wfk : Int → V → Prop) (m : AList V) : Prop := ∀ k v, m.get k = some v → wfk k v

theorem mapWF_nil {wfk : Int → V → Prop} : MapWF wfk [] := fun _ _ h => nomatch h

theorem mapWF_cons {wfk : Int → V → Prop} {k : Int} {v : V} {m : AList V} (hv : wfk k v)
    (hm : MapWF wfk m) : MapWF wfk ((k, v) :: m) := by
  intro k' v' h
  unfold AList.get at h
  split at h
  · next e => cases h; exact e ▸ hv
  · exact hm k' v' h

section
variable {D : Dom V C} {wf : V → Prop} {G : C → Prop}

theorem comb_none (S : Strategy) (D : Dom V C) (k : Int) : comb S D k none none = none := by
  cases S <;> rfl

theorem read_keepNonTop (L : Laws D wf G) {S : Strategy} (hS : S ≠ .union) {v : V} (hv : wf v) (c : C) :
    readKey S D G (keepNonTop D v) c ↔ D.γ v c := by
  unfold keepNonTop
  cases ht : D.isTop v with
  | true => simp only [if_true, readKey, hS, if_false]; exact (L.isTop_γ hv ht c).symm
  | false => simp [readKey]

theorem wf_keepNonTop {v u : V} (hv : wf v) (h : keepNonTop D v = some u) : wf u := by
  unfold keepNonTop at h
  split at h
  · cases h
  · cases h; exact hv

theorem comb_wf (L : Laws D wf G) (S : Strategy) (k : Int) {ov ow : Option V}
    (hv : ∀ v, ov = some v → wf v) (hw : ∀ w, ow = some w → wf w) :
    ∀ u, comb S D k ov ow = some u → wf u := by
  intro u hu
  have withTop : ∀ {w : V}, wf w → keepNonTop D (D.mergeWith (D.top w) w) = some u → wf u :=
    fun hw => wf_keepNonTop (L.mergeWith_wf (L.top_wf hw) hw)
  cases ov with
  | none =>
    cases ow with
    | none => rw [comb_none] at hu; cases hu
    | some w =>
      cases S with
      | union => cases hu; exact hw _ rfl
      | intersect => cases hu
      | mergeTop => exact withTop (hw w rfl) hu
  | some v =>
    have hv' := hv v rfl
    cases ow with
    | none =>
      cases S with
      | union => cases hu; exact hv'
      | intersect => cases hu
      | mergeTop => exact wf_keepNonTop (L.mergeWith_wf hv' (L.top_wf hv')) hu
    | some w =>
      have hm := L.mergeWith_wf hv' (hw w rfl)
      cases S with
      | union => cases hu; exact hm
      | intersect => exact wf_keepNonTop hm hu
      | mergeTop =>
        simp only [comb, combMergeTop] at hu
        split at hu
        · exact withTop (hw w rfl) hu
        · cases hu; exact hm

/-- `merge_with` followed by "drop if top" (not under Union, where a dropped entry would read as nothing) -/
theorem joins_keepNonTop (L : Laws D wf G) {S : Strategy} (hS : S ≠ .union) {v w : V} (hv : wf v)
    (hw : wf w) : Joins (D.γ v) (D.γ w) (readKey S D G (keepNonTop D (D.mergeWith v w))) :=
  (L.mw_joins hv hw).congr (fun _ => Iff.rfl) (fun _ => Iff.rfl)
    fun c => (read_keepNonTop L hS (L.mergeWith_wf hv hw) c).symm

theorem comb_joins (L : Laws D wf G) (S : Strategy) (hG : S = .intersect → ∀ v, wf v → ∀ c, D.γ v c → G c)
    (k : Int) {ov ow : Option V} (hv : ∀ v, ov = some v → wf v) (hw : ∀ w, ow = some w → wf w) :
    Joins (readKey S D G ov) (readKey S D G ow) (readKey S D G (comb S D k ov ow)) := by
  -- under MergeTop an absent key is treated as `Top`, which is also how it reads
  have withTop : ∀ {w : V}, wf w → Joins G (D.γ w)
      (readKey .mergeTop D G (keepNonTop D (D.mergeWith (D.top w) w))) := fun hw =>
    (joins_keepNonTop L (by decide) (L.top_wf hw) hw).congr (L.top_γ hw) (fun _ => Iff.rfl) fun _ => Iff.rfl
  cases ov with
  | none =>
    cases ow with
    | none => rw [comb_none]; exact Joins.of_ge fun _ => id
    | some w =>
      cases S with
      | union => exact Joins.of_le fun _ h => h.elim
      | intersect => exact Joins.of_ge (hG rfl w (hw w rfl))
      | mergeTop => exact withTop (hw w rfl)
  | some v =>
    have hv' := hv v rfl
    cases ow with
    | none =>
      cases S with
      | union => exact Joins.of_ge fun _ h => h.elim
      | intersect => exact Joins.of_le (hG rfl v hv')
      | mergeTop =>
        exact (joins_keepNonTop L (by decide) hv' (L.top_wf hv')).congr (fun _ => Iff.rfl) (L.top_γ hv')
          fun _ => Iff.rfl
    | some w =>
      have hw' := hw w rfl
      have hm := L.mw_joins hv' hw'
      cases S with
      | union => exact hm
      | intersect => exact joins_keepNonTop L (by decide) hv' hw'
      | mergeTop =>
        show Joins _ _ (readKey _ D G (if D.isTop (D.mergeWith v w) then _ else _))
        split
        · next ht =>
          -- the merge is `Top`, so `v` is below `G`; what is stored is `top w` merged with `w`
          have hmG := L.isTop_γ (L.mergeWith_wf hv' hw') ht
          have hvG : ∀ c, D.γ v c → G c := fun c h => (hmG c).mp (hm.1 c (.inl h))
          refine ⟨fun c h => (withTop hw').1 c (h.imp (hvG c) id), fun hle c => ?_⟩
          -- `v` absorbs `w`, hence represents exactly `G`
          have hGv : ∀ c, G c → D.γ v c := fun c h => (hm.2 hle c).mp ((hmG c).mpr h)
          exact ((withTop hw').2 (fun c h => hvG c (hle c h)) c).trans ⟨hGv c, hvG c⟩
        · exact hm

end

section
variable [DecidableEq V] {D : Dom V C} {wfk : Int → V → Prop} {Gk : Int → C → Prop}

omit [DecidableEq V] in
theorem get_mergeMapWith (S : Strategy) (D : Dom V C) (a b : AList V) (k : Int) :
    (mergeMapWith S D a b).get k = comb S D k (a.get k) (b.get k) :=
  get_mergeBy (comb S D) (comb_none S D) a b k

theorem get_mapMerge (S : Strategy) (D : Dom V C) (a b : AList V) (k : Int) :
    (mapMerge S D a b).get k = if a = b then a.get k else comb S D k (a.get k) (b.get k) := by
  unfold mapMerge mapMergeWith
  by_cases h : a = b
  · simp [h]
  · simp only [h, if_false]; exact get_mergeMapWith S D a b k

/-- **C03-map-wf.** merged maps store values of the right kind -/
theorem mapMerge_wf (L : ∀ k, Laws D (wfk k) (Gk k)) (S : Strategy) {a b : AList V}
    (ha : MapWF wfk a) (hb : MapWF wfk b) : MapWF wfk (mapMerge S D a b) := by
  intro k u hu
  rw [get_mapMerge] at hu
  split at hu
  · exact ha k u hu
  · exact comb_wf (L k) S k (ha k) (hb k) u hu

/-- **Laws 1 and 2 for maps, key by key**, for each of the three strategies, over any value kind
satisfying the laws -/
theorem mapMerge_joins (L : ∀ k, Laws D (wfk k) (Gk k)) (S : Strategy)
    (hG : S = .intersect → ∀ k v, wfk k v → ∀ c, D.γ v c → Gk k c) {a b : AList V} (ha : MapWF wfk a) (hb : MapWF wfk b)
    (k : Int) :
    Joins (readKey S D (Gk k) (a.get k)) (readKey S D (Gk k) (b.get k))
      (readKey S D (Gk k) ((mapMerge S D a b).get k)) := by
  rw [get_mapMerge]
  split
  · rename_i hab; subst hab; exact Joins.of_ge fun _ => id
  · exact comb_joins (L k) S (fun hs => hG hs k) k (ha k) (hb k)

/-- **C03-map-sound (law 1).** For every key, every concrete value that either input map allows for
that key is allowed by the merged map. -/
theorem mapMerge_sound (L : ∀ k, Laws D (wfk k) (Gk k)) (S : Strategy)
    (hG : S = .intersect → ∀ k v, wfk k v → ∀ c, D.γ v c → Gk k c) {a b : AList V} (ha : MapWF wfk a) (hb : MapWF wfk b)
    (k : Int) (c : C)
    (h : readKey S D (Gk k) (a.get k) c ∨ readKey S D (Gk k) (b.get k) c) :
    readKey S D (Gk k) ((mapMerge S D a b).get k) c :=
  (mapMerge_joins L S hG ha hb k).1 c h

/-- **C03-map-absorb (law 2).** If everything `b` allows is allowed by `a` (key by key), merging
`b` into `a` does not change what is allowed for any key. -/
theorem mapMerge_absorb (L : ∀ k, Laws D (wfk k) (Gk k)) (S : Strategy)
    (hG : S = .intersect → ∀ k v, wfk k v → ∀ c, D.γ v c → Gk k c) {a b : AList V} (ha : MapWF wfk a) (hb : MapWF wfk b)
    (hle : ∀ k c, readKey S D (Gk k) (b.get k) c → readKey S D (Gk k) (a.get k) c)
    (k : Int) (c : C) :
    readKey S D (Gk k) ((mapMerge S D a b).get k) c ↔ readKey S D (Gk k) (a.get k) c :=
  (mapMerge_joins L S hG ha hb k).2 (hle k) c

/-- **C03-map-absorb, literal form.** `merge (merge a b) b` allows exactly what `merge a b` allows. -/
theorem mapMerge_absorb_merged (L : ∀ k, Laws D (wfk k) (Gk k)) (S : Strategy)
    (hG : S = .intersect → ∀ k v, wfk k v → ∀ c, D.γ v c → Gk k c) {a b : AList V} (ha : MapWF wfk a) (hb : MapWF wfk b)
    (k : Int) (c : C) :
    readKey S D (Gk k) ((mapMerge S D (mapMerge S D a b) b).get k) c
      ↔ readKey S D (Gk k) ((mapMerge S D a b).get k) c :=
  (mapMerge_joins L S hG ha hb k).absorb_merged (mapMerge_joins L S hG (mapMerge_wf L S ha hb) hb k) c

/-- **C03-map-idem (law 3).** merging a map with itself returns it unchanged -/
theorem mapMerge_self (S : Strategy) (D : Dom V C) (a : AList V) : mapMerge S D a a = a := by
  simp [mapMerge]

/-- **C03-map-merge_with (law 4).** `DomainMap::merge_with` computes the same map as `merge` -/
theorem mapMergeWith_eq_mapMerge (S : Strategy) (D : Dom V C) (a b : AList V) :
    mapMergeWith S D a b = mapMerge S D a b := by
  unfold mapMerge
  by_cases h : a = b
  · simp [h, mapMergeWith]
  · simp [h]

/-- the set of key→value assignments a map represents -/
def mapγ (S : Strategy) (D : Dom V C) (Gk : Int → C → Prop) (m : AList V) (f : Int → C) : Prop :=
  ∀ k, readKey S D (Gk k) (m.get k) (f k)

/-- **C03-map-sound, assignment form.** `γ a ∪ γ b ⊆ γ (merge a b)` -/
theorem mapγ_sound (L : ∀ k, Laws D (wfk k) (Gk k)) (S : Strategy)
    (hG : S = .intersect → ∀ k v, wfk k v → ∀ c, D.γ v c → Gk k c) {a b : AList V} (ha : MapWF wfk a) (hb : MapWF wfk b)
    (f : Int → C) (h : mapγ S D Gk a f ∨ mapγ S D Gk b f) : mapγ S D Gk (mapMerge S D a b) f := by
  intro k
  rcases h with h | h
  · exact mapMerge_sound L S hG ha hb k _ (Or.inl (h k))
  · exact mapMerge_sound L S hG ha hb k _ (Or.inr (h k))

/-- **C03-map-absorb, assignment form.** `γ (merge (merge a b) b) = γ (merge a b)` -/
theorem mapγ_absorb_merged (L : ∀ k, Laws D (wfk k) (Gk k)) (S : Strategy)
    (hG : S = .intersect → ∀ k v, wfk k v → ∀ c, D.γ v c → Gk k c) {a b : AList V} (ha : MapWF wfk a) (hb : MapWF wfk b)
    (f : Int → C) :
    mapγ S D Gk (mapMerge S D (mapMerge S D a b) b) f ↔ mapγ S D Gk (mapMerge S D a b) f := by
  constructor
  · intro h k; exact (mapMerge_absorb_merged L S hG ha hb k (f k)).mp (h k)
  · intro h k; exact (mapMerge_absorb_merged L S hG ha hb k (f k)).mpr (h k)

end

end CweModel.C03
