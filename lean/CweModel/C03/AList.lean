/-
C03 — `BTreeMap<K, V>` as an association list in key order, with integer keys.

The merge functions of `DomainMap` (and the `relative_values` merge of `DataDomain`) visit keys with
`retain`, `entry(..).and_modify(..).or_insert_with(..)`, `get` and `insert`. Each of these loops
acts key by key, so the model builds the result as

    buildMap (unionKeys a b) (fun k => comb k (get a k) (get b k))

i.e. the keys of both maps in ascending order (the iteration/serialisation order of a `BTreeMap`),
each mapped through the loop body `comb`. The loop bodies themselves are in `Maps.lean` /
`Data.lean`. That the Rust loops have this key-wise effect is part of what the correspondence run
checks (it compares whole maps, entry by entry).
-/
namespace CweModel.C03

abbrev AList (V : Type) := List (Int × V)

variable {V : Type}

/-- `BTreeMap::get` -/
def AList.get : AList V → Int → Option V
  | [], _ => none
  | (k', v) :: rest, k => if k' = k then some v else AList.get rest k

def AList.keys (m : AList V) : List Int := m.map (·.1)

/-- insert into an ascending list without duplicates -/
def insertKey (k : Int) : List Int → List Int
  | [] => [k]
  | x :: xs => if k = x then x :: xs else if k < x then k :: x :: xs else x :: insertKey k xs

/-- the keys of both maps, ascending, no duplicates -/
def unionKeys (a b : AList V) : List Int :=
  (a.keys ++ b.keys).foldr insertKey []

/-- the map with entries `(k, f k)` for the `k ∈ keys` where `f k` is present -/
def buildMap (keys : List Int) (f : Int → Option V) : AList V :=
  keys.filterMap (fun k => (f k).map (fun v => (k, v)))

/-- key-wise combination of two maps; `comb k none none` is never used -/
def mergeBy (comb : Int → Option V → Option V → Option V) (a b : AList V) : AList V :=
  buildMap (unionKeys a b) (fun k => comb k (a.get k) (b.get k))

theorem mem_insertKey {k x : Int} {l : List Int} : x ∈ insertKey k l ↔ x = k ∨ x ∈ l := by
  induction l with
  | nil => simp [insertKey]
  | cons y ys ih =>
    unfold insertKey
    split
    · rename_i h; subst h; simp
    · split
      · simp
      · simp only [List.mem_cons, ih]
        constructor
        · rintro (h | h | h) <;> simp [h]
        · rintro (h | h | h) <;> simp [h]

theorem mem_foldr_insertKey {x : Int} {l : List Int} : x ∈ l.foldr insertKey [] ↔ x ∈ l := by
  induction l with
  | nil => simp
  | cons y ys ih => simp [List.foldr_cons, mem_insertKey, ih]

theorem mem_unionKeys {a b : AList V} {k : Int} : k ∈ unionKeys a b ↔ k ∈ a.keys ∨ k ∈ b.keys := by
  unfold unionKeys
  rw [mem_foldr_insertKey, List.mem_append]

theorem AList.get_none_of_not_mem {m : AList V} {k : Int} (h : k ∉ m.keys) : m.get k = none := by
  induction m with
  | nil => rfl
  | cons e rest ih =>
    obtain ⟨k', v⟩ := e
    simp only [AList.keys, List.map_cons, List.mem_cons, not_or] at h
    have hne : ¬ k' = k := fun h' => h.1 h'.symm
    simp only [AList.get, hne, if_false]
    exact ih h.2

theorem AList.mem_keys_of_get {m : AList V} {k : Int} {v : V} (h : m.get k = some v) : k ∈ m.keys := by
  apply Classical.byContradiction
  intro hn
  rw [AList.get_none_of_not_mem hn] at h
  cases h

theorem get_buildMap (keys : List Int) (f : Int → Option V) (k : Int) :
    (buildMap keys f).get k = if k ∈ keys then f k else none := by
  induction keys with
  | nil => simp [buildMap, AList.get]
  | cons x xs ih =>
    unfold buildMap at ih ⊢
    rw [List.filterMap_cons]
    cases hfx : f x with
    | none =>
      simp only [Option.map_none]
      rw [ih]
      by_cases hk : k = x
      · subst hk; simp [hfx]
      · simp [hk]
    | some v =>
      simp only [Option.map_some, AList.get]
      by_cases hk : x = k
      · subst hk; simp [hfx]
      · have hk' : ¬ k = x := fun h => hk h.symm
        simp only [hk, if_false, List.mem_cons, hk', false_or]
        exact ih

theorem get_mergeBy (comb : Int → Option V → Option V → Option V)
    (hnone : ∀ k, comb k none none = none) (a b : AList V) (k : Int) :
    (mergeBy comb a b).get k = comb k (a.get k) (b.get k) := by
  unfold mergeBy
  rw [get_buildMap]
  by_cases h : k ∈ unionKeys a b
  · simp [h]
  · simp only [h, if_false]
    rw [mem_unionKeys, not_or] at h
    rw [AList.get_none_of_not_mem h.1, AList.get_none_of_not_mem h.2, hnone]

end CweModel.C03
