/-
Lawfulness of the derived `BEq` instances of `CweModel.Base.IR` (IR.lean derives `BEq` and
`DecidableEq` independently, so `a ∈ l`, `l.contains a`, `a == b` on `Tid`s, `Variable`s and `Expression`s need
`LawfulBEq` to be decidable / to be rewritten to `=`). On an enumeration the derived `==` compares constructor
indices; on `Expression` it is the structural comparison. Last, what a block lookup `find? (·.tid == t)` returns.
Core-only.
-/
import CweModel.Base.IR
namespace CweModel.IR

deriving instance ReflBEq, LawfulBEq for Tid

instance : LawfulBEq Variable where
  rfl := by intro a; cases a; simp [BEq.beq, instBEqVariable.beq]
  eq_of_beq := by
    intro a b h; cases a; cases b
    simp [BEq.beq, instBEqVariable.beq] at h
    simp [h]

instance instReflBEqBinOpType : ReflBEq BinOpType := ⟨fun {x} => BEq.rfl (a := x.ctorIdx)⟩

instance instLawfulBEqBinOpType : LawfulBEq BinOpType where
  eq_of_beq {a b} h := by
    rw [← BinOpType.ofNat_ctorIdx a, ← BinOpType.ofNat_ctorIdx b, eq_of_beq (α := Nat) h]

instance instReflBEqUnOpType : ReflBEq UnOpType := ⟨fun {x} => BEq.rfl (a := x.ctorIdx)⟩

instance instLawfulBEqUnOpType : LawfulBEq UnOpType where
  eq_of_beq {a b} h := by
    rw [← UnOpType.ofNat_ctorIdx a, ← UnOpType.ofNat_ctorIdx b, eq_of_beq (α := Nat) h]

instance instReflBEqCastOpType : ReflBEq CastOpType := ⟨fun {x} => BEq.rfl (a := x.ctorIdx)⟩

instance instLawfulBEqCastOpType : LawfulBEq CastOpType where
  eq_of_beq {a b} h := by
    rw [← CastOpType.ofNat_ctorIdx a, ← CastOpType.ofNat_ctorIdx b, eq_of_beq (α := Nat) h]

instance instReflBEqExpression : ReflBEq Expression where
  rfl {a} := by
    show instBEqExpression.beq a a = true
    induction a <;> simp only [instBEqExpression.beq, BEq.rfl, Bool.and_self, *]

instance instLawfulBEqExpression : LawfulBEq Expression where
  eq_of_beq {a b} h := by
    replace h : instBEqExpression.beq a b = true := h
    -- off the diagonal `instBEqExpression.beq a b` reduces to `false`
    induction a generalizing b with
    | Var v => cases b with
      | Var w => rw [eq_of_beq (a := v) h]
      | _ => exact absurd h Bool.false_ne_true
    | Const c x => cases b with
      | Const d y =>
        simp only [instBEqExpression.beq, Bool.and_eq_true, beq_iff_eq] at h
        rw [h.1, h.2]
      | _ => exact absurd h Bool.false_ne_true
    | BinOp op l r ihl ihr => cases b with
      | BinOp op' l' r' =>
        simp only [instBEqExpression.beq, Bool.and_eq_true, beq_iff_eq] at h
        rw [h.1, ihl h.2.1, ihr h.2.2]
      | _ => exact absurd h Bool.false_ne_true
    | UnOp op x ih => cases b with
      | UnOp op' x' =>
        simp only [instBEqExpression.beq, Bool.and_eq_true, beq_iff_eq] at h
        rw [h.1, ih h.2]
      | _ => exact absurd h Bool.false_ne_true
    | Cast op s x ih => cases b with
      | Cast op' s' x' =>
        simp only [instBEqExpression.beq, Bool.and_eq_true, beq_iff_eq] at h
        rw [h.1, h.2.1, ih h.2.2]
      | _ => exact absurd h Bool.false_ne_true
    | Unknown d s => cases b with
      | Unknown d' s' =>
        simp only [instBEqExpression.beq, Bool.and_eq_true, beq_iff_eq] at h
        rw [h.1, h.2]
      | _ => exact absurd h Bool.false_ne_true
    | Subpiece lb s x ih => cases b with
      | Subpiece lb' s' x' =>
        simp only [instBEqExpression.beq, Bool.and_eq_true, beq_iff_eq] at h
        rw [h.1, h.2.1, ih h.2.2]
      | _ => exact absurd h Bool.false_ne_true

theorem tid_of_find? {blocks : List (Term Blk)} {t : Tid} {b : Term Blk}
    (h : blocks.find? (fun b => b.tid == t) = some b) : b ∈ blocks ∧ b.tid = t :=
  ⟨List.mem_of_find?_eq_some h, eq_of_beq (List.find?_some (p := fun b : Term Blk => b.tid == t) h)⟩

end CweModel.IR
