/-
Sized bit-vectors, the P-Code REFERENCE semantics of every integer operation (`Ref`, written as
arithmetic on `toNat`/`toInt` from the P-Code reference manual) and the MODEL of cwe_checker's
constant folding (`Impl`, mirroring `intermediate_representation/bitvector.rs` call by call with
apint primitives mapped to core `BitVec` primitives).

apint ↔ BitVec primitive correspondence (trusted, exercised by the C01 correspondence run):
  `+ - * & | ^`, `into_bitnot`↔`~~~`, unary `-`↔`-`, `checked_ult/ule/slt/sle`↔`BitVec.ult/ule/slt/sle`,
  `into_checked_shl/lshr/ashr n` (n < width)↔`<<< / >>> / sshiftRight`, `into_zero_extend`/`into_truncate`↔
  `setWidth`, `into_sign_extend`↔`signExtend`, `checked_udiv/urem`↔`/`,`%`, `checked_sdiv/srem`↔
  `BitVec.sdiv/srem`, `count_ones`↔`cpop`, `leading_zeros`↔`clz`, `sign_bit`/`is_negative`↔`msb`.

Core-only.
-/
import CweModel.Base.IR

namespace CweModel

/-- a bit-vector together with its width in bits (`apint::ApInt`) -/
structure Bv where
  w : Nat
  v : BitVec w

namespace Bv

instance : BEq Bv := ⟨fun a b => a.w == b.w && a.v.toNat == b.v.toNat⟩
instance : Inhabited Bv := ⟨⟨8, 0⟩⟩

def ofNat (w n : Nat) : Bv := ⟨w, BitVec.ofNat w n⟩
def ofBytes (bytes n : Nat) : Bv := ofNat (8 * bytes) n
def toNat (b : Bv) : Nat := b.v.toNat
def toInt (b : Bv) : Int := b.v.toInt
/-- `ByteSize::from(BitWidth)`: rounded up -/
def bytes (b : Bv) : Nat := (b.w + 7) / 8
/-- `Bitvector::from(b as u8)`: an 8-bit 0/1 -/
def ofBool (b : Bool) : Bv := ⟨8, if b then 1#8 else 0#8⟩
instance : ToString Bv := ⟨fun b => s!"{b.w}:{b.v.toNat}"⟩

theorem ext' {a b : Bv} (hw : a.w = b.w) (hv : a.v.toNat = b.v.toNat) : a = b := by
  obtain ⟨aw, av⟩ := a
  obtain ⟨bw, bv⟩ := b
  cases hw
  exact congrArg _ (BitVec.eq_of_toNat_eq hv)

theorem toNat_lt (b : Bv) : b.toNat < 2 ^ b.w := b.v.isLt

theorem ofNat_w (w n : Nat) : (Bv.ofNat w n).w = w := rfl
theorem ofNat_toNat (w n : Nat) : (Bv.ofNat w n).toNat = n % 2 ^ w :=
  BitVec.toNat_ofNat n w
theorem ofBytes_w (s n : Nat) : (Bv.ofBytes s n).w = 8 * s := rfl
theorem ofBytes_toNat (s n : Nat) : (Bv.ofBytes s n).toNat = n % 2 ^ (8 * s) :=
  BitVec.toNat_ofNat n (8 * s)

theorem ofBool_w (b : Bool) : (Bv.ofBool b).w = 8 := rfl
theorem ofBool_toInt (b : Bool) : (Bv.ofBool b).toInt = if b then 1 else 0 := by cases b <;> decide

theorem ofBool_inj {a b : Bool} (h : Bv.ofBool a = Bv.ofBool b) : a = b := by
  have := congrArg Bv.toNat h
  cases a <;> cases b <;> first | rfl | (exfalso; revert this; decide)

theorem bytes_of_w {b : Bv} {n : Nat} (h : b.w = 8 * n) : b.bytes = n := by
  unfold bytes; rw [h, Nat.mul_add_div (by decide)]; rfl

theorem toNat_mod_bytes {b : Bv} {n : Nat} (h : b.w = 8 * n) : b.toNat % 256 ^ n = b.toNat :=
  Nat.mod_eq_of_lt (by rw [show (256 : Nat) = 2 ^ 8 from rfl, ← Nat.pow_mul, ← h]; exact b.toNat_lt)

theorem ofBytes_toNat_self {b : Bv} {n : Nat} (h : b.w = 8 * n) : Bv.ofBytes n b.toNat = b :=
  ext' h.symm ((ofBytes_toNat n _).trans (Nat.mod_eq_of_lt (h ▸ b.toNat_lt)))

end Bv

/-- outcome of a constant-folding step: a value, `Err(..)` ("unknown"), or a panic of the real code
(operand sizes outside the operation's domain). -/
inductive Res where
  | val (b : Bv)
  | unknown
  | panic

instance : BEq Res := ⟨fun a b => match a, b with
  | .val x, .val y => x == y
  | .unknown, .unknown => true
  | .panic, .panic => true
  | _, _ => false⟩
instance : ToString Res := ⟨fun r => match r with
  | .val b => s!"v{b}" | .unknown => "u" | .panic => "p"⟩

/-! ## P-Code reference semantics on fixed widths (arithmetic formulas) -/
namespace Ref
variable {w : Nat}

/-- INT_CARRY: unsigned addition overflows -/
def carry (x y : BitVec w) : Bool := decide (x.toNat + y.toNat ≥ 2 ^ w)
/-- INT_SCARRY: signed addition overflows -/
def scarry (x y : BitVec w) : Bool :=
  decide (x.toInt + y.toInt ≥ 2 ^ (w - 1)) || decide (x.toInt + y.toInt < -2 ^ (w - 1))
/-- INT_SBORROW: signed subtraction overflows -/
def sborrow (x y : BitVec w) : Bool :=
  decide (x.toInt - y.toInt ≥ 2 ^ (w - 1)) || decide (x.toInt - y.toInt < -2 ^ (w - 1))
def eq (x y : BitVec w) : Bool := decide (x.toNat = y.toNat)
def less (x y : BitVec w) : Bool := decide (x.toNat < y.toNat)
def lessEq (x y : BitVec w) : Bool := decide (x.toNat ≤ y.toNat)
def sless (x y : BitVec w) : Bool := decide (x.toInt < y.toInt)
def slessEq (x y : BitVec w) : Bool := decide (x.toInt ≤ y.toInt)
def add (x y : BitVec w) : BitVec w := BitVec.ofNat w (x.toNat + y.toNat)
def sub (x y : BitVec w) : BitVec w := BitVec.ofInt w (x.toInt - y.toInt)
def mul (x y : BitVec w) : BitVec w := BitVec.ofNat w (x.toNat * y.toNat)
/-- INT_DIV / INT_REM: unsigned; undefined (unknown) for a zero divisor — decided by the caller -/
def udiv (x y : BitVec w) : BitVec w := BitVec.ofNat w (x.toNat / y.toNat)
def urem (x y : BitVec w) : BitVec w := BitVec.ofNat w (x.toNat % y.toNat)
/-- INT_SDIV / INT_SREM: signed, truncating towards zero, remainder has the sign of the dividend -/
def sdiv (x y : BitVec w) : BitVec w := BitVec.ofInt w (Int.tdiv x.toInt y.toInt)
def srem (x y : BitVec w) : BitVec w := BitVec.ofInt w (Int.tmod x.toInt y.toInt)
/-- INT_LEFT: shifted-out bits are lost; any amount ≥ width gives 0 -/
def shl (x : BitVec w) (n : Nat) : BitVec w := BitVec.ofNat w (x.toNat * 2 ^ n)
/-- INT_RIGHT: unsigned shift -/
def shr (x : BitVec w) (n : Nat) : BitVec w := BitVec.ofNat w (x.toNat / 2 ^ n)
/-- INT_SRIGHT: arithmetic shift = floor division of the signed value -/
def sar (x : BitVec w) (n : Nat) : BitVec w := BitVec.ofInt w (x.toInt / 2 ^ n)
/-- PIECE: concatenation, first operand most significant -/
def piece {w₁ w₂ : Nat} (x : BitVec w₁) (y : BitVec w₂) : BitVec (w₁ + w₂) :=
  BitVec.ofNat (w₁ + w₂) (x.toNat * 2 ^ w₂ + y.toNat)
/-- SUBPIECE: drop `low` least significant bits, keep `size` bits -/
def subpiece (x : BitVec w) (low size : Nat) : BitVec size := BitVec.ofNat size (x.toNat / 2 ^ low)
def zext (x : BitVec w) (v : Nat) : BitVec v := BitVec.ofNat v x.toNat
def sext (x : BitVec w) (v : Nat) : BitVec v := BitVec.ofInt v x.toInt
/-- INT_2COMP -/
def neg (x : BitVec w) : BitVec w := BitVec.ofInt w (-x.toInt)
/-- INT_NEGATE: bitwise complement -/
def not (x : BitVec w) : BitVec w := BitVec.ofNat w (2 ^ w - 1 - x.toNat)
/-- number of set bits / of leading zero bits: core's `cpop`/`clz` are taken as the reference for these
two primitives (apint `count_ones`/`leading_zeros` ↔ `cpop`/`clz` is part of the trusted primitive
correspondence); what is proved is the resize logic around them. -/
def popcount (x : BitVec w) : Nat := x.cpop.toNat
def lzcount (x : BitVec w) : Nat := x.clz.toNat

end Ref

/-! ## Model of `bitvector.rs` on fixed widths -/
namespace Impl
variable {w : Nat}

/-- `IntCarry`: `result.checked_ult(self) || result.checked_ult(rhs)` -/
def carry (x y : BitVec w) : Bool := (x + y).ult x || (x + y).ult y
/-- `IntSCarry` -/
def scarry (x y : BitVec w) : Bool :=
  let r := x + y
  (r.msb && !x.msb && !y.msb) || (!r.msb && x.msb && y.msb)
/-- `IntSBorrow` (after the `fix:` commit: `signed_self.is_positive()` in the first clause) -/
def sborrow (x y : BitVec w) : Bool :=
  let r := x - y
  (r.msb && !x.msb && y.msb) || (!r.msb && x.msb && !y.msb)
/-- `IntLeft`: `if shift_amount < width { shl } else { zero }` -/
def shl (x : BitVec w) (n : Nat) : BitVec w := if n < w then x <<< n else 0#w
def shr (x : BitVec w) (n : Nat) : BitVec w := if n < w then x >>> n else 0#w
/-- `IntSRight`: beyond the width the result is all sign bits -/
def sar (x : BitVec w) (n : Nat) : BitVec w :=
  if n < w then x.sshiftRight n else if x.msb then 0#w - 1#w else 0#w
/-- `Piece`: zero-extend both to the new width, shift the upper part, or -/
def piece {w₁ w₂ : Nat} (x : BitVec w₁) (y : BitVec w₂) : BitVec (w₁ + w₂) :=
  (x.setWidth (w₁ + w₂) <<< w₂) ||| y.setWidth (w₁ + w₂)
/-- `subpiece`: `into_checked_lshr(low).into_truncate(size)` -/
def subpiece (x : BitVec w) (low size : Nat) : BitVec size := (x >>> low).setWidth size
/-- `PopCount` cast: `from_u64(count_ones).into_resize_unsigned(width)` -/
def popcountCast (x : BitVec w) (v : Nat) : BitVec v := (BitVec.ofNat 64 x.cpop.toNat).setWidth v
def lzcountCast (x : BitVec w) (v : Nat) : BitVec v := (BitVec.ofNat 64 x.clz.toNat).setWidth v

/-- `signed_add_overflow_checked`: `None` on signed overflow.
`match (rhs.sign_bit(), self.checked_sle(&result)) { (true,true)|(false,false) => None, _ => Some(result) }` -/
def saddChecked (x y : BitVec w) : Option (BitVec w) :=
  let r := x + y
  match y.msb, x.sle r with
  | true, true | false, false => none
  | _, _ => some r
/-- `signed_sub_overflow_checked` (`self.checked_sge(&result)` is `result ≤ₛ self`) -/
def ssubChecked (x y : BitVec w) : Option (BitVec w) :=
  let r := x - y
  match y.msb, r.sle x with
  | true, true | false, false => none
  | _, _ => some r
/-- `signed_mult_with_overflow_flag` (after the `fix:` commits: `-1 * MIN` is reported as overflow);
`none` = `Err` for widths above 64 bit -/
def smulFlag (x y : BitVec w) : Option (BitVec w × Bool) :=
  if x == 0#w then some (0#w, false)
  else if w > 64 then none
  else
    let r := x * y
    let special := (x == -1#w) && (y == BitVec.intMin w)
    some (r, special || (r.sdiv x != y))

end Impl

/-! ## Dynamic-width operations (the API level of `Bitvector::bin_op/un_op/cast/subpiece`) -/

/-- apply a same-width kernel; different widths make the real code panic (apint `unwrap`) -/
def sameW (a b : Bv) (f : {w : Nat} → BitVec w → BitVec w → Res) : Res :=
  if h : a.w = b.w then f a.v (h ▸ b.v) else .panic

/-- same, for the division arms: `into_checked_udiv(rhs)?` turns apint's width-mismatch error into `Err` -/
def sameWErr (a b : Bv) (f : {w : Nat} → BitVec w → BitVec w → Res) : Res :=
  if h : a.w = b.w then f a.v (h ▸ b.v) else .unknown

theorem sameW_mk (x y : BitVec w) (f : {w : Nat} → BitVec w → BitVec w → Res) :
    sameW ⟨w, x⟩ ⟨w, y⟩ f = f x y := dif_pos rfl

theorem sameW_inv {a b : Bv} {f : {w : Nat} → BitVec w → BitVec w → Res} {r : Bv}
    (h : sameW a b f = .val r) : ∃ (w : Nat) (x y : BitVec w), a = ⟨w, x⟩ ∧ b = ⟨w, y⟩ ∧ f x y = .val r := by
  obtain ⟨aw, av⟩ := a
  obtain ⟨bw, bv⟩ := b
  unfold sameW at h
  split at h
  · next hw => cases hw; exact ⟨aw, av, bv, rfl, rfl, h⟩
  · cases h

def valB (b : Bool) : Res := .val (Bv.ofBool b)
def valV {w : Nat} (v : BitVec w) : Res := .val ⟨w, v⟩

theorem valV_w {v : BitVec w} {r : Bv} (h : valV v = .val r) : r.w = w := by cases h; rfl
theorem valB_w {c : Bool} {r : Bv} (h : valB c = .val r) : r.w = 8 := by cases h; rfl

open IR in
/-- **Reference**: the value the P-Code manual defines, `unknown` for float operations,
multiplication/division wider than 64 bit and division by zero. -/
def Ref.binOp (op : BinOpType) (a b : Bv) : Res :=
  match op with
  | .Piece => valV (Ref.piece a.v b.v)
  | .IntEqual => sameW a b fun x y => valB (Ref.eq x y)
  | .IntNotEqual => sameW a b fun x y => valB (!Ref.eq x y)
  | .IntLess => sameW a b fun x y => valB (Ref.less x y)
  | .IntSLess => sameW a b fun x y => valB (Ref.sless x y)
  | .IntLessEqual => sameW a b fun x y => valB (Ref.lessEq x y)
  | .IntSLessEqual => sameW a b fun x y => valB (Ref.slessEq x y)
  | .IntAdd => sameW a b fun x y => valV (Ref.add x y)
  | .IntSub => sameW a b fun x y => valV (Ref.sub x y)
  | .IntCarry => sameW a b fun x y => valB (Ref.carry x y)
  | .IntSCarry => sameW a b fun x y => valB (Ref.scarry x y)
  | .IntSBorrow => sameW a b fun x y => valB (Ref.sborrow x y)
  | .IntXOr | .BoolXOr => sameW a b fun x y => valV (x ^^^ y)
  | .IntAnd | .BoolAnd => sameW a b fun x y => valV (x &&& y)
  | .IntOr | .BoolOr => sameW a b fun x y => valV (x ||| y)
  -- shift amounts are clamped to the width for executability only: by `Ref.shl_clamp` etc. (C01.Kernels)
  -- `Ref.shl x (min n w) = Ref.shl x n`. Amounts that do not fit a u64 make the real code panic.
  | .IntLeft => if b.toNat < 2 ^ 64 then valV (Ref.shl a.v (min b.toNat a.w)) else .panic
  | .IntRight => if b.toNat < 2 ^ 64 then valV (Ref.shr a.v (min b.toNat a.w)) else .panic
  | .IntSRight => if b.toNat < 2 ^ 64 then valV (Ref.sar a.v (min b.toNat a.w)) else .panic
  | .IntMult => if a.w > 64 then .unknown else sameW a b fun x y => valV (Ref.mul x y)
  | .IntDiv => if a.w > 64 then .unknown else sameW a b fun x y =>
      if y.toNat = 0 then .unknown else valV (Ref.udiv x y)
  | .IntRem => if a.w > 64 then .unknown else sameW a b fun x y =>
      if y.toNat = 0 then .unknown else valV (Ref.urem x y)
  | .IntSDiv => if a.w > 64 then .unknown else sameW a b fun x y =>
      if y.toNat = 0 then .unknown else valV (Ref.sdiv x y)
  | .IntSRem => if a.w > 64 then .unknown else sameW a b fun x y =>
      if y.toNat = 0 then .unknown else valV (Ref.srem x y)
  | .FloatEqual | .FloatNotEqual | .FloatLess | .FloatLessEqual
  | .FloatAdd | .FloatSub | .FloatMult | .FloatDiv => .unknown

open IR in
/-- **Model** of `Bitvector::bin_op` (bitvector.rs), match arm by match arm. -/
def Impl.binOp (op : BinOpType) (a b : Bv) : Res :=
  match op with
  | .Piece => valV (Impl.piece a.v b.v)
  | .IntAdd => sameW a b fun x y => valV (x + y)
  | .IntSub => sameW a b fun x y => valV (x - y)
  | .IntCarry => sameW a b fun x y => valB (Impl.carry x y)
  | .IntSCarry => sameW a b fun x y => valB (Impl.scarry x y)
  | .IntSBorrow => sameW a b fun x y => valB (Impl.sborrow x y)
  | .IntMult => if a.w > 64 then .unknown else sameW a b fun x y => valV (x * y)
  | .IntDiv => if a.w > 64 then .unknown else sameWErr a b fun x y =>
      if y == 0 then .unknown else valV (x / y)
  | .IntSDiv => if a.w > 64 then .unknown else sameWErr a b fun x y =>
      if y == 0 then .unknown else valV (x.sdiv y)
  | .IntRem => if a.w > 64 then .unknown else sameWErr a b fun x y =>
      if y == 0 then .unknown else valV (x % y)
  | .IntSRem => if a.w > 64 then .unknown else sameWErr a b fun x y =>
      if y == 0 then .unknown else valV (x.srem y)
  | .IntLeft => if b.toNat < 2 ^ 64 then valV (Impl.shl a.v b.toNat) else .panic
  | .IntRight => if b.toNat < 2 ^ 64 then valV (Impl.shr a.v b.toNat) else .panic
  | .IntSRight => if b.toNat < 2 ^ 64 then valV (Impl.sar a.v b.toNat) else .panic
  | .IntAnd | .BoolAnd => sameW a b fun x y => valV (x &&& y)
  | .IntOr | .BoolOr => sameW a b fun x y => valV (x ||| y)
  | .IntXOr | .BoolXOr => sameW a b fun x y => valV (x ^^^ y)
  | .IntEqual => sameW a b fun x y => valB (x == y)
  | .IntNotEqual => sameW a b fun x y => valB (x != y)
  | .IntLess => sameW a b fun x y => valB (x.ult y)
  | .IntLessEqual => sameW a b fun x y => valB (x.ule y)
  | .IntSLess => sameW a b fun x y => valB (x.slt y)
  | .IntSLessEqual => sameW a b fun x y => valB (x.sle y)
  | .FloatEqual | .FloatNotEqual | .FloatLess | .FloatLessEqual
  | .FloatAdd | .FloatSub | .FloatMult | .FloatDiv => .unknown

open IR in
def Ref.unOp (op : UnOpType) (a : Bv) : Res :=
  match op with
  | .Int2Comp => valV (Ref.neg a.v)
  | .IntNegate => valV (Ref.not a.v)
  | .BoolNegate =>
    -- BOOL_NEGATE is defined on booleans (0 or 1) only
    if a.toNat = 0 then valB true else if a.w = 8 ∧ a.toNat = 1 then valB false else .panic
  | _ => .unknown

open IR in
/-- model of `Bitvector::un_op` -/
def Impl.unOp (op : UnOpType) (a : Bv) : Res :=
  match op with
  | .Int2Comp => valV (-a.v)
  | .IntNegate => valV (~~~a.v)
  | .BoolNegate =>
    if a.v == 0 then valB true
    else if a == Bv.ofNat 8 1 then valB false else .panic     -- `assert_eq!(self, from_u8(1))`
  | _ => .unknown

open IR in
def Ref.cast (op : CastOpType) (bytes : Nat) (a : Bv) : Res :=
  match op with
  | .IntZExt => if a.w ≤ 8 * bytes then valV (Ref.zext a.v (8 * bytes)) else .panic
  | .IntSExt => if a.w ≤ 8 * bytes then valV (Ref.sext a.v (8 * bytes)) else .panic
  | .PopCount => valV (BitVec.ofNat (8 * bytes) (Ref.popcount a.v))
  | .LzCount => valV (BitVec.ofNat (8 * bytes) (Ref.lzcount a.v))
  | .Int2Float | .Float2Float | .Trunc => .unknown

open IR in
/-- model of `Bitvector::cast`; `into_zero_extend(width).unwrap()` panics when narrowing -/
def Impl.cast (op : CastOpType) (bytes : Nat) (a : Bv) : Res :=
  match op with
  | .IntZExt => if a.w ≤ 8 * bytes then valV (a.v.setWidth (8 * bytes)) else .panic
  | .IntSExt => if a.w ≤ 8 * bytes then valV (a.v.signExtend (8 * bytes)) else .panic
  | .PopCount => valV (Impl.popcountCast a.v (8 * bytes))
  | .LzCount => valV (Impl.lzcountCast a.v (8 * bytes))
  | .Int2Float | .Float2Float | .Trunc => .unknown

/-- SUBPIECE is defined when the extracted bytes lie inside the operand -/
def Ref.subpieceOp (lowByte size : Nat) (a : Bv) : Res :=
  if 8 * lowByte < a.w ∧ 8 * size ≤ a.w then valV (Ref.subpiece a.v (8 * lowByte) (8 * size)) else .panic

/-- model of `Bitvector::subpiece`: `into_checked_lshr` needs shift < width, `into_truncate` needs
target ≤ width -/
def Impl.subpieceOp (lowByte size : Nat) (a : Bv) : Res :=
  if 8 * lowByte < a.w ∧ 8 * size ≤ a.w then valV (Impl.subpiece a.v (8 * lowByte) (8 * size)) else .panic

end CweModel
