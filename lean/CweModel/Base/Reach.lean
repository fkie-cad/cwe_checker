/-
Reachability in finite directed multigraphs; core Lean only, so that the drivers can link it.

`dfs next fuel stack visited` is the stack-based depth-first search with a visited set that the Rust code
(`analysis/callgraph.rs`, for one) writes as
  ```
  while let Some(node) = stack.pop() {
      if visited.insert(node) { for n in successors(node) { stack.push(n) } }
  }
  ```
What a run keeps is proved by the loop-invariant rule `dfs_invariant`. A finished run that started with nothing visited
has visited exactly the nodes that the start nodes reach (`Reach`, `mem_dfs_iff`), and `stack.length + E.length + 1`
iterations finish a run whose successor lists are bounded by an edge list `E` (`dfs_fuel_sufficient`): an iteration
either pops a visited node or closes the edges that leave a new one. The second half is the instance for edge lists
(`succs`, `preds`, `reachable`, `coreachable`) and relates reachability to explicit edge chains (`Path`, `on_path_iff`).
-/
namespace CweModel.Reach

section Generic
variable {ν : Type}

/-- reflexive-transitive closure of "`b ∈ next a`" -/
inductive Reach (next : ν → List ν) : ν → ν → Prop where
  | refl (a : ν) : Reach next a a
  | tail {a b c : ν} : Reach next a b → c ∈ next b → Reach next a c

theorem Reach.single {next : ν → List ν} {a b : ν} (h : b ∈ next a) : Reach next a b :=
  .tail (.refl a) h

theorem Reach.closed {next : ν → List ν} {P : ν → Prop} (hcl : ∀ a b, P a → b ∈ next a → P b)
    {a b : ν} (h : Reach next a b) (ha : P a) : P b := by
  induction h with
  | refl => exact ha
  | tail _ hs ih => exact hcl _ _ ih hs

theorem reach_back {next : ν → List ν} {Q : ν → Prop} (hstep : ∀ a b, b ∈ next a → Q b → Q a)
    {n m : ν} (h : Reach next n m) : Q m → Q n := by
  induction h with
  | refl => exact id
  | tail _ hs ih => exact fun hq => ih (hstep _ _ hs hq)

theorem Reach.trans {next : ν → List ν} {a b c : ν} (h1 : Reach next a b) (h2 : Reach next b c) :
    Reach next a c :=
  h2.closed (P := Reach next a) (fun _ _ => .tail) h1

theorem Reach.head {next : ν → List ν} {a b c : ν} (h : b ∈ next a) (h2 : Reach next b c) :
    Reach next a c := (Reach.single h).trans h2

theorem Reach.cases_head {next : ν → List ν} {a c : ν} (h : Reach next a c) :
    a = c ∨ ∃ b, b ∈ next a ∧ Reach next b c := by
  induction h with
  | refl => exact .inl rfl
  | tail _ hs ih =>
    rcases ih with rfl | ⟨b, hb, hr⟩
    · exact .inr ⟨_, hs, .refl _⟩
    · exact .inr ⟨b, hb, .tail hr hs⟩

theorem Reach.congr {next next' : ν → List ν} (h : ∀ a b, b ∈ next a → b ∈ next' a) {a b : ν}
    (hr : Reach next a b) : Reach next' a b :=
  hr.closed (P := Reach next' a) (fun _ _ ih hs => .tail ih (h _ _ hs)) (.refl a)

theorem Reach.reverse {next prev : ν → List ν} (h : ∀ a b, b ∈ next a → a ∈ prev b) {a b : ν}
    (hr : Reach next a b) : Reach prev b a :=
  hr.closed (P := (Reach prev · a)) (fun _ _ ih hs => .head (h _ _ hs) ih) (.refl a)

variable [DecidableEq ν]

/-- Stack DFS with visited set; returns `(remaining stack, visited)` after at most `fuel`
iterations of the loop. The run is finished iff the remaining stack is empty. -/
def dfs (next : ν → List ν) : Nat → List ν → List ν → List ν × List ν
  | 0, st, vis => (st, vis)
  | _ + 1, [], vis => ([], vis)
  | f + 1, n :: st, vis =>
    if n ∈ vis then dfs next f st vis else dfs next f (next n ++ st) (n :: vis)

theorem dfs_invariant {next : ν → List ν} (I : List ν → List ν → Prop)
    (skip : ∀ {n st vis}, n ∈ vis → I (n :: st) vis → I st vis)
    (visit : ∀ {n st vis}, n ∉ vis → I (n :: st) vis → I (next n ++ st) (n :: vis))
    (f : Nat) {st vis : List ν} (h : I st vis) : I (dfs next f st vis).1 (dfs next f st vis).2 := by
  fun_induction dfs next f st vis with
  | case1 | case2 => exact h
  | case3 _ _ _ _ hn ih => exact ih (skip hn h)
  | case4 _ _ _ _ hn ih => exact ih (visit hn h)

theorem dfs_vis_mono (next : ν → List ν) (f : Nat) (st vis : List ν) :
    ∀ x ∈ vis, x ∈ (dfs next f st vis).2 :=
  dfs_invariant (fun _ v => ∀ x ∈ vis, x ∈ v) (fun _ h => h) (fun _ h x hx => List.mem_cons_of_mem _ (h x hx)) f
    (fun _ h => h)

theorem dfs_sound (next : ν → List ν) (f : Nat) (st vis : List ν) :
    ∀ x ∈ (dfs next f st vis).2, x ∈ vis ∨ ∃ s ∈ st, Reach next s x := by
  -- the same holds of the pending nodes
  refine (dfs_invariant (next := next)
    (fun s v => (∀ x ∈ s, ∃ s ∈ st, Reach next s x) ∧ ∀ x ∈ v, x ∈ vis ∨ ∃ s ∈ st, Reach next s x)
    (fun _ h => ⟨fun x hx => h.1 x (List.mem_cons_of_mem _ hx), h.2⟩) ?_ f
    ⟨fun x hx => ⟨x, hx, .refl x⟩, fun x hx => .inl hx⟩).2
  intro n s v _ h
  obtain ⟨s0, hs0, hr⟩ := h.1 n List.mem_cons_self
  refine ⟨fun x hx => ?_, fun x hx => ?_⟩
  · rcases List.mem_append.mp hx with hx | hx
    · exact ⟨s0, hs0, hr.tail hx⟩
    · exact h.1 x (List.mem_cons_of_mem _ hx)
  · rcases List.mem_cons.mp hx with rfl | hx
    · exact .inr ⟨s0, hs0, hr⟩
    · exact h.2 x hx

theorem dfs_closed (next : ν → List ν) (f : Nat) (st vis : List ν)
    (hfin : (dfs next f st vis).1 = [])
    (hinv : ∀ a ∈ vis, ∀ b ∈ next a, b ∈ vis ∨ b ∈ st) :
    (∀ x ∈ st, x ∈ (dfs next f st vis).2) ∧
    (∀ a ∈ (dfs next f st vis).2, ∀ b ∈ next a, b ∈ (dfs next f st vis).2) := by
  -- the initial stack and the successors of visited nodes stay visited or pending
  have h := dfs_invariant (next := next)
    (fun s v => ∀ x, (x ∈ st ∨ ∃ a ∈ v, x ∈ next a) → x ∈ v ∨ x ∈ s)
    (fun hn h x hx => (h x hx).elim .inl fun hx => (List.mem_cons.mp hx).elim (fun e => .inl (e ▸ hn)) .inr)
    (fun {n s v} _ h x hx => by
      have keep : x ∈ v ∨ x ∈ n :: s → x ∈ n :: v ∨ x ∈ next n ++ s := by
        simp only [List.mem_cons, List.mem_append]
        rintro (hx | rfl | hx)
        · exact .inl (.inr hx)
        · exact .inl (.inl rfl)
        · exact .inr (.inr hx)
      rcases hx with hx | ⟨a, ha, hx⟩
      · exact keep (h x (.inl hx))
      · rcases List.mem_cons.mp ha with rfl | ha
        · exact .inr (List.mem_append_left _ hx)
        · exact keep (h x (.inr ⟨a, ha, hx⟩)))
    f (fun x hx => hx.elim .inr fun ⟨a, ha, hx⟩ => hinv a ha x hx)
  rw [hfin] at h
  exact ⟨fun x hx => (h x (.inl hx)).resolve_right List.not_mem_nil,
    fun a ha b hb => (h b (.inr ⟨a, ha, hb⟩)).resolve_right List.not_mem_nil⟩

theorem dfs_complete (next : ν → List ν) (f : Nat) (st : List ν)
    (hfin : (dfs next f st []).1 = []) {s x : ν} (hs : s ∈ st) (hr : Reach next s x) :
    x ∈ (dfs next f st []).2 :=
  have ⟨h1, h2⟩ := dfs_closed next f st [] hfin (fun _ h => absurd h List.not_mem_nil)
  hr.closed (P := (· ∈ (dfs next f st []).2)) (fun a b ha => h2 a ha b) (h1 s hs)

theorem mem_dfs_iff (next : ν → List ν) (f : Nat) (st : List ν)
    (hfin : (dfs next f st []).1 = []) (x : ν) :
    x ∈ (dfs next f st []).2 ↔ ∃ s ∈ st, Reach next s x :=
  ⟨fun hx => (dfs_sound next f st [] x hx).resolve_left List.not_mem_nil,
    fun ⟨_, hs, hr⟩ => dfs_complete next f st hfin hs hr⟩

theorem dfs_nodup (next : ν → List ν) (f : Nat) (st vis : List ν) (h : vis.Nodup) :
    (dfs next f st vis).2.Nodup :=
  dfs_invariant (fun _ v => v.Nodup) (fun _ h => h) (fun hn h => List.nodup_cons.mpr ⟨hn, h⟩) f h

/-- With the length of the stack, the measure that every iteration of `dfs` decreases: the edges of `E` whose
source is not yet visited. -/
def openEdges {ε : Type} (E : List ε) (src : ε → ν) (vis : List ν) : Nat :=
  (E.filter (fun e => decide (src e ∉ vis))).length

theorem openEdges_le {ε : Type} (E : List ε) (src : ε → ν) (vis : List ν) :
    openEdges E src vis ≤ E.length := List.length_filter_le ..

theorem openEdges_visit {ε : Type} (E : List ε) (src : ε → ν) (vis : List ν) (n : ν) (hn : n ∉ vis) :
    openEdges E src (n :: vis) + (E.filter (fun e => decide (src e = n))).length = openEdges E src vis := by
  -- among the edges that are open w.r.t. `vis`, count those that leave `n` and the others
  have h := List.length_eq_countP_add_countP (fun e => decide (src e = n))
    (l := E.filter fun e => decide (src e ∉ vis))
  rw [List.countP_eq_length_filter, List.countP_eq_length_filter, List.filter_filter, List.filter_filter] at h
  have h1 : E.filter (fun e => decide (src e = n) && decide (src e ∉ vis)) = E.filter (fun e => decide (src e = n)) :=
    List.filter_congr fun e _ => Bool.and_eq_left_iff_imp.mpr fun he => decide_eq_true (of_decide_eq_true he ▸ hn)
  have h2 : E.filter (fun e => decide (¬ decide (src e = n) = true) && decide (src e ∉ vis)) =
      E.filter (fun e => decide (src e ∉ n :: vis)) :=
    List.filter_congr fun e _ => by
      rw [Bool.eq_iff_iff]
      simp only [Bool.and_eq_true, decide_eq_true_eq, List.mem_cons, not_or]
  rw [h1, h2] at h
  unfold openEdges
  rw [h, Nat.add_comm]

theorem openEdges_visit_lt {ε : Type} {E : List ε} {src : ε → ν} {vis : List ν} {e : ε} (he : e ∈ E)
    (hv : src e ∉ vis) : openEdges E src (src e :: vis) < openEdges E src vis := by
  rw [← openEdges_visit E src vis (src e) hv]
  exact Nat.lt_add_of_pos_right (List.length_pos_of_mem (List.mem_filter.mpr ⟨he, decide_eq_true rfl⟩))

/-- every iteration decreases `stack.length + openEdges` by at least one -/
theorem dfs_fuel_sufficient_aux {ε : Type} (E : List ε) (src : ε → ν) (next : ν → List ν)
    (hdeg : ∀ n, (next n).length ≤ (E.filter (fun e => decide (src e = n))).length)
    (f : Nat) (st vis : List ν) (hf : st.length + openEdges E src vis < f) : (dfs next f st vis).1 = [] := by
  fun_induction dfs next f st vis with
  | case1 => exact absurd hf (Nat.not_lt_zero _)
  | case2 => rfl
  | case3 f n st vis _ ih => exact ih (Nat.lt_of_succ_lt_succ (Nat.succ_add .. ▸ hf))
  | case4 f n st vis hn ih =>
    refine ih (Nat.lt_of_le_of_lt ?_ (Nat.lt_of_succ_lt_succ (Nat.succ_add .. ▸ hf)))
    rw [List.length_append, ← openEdges_visit E src vis n hn, Nat.add_comm _ st.length, Nat.add_assoc,
      Nat.add_comm (openEdges ..)]
    exact Nat.add_le_add_left (Nat.add_le_add_right (hdeg n) _) _

theorem dfs_fuel_sufficient {ε : Type} (E : List ε) (src : ε → ν) (next : ν → List ν)
    (hdeg : ∀ n, (next n).length ≤ (E.filter (fun e => decide (src e = n))).length)
    (st : List ν) (f : Nat) (hf : st.length + E.length < f) :
    (dfs next f st []).1 = [] :=
  dfs_fuel_sufficient_aux E src next hdeg f st []
    (Nat.lt_of_le_of_lt (Nat.add_le_add_left (openEdges_le E src []) _) hf)

end Generic

/-- an edge of a directed multigraph with weight `w` -/
structure Edge (ν ω : Type) where
  src : ν
  dst : ν
  w : ω
deriving Repr, DecidableEq

/-- a finite directed multigraph is its list of edges (isolated nodes need no representation:
every node reaches itself) -/
abbrev Graph (ν ω : Type) := List (Edge ν ω)

section EdgeList
variable {ν ω : Type} [DecidableEq ν]

/-- targets of the edges leaving `n`, in edge-list order -/
def succs (g : Graph ν ω) (n : ν) : List ν := (g.filter (fun e => decide (e.src = n))).map (·.dst)
/-- sources of the edges entering `n` -/
def preds (g : Graph ν ω) (n : ν) : List ν := (g.filter (fun e => decide (e.dst = n))).map (·.src)

theorem mem_succs {g : Graph ν ω} {a b : ν} : b ∈ succs g a ↔ ∃ e ∈ g, e.src = a ∧ e.dst = b := by
  simp only [succs, List.mem_map, List.mem_filter, decide_eq_true_eq, and_assoc]

theorem mem_preds {g : Graph ν ω} {a b : ν} : a ∈ preds g b ↔ ∃ e ∈ g, e.src = a ∧ e.dst = b := by
  simp only [preds, List.mem_map, List.mem_filter, decide_eq_true_eq]
  constructor
  · rintro ⟨e, ⟨he, h1⟩, h2⟩; exact ⟨e, he, h2, h1⟩
  · rintro ⟨e, he, h1, h2⟩; exact ⟨e, ⟨he, h2⟩, h1⟩

theorem succs_of_mem {g : Graph ν ω} {e : Edge ν ω} (he : e ∈ g) : e.dst ∈ succs g e.src :=
  mem_succs.mpr ⟨e, he, rfl, rfl⟩

/-- `b` is reachable from `a` along edges of `g` (paths of length ≥ 0) -/
abbrev GReach (g : Graph ν ω) (a b : ν) : Prop := Reach (succs g) a b

theorem reach_preds_iff (g : Graph ν ω) (a b : ν) : Reach (preds g) b a ↔ Reach (succs g) a b :=
  ⟨Reach.reverse fun _ _ h => mem_succs.mpr (mem_preds.mp h),
    Reach.reverse fun _ _ h => mem_preds.mpr (mem_succs.mp h)⟩

theorem GReach.edge {g : Graph ν ω} {a : ν} {e : Edge ν ω} (he : e ∈ g) (h : GReach g a e.src) :
    GReach g a e.dst := .tail h (succs_of_mem he)

/-- fuel that always suffices for a DFS over `g` from `starts` -/
def fuelFor (g : Graph ν ω) (starts : List ν) : Nat := starts.length + g.length + 1

/-- nodes reachable from one of `starts` (DFS along the edges) -/
def reachable (g : Graph ν ω) (starts : List ν) : List ν :=
  (dfs (succs g) (fuelFor g starts) starts []).2
/-- nodes from which one of `targets` is reachable (DFS against the edges) -/
def coreachable (g : Graph ν ω) (targets : List ν) : List ν :=
  (dfs (preds g) (fuelFor g targets) targets []).2

theorem mem_reachable_iff (g : Graph ν ω) (starts : List ν) (x : ν) :
    x ∈ reachable g starts ↔ ∃ s ∈ starts, GReach g s x :=
  mem_dfs_iff _ _ _ (dfs_fuel_sufficient g (·.src) (succs g) (fun _ => Nat.le_of_eq (List.length_map _))
    starts _ (Nat.lt_succ_self _)) x

theorem mem_coreachable_iff (g : Graph ν ω) (targets : List ν) (x : ν) :
    x ∈ coreachable g targets ↔ ∃ t ∈ targets, GReach g x t := by
  rw [coreachable, mem_dfs_iff _ (fuelFor g targets) _ (dfs_fuel_sufficient g (·.dst) (preds g)
    (fun _ => Nat.le_of_eq (List.length_map _)) targets _ (Nat.lt_succ_self _)) x]
  simp only [reach_preds_iff]

/-- `Path g a es b`: `es` is a chain of edges of `g` leading from `a` to `b` -/
inductive Path (g : Graph ν ω) : ν → List (Edge ν ω) → ν → Prop where
  | nil (a : ν) : Path g a [] a
  | cons {e : Edge ν ω} {es : List (Edge ν ω)} {b : ν} :
      e ∈ g → Path g e.dst es b → Path g e.src (e :: es) b

theorem Path.reach {g : Graph ν ω} {a b : ν} {es : List (Edge ν ω)} (h : Path g a es b) :
    GReach g a b := by
  induction h with
  | nil => exact .refl _
  | cons he _ ih => exact Reach.head (succs_of_mem he) ih

omit [DecidableEq ν] in
theorem Path.append {g : Graph ν ω} {a b c : ν} {es es' : List (Edge ν ω)}
    (h1 : Path g a es b) (h2 : Path g b es' c) : Path g a (es ++ es') c := by
  induction h1 with
  | nil => simpa using h2
  | cons he _ ih => exact .cons he (ih h2)

theorem GReach.exists_path {g : Graph ν ω} {a b : ν} (h : GReach g a b) : ∃ es, Path g a es b := by
  induction h with
  | refl => exact ⟨[], .nil _⟩
  | tail _ hs ih =>
    obtain ⟨es, hp⟩ := ih
    obtain ⟨e, he, h1, h2⟩ := mem_succs.mp hs
    subst h1; subst h2
    exact ⟨es ++ [e], hp.append (.cons he (.nil _))⟩

theorem reach_iff_path {g : Graph ν ω} {a b : ν} : GReach g a b ↔ ∃ es, Path g a es b :=
  ⟨GReach.exists_path, fun ⟨_, h⟩ => h.reach⟩

theorem Path.split {g : Graph ν ω} {a b : ν} {es : List (Edge ν ω)} (h : Path g a es b)
    {e : Edge ν ω} (he : e ∈ es) : e ∈ g ∧ GReach g a e.src ∧ GReach g e.dst b := by
  induction h with
  | nil => simp at he
  | @cons e' es' b' he' hp ih =>
    rcases List.mem_cons.mp he with rfl | h
    · exact ⟨he', .refl _, hp.reach⟩
    · have ⟨h1, h2, h3⟩ := ih h
      exact ⟨h1, Reach.head (succs_of_mem he') h2, h3⟩

theorem on_path_iff {g : Graph ν ω} {a b : ν} {e : Edge ν ω} :
    (∃ es, Path g a es b ∧ e ∈ es) ↔ e ∈ g ∧ GReach g a e.src ∧ GReach g e.dst b := by
  constructor
  · rintro ⟨es, hp, he⟩; exact hp.split he
  · rintro ⟨he, h1, h2⟩
    obtain ⟨es1, p1⟩ := h1.exists_path
    obtain ⟨es2, p2⟩ := h2.exists_path
    exact ⟨es1 ++ e :: es2, p1.append (.cons he p2), by simp⟩

end EdgeList

/-! non-vacuity: a 4-node graph with a cycle, a self-loop and an unreachable node -/
section Example
def exG : Graph Nat Unit := [⟨0, 1, ()⟩, ⟨1, 2, ()⟩, ⟨2, 0, ()⟩, ⟨2, 2, ()⟩, ⟨3, 0, ()⟩]
example : reachable exG [0] = [2, 1, 0] := by decide +kernel
example : coreachable exG [0] = [3, 1, 2, 0] := by decide +kernel
example : GReach exG 0 2 := .tail (.single (b := 1) (by decide)) (by decide)
example : ¬ GReach exG 0 3 := fun h =>
  absurd ((mem_reachable_iff exG [0] 3).mpr ⟨0, List.mem_singleton_self 0, h⟩) (by decide +kernel)
end Example

end CweModel.Reach
