/-
Worklist fixpoint solving over join-semilattices (core Lean only), after
`src/cwe_checker_lib/src/analysis/fixpoint.rs`:

* a fixpoint `Problem` is a list of edges `src → dst` with a transfer `V → Option V` (`none` = the edge
  blocks the flow, `Context::update_edge` returning `None`) and a `join` (`Context::merge`);
* a `State` is the map of node values (`node_values`, a node may have no value) plus the worklist;
* `mergeNodeValue`, `updateEdge`, `updateEdges` (= `update_node` for the out-edges of a node) are the
  functions of the same name of `Computation`;
* `Step` is one iteration of the `compute` loop where the node taken from the worklist is chosen by an
  ARBITRARY scheduler and the out-edges are processed in an ARBITRARY order — the real code (largest
  priority of a `BTreeSet`, petgraph edge order) is one admissible choice, so every theorem below
  holds for every priority order;
* `BStep` is one iteration of `compute_with_max_steps` (per-node `steps` counters, `non_stabilized`).

Nodes are `Nat`s, a graph with `n` nodes is `WellFormed P n`. The solver theorems ask for
`IsSemilattice P.join` and `Monotone P`. Soundness of an analysis result needs only `sound_of_closed`,
which asks for no lattice laws at all: only that `join` over-approximates in the concretisation and
that the assignment is `Closed`; `solver_sound` combines it with `closed_of_stabilized`.
Worked instances are in `CweModel.C07.Props`; the comparison with the join over paths for distributive systems is in `CweModel.C15.Flow`.
-/
namespace CweModel.Fix

structure Edge (V : Type) where
  src : Nat
  dst : Nat
  f   : V → Option V

/-- multi-edges and self-loops are allowed -/
structure Problem (V : Type) where
  edges : List (Edge V)
  join  : V → V → V

/-- `node_values`; a node may have no value -/
abbrev Assign (V : Type) := Nat → Option V

variable {V : Type}

/-- the order the code tests with `merge(x, b) == b` -/
def Problem.le (P : Problem V) (x b : V) : Prop := P.join x b = b

structure IsSemilattice (join : V → V → V) : Prop where
  comm  : ∀ a b, join a b = join b a
  assoc : ∀ a b c, join (join a b) c = join a (join b c)
  idem  : ∀ a, join a a = a

/-- transfers are monotone, including `none ≤ some`: an edge that lets `a` through lets every
larger value through, with a larger result. -/
def Monotone (P : Problem V) : Prop :=
  ∀ e ∈ P.edges, ∀ a b x, P.le a b → e.f a = some x → ∃ y, e.f b = some y ∧ P.le x y

def Sat (P : Problem V) (S : Assign V) (e : Edge V) : Prop :=
  ∀ a x, S e.src = some a → e.f a = some x → ∃ b, S e.dst = some b ∧ P.le x b

def Closed (P : Problem V) (S : Assign V) : Prop := ∀ e ∈ P.edges, Sat P S e

def Assign.le (P : Problem V) (A B : Assign V) : Prop :=
  ∀ i a, A i = some a → ∃ b, B i = some b ∧ P.le a b

namespace IsSemilattice
variable {join : V → V → V} (h : IsSemilattice join)
include h

theorem le_refl (a : V) : join a a = a := h.idem a

theorem le_trans {a b c : V} (hab : join a b = b) (hbc : join b c = c) : join a c = c := by
  rw [← hbc, ← h.assoc, hab]

theorem le_antisymm {a b : V} (hab : join a b = b) (hba : join b a = a) : a = b := by
  rw [← hba, h.comm, hab]

theorem le_join_left (x o : V) : join x (join x o) = join x o := by
  rw [← h.assoc, h.idem]

theorem le_join_right (x o : V) : join o (join x o) = join x o := by
  rw [h.comm x o, ← h.assoc, h.idem]

theorem join_le {x o b : V} (hx : join x b = b) (ho : join o b = b) : join (join x o) b = b := by
  rw [h.assoc, ho, hx]

theorem le_join_of_le_right {y o : V} (x : V) (hy : join y o = o) : join y (join x o) = join x o := by
  rw [← h.assoc, h.comm y x, h.assoc, hy]

theorem join_le_join {a a' b b' : V} (ha : join a a' = a') (hb : join b b' = b') :
    join (join a b) (join a' b') = join a' b' :=
  h.join_le (h.le_trans ha (h.le_join_left a' b')) (h.le_join_of_le_right a' hb)
end IsSemilattice

theorem Assign.le_refl {P : Problem V} (hL : IsSemilattice P.join) (A : Assign V) : Assign.le P A A :=
  fun _ a ha => ⟨a, ha, hL.idem a⟩

theorem Assign.le_trans {P : Problem V} (hL : IsSemilattice P.join) {A B C : Assign V}
    (h1 : Assign.le P A B) (h2 : Assign.le P B C) : Assign.le P A C := by
  intro i a ha
  obtain ⟨b, hb, hab⟩ := h1 i a ha
  obtain ⟨c, hc, hbc⟩ := h2 i b hb
  exact ⟨c, hc, hL.le_trans hab hbc⟩

theorem Assign.le_antisymm {P : Problem V} (hL : IsSemilattice P.join) {A B : Assign V}
    (h1 : Assign.le P A B) (h2 : Assign.le P B A) : A = B := by
  funext i
  cases hA : A i with
  | none =>
    cases hB : B i with
    | none => rfl
    | some b =>
      obtain ⟨a, ha, _⟩ := h2 i b hB
      rw [hA] at ha; cases ha
  | some a =>
    obtain ⟨b, hb, hab⟩ := h1 i a hA
    obtain ⟨a', ha', hba⟩ := h2 i b hb
    rw [hA] at ha'; cases ha'
    rw [hb, hL.le_antisymm hab hba]

/-- `node_values` and the worklist; the worklist is a membership predicate on NODES (the code keeps
their priorities) -/
structure State (V : Type) where
  vals : Assign V
  wl   : Nat → Bool

/-- `set_node_value` -/
def State.setNodeValue (s : State V) (node : Nat) (v : V) : State V :=
  { vals := fun i => if i = node then some v else s.vals i
    wl   := fun i => if i = node then true else s.wl i }

def State.remove (s : State V) (p : Nat) : State V :=
  { s with wl := fun i => if i = p then false else s.wl i }

namespace State
variable (s : State V) {i node : Nat} (v : V)

theorem setNodeValue_vals_self : (s.setNodeValue node v).vals node = some v := if_pos rfl

theorem setNodeValue_vals_of_ne (h : i ≠ node) : (s.setNodeValue node v).vals i = s.vals i := if_neg h

theorem setNodeValue_wl_self : (s.setNodeValue node v).wl node = true := if_pos rfl

theorem setNodeValue_wl_of_ne (h : i ≠ node) : (s.setNodeValue node v).wl i = s.wl i := if_neg h

theorem remove_wl_self : (s.remove node).wl node = false := if_pos rfl

theorem remove_wl_of_ne (h : i ≠ node) : (s.remove node).wl i = s.wl i := if_neg h
end State

variable [DecidableEq V]

/-- `merge_node_value`: note the argument order `merge(&value, old_value)` and that the node is
re-inserted into the worklist only if `merged_value != *old_value`. -/
def mergeNodeValue (P : Problem V) (s : State V) (node : Nat) (value : V) : State V :=
  match s.vals node with
  | some old =>
    let merged := P.join value old
    if merged ≠ old then s.setNodeValue node merged else s
  | none => s.setNodeValue node value

def updateEdge (P : Problem V) (s : State V) (e : Edge V) : State V :=
  match s.vals e.src with
  | some a =>
    match e.f a with
    | some x => mergeNodeValue P s e.dst x
    | none => s
  | none => s

def updateEdges (P : Problem V) (s : State V) (es : List (Edge V)) : State V :=
  es.foldl (updateEdge P) s

/-- `es` is an admissible enumeration of the out-edges of `p`: every out-edge occurs (any order,
repetitions allowed) and nothing else. -/
def OutEdges (P : Problem V) (p : Nat) (es : List (Edge V)) : Prop :=
  (∀ e ∈ es, e ∈ P.edges ∧ e.src = p) ∧ (∀ e ∈ P.edges, e.src = p → e ∈ es)

inductive Step (P : Problem V) : State V → State V → Prop where
  | mk (s : State V) (p : Nat) (es : List (Edge V)) :
      s.wl p = true → OutEdges P p es → Step P s (updateEdges P (s.remove p) es)

inductive RunN (P : Problem V) : Nat → State V → State V → Prop where
  | refl (s : State V) : RunN P 0 s s
  | step {k : Nat} {s t u : State V} : Step P s t → RunN P k t u → RunN P (k + 1) s u

def Run (P : Problem V) (s t : State V) : Prop := ∃ k, RunN P k s t

def State.stabilized (s : State V) : Prop := ∀ i, s.wl i = false

theorem Run.refl (P : Problem V) (s : State V) : Run P s s := ⟨0, .refl s⟩

theorem Run.head {P : Problem V} {s t u : State V} (h : Step P s t) (r : Run P t u) : Run P s u := by
  obtain ⟨k, hk⟩ := r
  exact ⟨k + 1, .step h hk⟩

/-- All that the loops of `compute` and `compute_with_max_steps` ever do to a solver state: nodes
leave the worklist and edges of the problem are updated, in some order. What holds of the values in
all states of all runs, bounded or not, is proved by induction on this relation; the loop invariant
`Inv` also says which nodes have been processed and is kept per loop (`Run.inv`, `BRun.inv`). -/
inductive Evolves (P : Problem V) : State V → State V → Prop where
  | refl (s : State V) : Evolves P s s
  | remove {s t : State V} (p : Nat) : Evolves P (s.remove p) t → Evolves P s t
  | update {s t : State V} {e : Edge V} : e ∈ P.edges → Evolves P (updateEdge P s e) t → Evolves P s t

theorem Evolves.invariant {P : Problem V} (I : State V → Prop)
    (hrem : ∀ s p, I s → I (s.remove p))
    (hupd : ∀ s e, e ∈ P.edges → I s → I (updateEdge P s e))
    {s t : State V} (h0 : I s) (r : Evolves P s t) : I t := by
  induction r with
  | refl => exact h0
  | remove p _ ih => exact ih (hrem _ p h0)
  | update he _ ih => exact ih (hupd _ _ he h0)

theorem Evolves.of_updateEdges {P : Problem V} {es : List (Edge V)} (hes : ∀ e ∈ es, e ∈ P.edges)
    {s t : State V} (r : Evolves P (updateEdges P s es) t) : Evolves P s t := by
  induction es generalizing s with
  | nil => exact r
  | cons e es ih =>
    exact .update (hes e (List.mem_cons_self ..)) (ih (fun e' he' => hes e' (List.mem_cons_of_mem _ he')) r)

theorem Step.evolves {P : Problem V} {s t u : State V} (h : Step P s t) (r : Evolves P t u) :
    Evolves P s u := by
  cases h with
  | mk p es _ hes => exact .remove p (.of_updateEdges (fun e he => (hes.1 e he).1) r)

theorem Run.evolves {P : Problem V} {s t : State V} (r : Run P s t) : Evolves P s t := by
  obtain ⟨k, hk⟩ := r
  induction hk with
  | refl => exact .refl _
  | step h _ ih => exact h.evolves ih

theorem Run.induction {P : Problem V} (I : State V → Prop)
    (hrem : ∀ s p, I s → I (s.remove p))
    (hupd : ∀ s e, e ∈ P.edges → I s → I (updateEdge P s e))
    {s t : State V} (h0 : I s) (r : Run P s t) : I t :=
  r.evolves.invariant I hrem hupd h0

theorem updateEdge_shape (P : Problem V) (s : State V) (e : Edge V) :
    updateEdge P s e = s ∨ ∃ v, updateEdge P s e = s.setNodeValue e.dst v := by
  unfold updateEdge
  split
  · split
    · unfold mergeNodeValue
      split
      · dsimp only
        split
        · exact .inr ⟨_, rfl⟩
        · exact .inl rfl
      · exact .inr ⟨_, rfl⟩
    · exact .inl rfl
  · exact .inl rfl

theorem updateEdge_frame (P : Problem V) (s : State V) (e : Edge V) {i : Nat}
    (h : (updateEdge P s e).wl i = false) : s.wl i = false ∧ (updateEdge P s e).vals i = s.vals i := by
  rcases updateEdge_shape P s e with heq | ⟨v, heq⟩
  · rw [heq] at h ⊢; exact ⟨h, rfl⟩
  · rw [heq] at h ⊢
    have hi : i ≠ e.dst := fun hc => by rw [hc, s.setNodeValue_wl_self] at h; cases h
    exact ⟨by rwa [s.setNodeValue_wl_of_ne v hi] at h, s.setNodeValue_vals_of_ne v hi⟩

theorem vals_updateEdge_other {P : Problem V} (s : State V) (fe : Edge V) (i : Nat)
    (hi : i ≠ fe.dst) : (updateEdge P s fe).vals i = s.vals i := by
  rcases updateEdge_shape P s fe with h | ⟨v, h⟩ <;> rw [h]
  exact s.setNodeValue_vals_of_ne v hi

theorem wl_updateEdge {P : Problem V} (s : State V) (fe : Edge V)
    (i : Nat) (h : (updateEdge P s fe).wl i = true) : s.wl i = true ∨ i = fe.dst := by
  rcases updateEdge_shape P s fe with h' | ⟨v, h'⟩ <;> rw [h'] at h
  · exact .inl h
  · by_cases hi : i = fe.dst
    · exact .inr hi
    · exact .inl ((s.setNodeValue_wl_of_ne v hi).symm.trans h)

theorem updateEdge_cases (P : Problem V) (hL : IsSemilattice P.join) (s : State V) (e : Edge V) :
    (updateEdge P s e = s ∧ Sat P s.vals e) ∨
    (∃ a x nv, s.vals e.src = some a ∧ e.f a = some x ∧ updateEdge P s e = s.setNodeValue e.dst nv ∧
      P.le x nv ∧
      ((s.vals e.dst = none ∧ nv = x) ∨ (∃ old, s.vals e.dst = some old ∧ nv = P.join x old ∧ nv ≠ old))) := by
  cases hsrc : s.vals e.src with
  | none =>
    exact .inl ⟨by simp only [updateEdge, hsrc], fun a x ha => by rw [hsrc] at ha; cases ha⟩
  | some a =>
    cases hf : e.f a with
    | none =>
      refine .inl ⟨by simp only [updateEdge, hsrc, hf], fun a' x ha' hx => ?_⟩
      rw [hsrc] at ha'; cases ha'; rw [hf] at hx; cases hx
    | some x =>
      have hupd : updateEdge P s e = mergeNodeValue P s e.dst x := by simp only [updateEdge, hsrc, hf]
      rw [hupd]
      unfold mergeNodeValue
      cases hdst : s.vals e.dst with
      | none => exact .inr ⟨a, x, x, rfl, hf, rfl, hL.idem x, .inl ⟨rfl, rfl⟩⟩
      | some old =>
        by_cases hle : P.join x old = old
        · refine .inl ⟨if_neg (not_not_intro hle), fun a' x' ha' hx' => ?_⟩
          rw [hsrc] at ha'; cases ha'; rw [hf] at hx'; cases hx'
          exact ⟨old, hdst, hle⟩
        · exact .inr ⟨a, x, P.join x old, rfl, hf, if_pos hle, hL.le_join_left x old, .inr ⟨old, rfl, rfl, hle⟩⟩

theorem updateEdge_grows (P : Problem V) (hL : IsSemilattice P.join) (s : State V) (e : Edge V) :
    Assign.le P s.vals (updateEdge P s e).vals := by
  rcases updateEdge_cases P hL s e with ⟨heq, _⟩ | ⟨a, x, nv, _, _, heq, _, hnv⟩
  · rw [heq]; exact Assign.le_refl hL _
  · rw [heq]
    intro i v hv
    by_cases hi : i = e.dst
    · subst hi
      refine ⟨nv, s.setNodeValue_vals_self .., ?_⟩
      rcases hnv with ⟨hnone, _⟩ | ⟨old, hold, rfl, _⟩
      · rw [hnone] at hv; cases hv
      · rw [hold] at hv; cases hv
        exact hL.le_join_right x v
    · exact ⟨v, (s.setNodeValue_vals_of_ne nv hi).trans hv, hL.idem v⟩

/-- Every edge in `D` whose start node is neither in the worklist nor in the exempt set `X` is
satisfied. (`X` is used by the bounded variant for the nodes given up; `D` tracks the out-edges
already handled in the middle of `update_node`.) -/
def InvD (P : Problem V) (X : Nat → Bool) (D : Edge V → Prop) (s : State V) : Prop :=
  ∀ e ∈ P.edges, s.wl e.src = false → X e.src = false → D e → Sat P s.vals e

/-- the loop invariant of `compute` -/
def Inv (P : Problem V) (X : Nat → Bool) (s : State V) : Prop := InvD P X (fun _ => True) s

theorem updateEdge_invD (P : Problem V) (hL : IsSemilattice P.join) (X : Nat → Bool) (D : Edge V → Prop)
    (s : State V) (e : Edge V) (h : InvD P X D s) :
    InvD P X (fun e' => e' = e ∨ D e') (updateEdge P s e) := by
  intro e' he' hwl hX hD a' x' ha' hx'
  obtain ⟨hwl', hvals⟩ := updateEdge_frame P s e hwl
  rw [hvals] at ha'
  rcases hD with rfl | hD
  · rcases updateEdge_cases P hL s e' with ⟨heq, hsat⟩ | ⟨a, x, nv, hsrc, hf, heq, hxnv, _⟩
    · rw [heq]; exact hsat a' x' ha' hx'
    · rw [hsrc] at ha'; cases ha'
      rw [hf] at hx'; cases hx'
      exact ⟨nv, by rw [heq]; exact s.setNodeValue_vals_self .., hxnv⟩
  · -- an edge satisfied before stays satisfied: its start value is the same and values only grow
    obtain ⟨b, hb, hxb⟩ := h e' he' hwl' hX hD a' x' ha' hx'
    obtain ⟨b', hb', hbb'⟩ := updateEdge_grows P hL s e _ b hb
    exact ⟨b', hb', hL.le_trans hxb hbb'⟩

theorem updateEdges_invD (P : Problem V) (hL : IsSemilattice P.join) (X : Nat → Bool) (es : List (Edge V)) :
    ∀ (D : Edge V → Prop) (s : State V), InvD P X D s →
      InvD P X (fun e' => e' ∈ es ∨ D e') (updateEdges P s es) := by
  induction es with
  | nil => exact fun D s h e' he' hwl hX hD => h e' he' hwl hX (hD.resolve_left List.not_mem_nil)
  | cons e es ih =>
    intro D s h e' he' hwl hX hD
    refine ih _ _ (updateEdge_invD P hL X D s e h) e' he' hwl hX ?_
    rcases hD with hm | hD
    · exact (List.mem_cons.mp hm).elim (fun h => .inr (.inl h)) .inl
    · exact .inr (.inr hD)

theorem updateNode_inv (P : Problem V) (hL : IsSemilattice P.join) (X : Nat → Bool) (s : State V) (p : Nat)
    (es : List (Edge V)) (hes : OutEdges P p es) (h : Inv P X s) :
    Inv P X (updateEdges P (s.remove p) es) := by
  have h0 : InvD P X (fun e => e.src ≠ p) (s.remove p) :=
    fun e he hwl hX hD => h e he ((s.remove_wl_of_ne hD).symm.trans hwl) hX trivial
  intro e he hwl hX _
  refine updateEdges_invD P hL X es _ _ h0 e he hwl hX ?_
  by_cases hp : e.src = p
  · exact .inl (hes.2 e he hp)
  · exact .inr hp

theorem Step.inv {P : Problem V} (hL : IsSemilattice P.join) {X : Nat → Bool} {s t : State V}
    (hst : Step P s t) (h : Inv P X s) : Inv P X t := by
  cases hst with
  | mk p es _ hes => exact updateNode_inv P hL X _ p es hes h

theorem Run.inv {P : Problem V} (hL : IsSemilattice P.join) {X : Nat → Bool} {s t : State V}
    (r : Run P s t) (h : Inv P X s) : Inv P X t := by
  obtain ⟨k, hk⟩ := r
  induction hk with
  | refl => exact h
  | step hst _ ih => exact ih (hst.inv hL h)

/-- start condition of `compute`: every node that has a value is in the worklist
(`Computation::new/from_node_priority_list` + `set_node_value` guarantee it). -/
def Init (s : State V) : Prop := ∀ i a, s.vals i = some a → s.wl i = true

omit [DecidableEq V] in
theorem Init.inv {P : Problem V} {s : State V} (h : Init s) : Inv P (fun _ => false) s := by
  intro e _ hwl _ _ a x ha _
  rw [h e.src a ha] at hwl; cases hwl

omit [DecidableEq V] in
theorem closed_of_inv {P : Problem V} {s : State V} (h : Inv P (fun _ => false) s) (hst : s.stabilized) :
    Closed P s.vals :=
  fun e he => h e he (hst e.src) rfl trivial

theorem closed_of_stabilized {P : Problem V} (hL : IsSemilattice P.join) {s t : State V}
    (h0 : Inv P (fun _ => false) s) (r : Run P s t) (hst : t.stabilized) : Closed P t.vals :=
  closed_of_inv (r.inv hL h0) hst

/-- What the solver stores stays inside every family of value sets `G n` that is closed under `join` and under the edge
transfers: only transferred values are stored, joined with what the end node held. -/
theorem updateEdge_within (P : Problem V) (hL : IsSemilattice P.join) (G : Nat → V → Prop)
    (hjoin : ∀ n x y, G n x → G n y → G n (P.join x y))
    (hflow : ∀ e ∈ P.edges, ∀ a x, G e.src a → e.f a = some x → G e.dst x)
    (s : State V) (e : Edge V) (he : e ∈ P.edges) (h : ∀ n v, s.vals n = some v → G n v) :
    ∀ n v, (updateEdge P s e).vals n = some v → G n v := by
  rcases updateEdge_cases P hL s e with ⟨heq, _⟩ | ⟨a, x, nv, hsrc, hf, heq, _, hnv⟩ <;> rw [heq]
  · exact h
  · have hx := hflow e he a x (h _ _ hsrc) hf
    intro n v hv
    by_cases hn : n = e.dst
    · subst hn
      rw [s.setNodeValue_vals_self] at hv; cases hv
      rcases hnv with ⟨_, rfl⟩ | ⟨old, hold, rfl, _⟩
      · exact hx
      · exact hjoin _ _ _ hx (h _ _ hold)
    · exact h n v ((s.setNodeValue_vals_of_ne nv hn).symm.trans hv)

theorem Evolves.within {P : Problem V} (hL : IsSemilattice P.join) (G : Nat → V → Prop)
    (hjoin : ∀ n x y, G n x → G n y → G n (P.join x y))
    (hflow : ∀ e ∈ P.edges, ∀ a x, G e.src a → e.f a = some x → G e.dst x)
    {s t : State V} (r : Evolves P s t) (h : ∀ n v, s.vals n = some v → G n v) :
    ∀ n v, t.vals n = some v → G n v :=
  r.invariant (fun u => ∀ n v, u.vals n = some v → G n v) (fun _ _ h => h)
    (fun u e => updateEdge_within P hL G hjoin hflow u e) h

/-- the values below a closed assignment are such a family -/
theorem Evolves.le_of_closed {P : Problem V} (hL : IsSemilattice P.join) (hM : Monotone P) {S : Assign V}
    (hS : Closed P S) {s t : State V} (r : Evolves P s t) (h : Assign.le P s.vals S) :
    Assign.le P t.vals S :=
  r.within hL (fun n v => ∃ b, S n = some b ∧ P.le v b)
    (fun _ _ _ ⟨b, hb, hxb⟩ ⟨_, hb', hyb⟩ => ⟨b, hb, hL.join_le hxb (Option.some.inj (hb'.symm.trans hb) ▸ hyb)⟩)
    (fun e he _ x ⟨a', ha', haa'⟩ hf =>
      let ⟨y, hy, hxy⟩ := hM e he _ a' x haa' hf
      let ⟨b, hb, hyb⟩ := hS e he a' y ha' hy
      ⟨b, hb, hL.le_trans hxy hyb⟩) h

theorem Evolves.grows {P : Problem V} (hL : IsSemilattice P.join) {s t : State V} (r : Evolves P s t) :
    Assign.le P s.vals t.vals :=
  r.invariant (fun u => Assign.le P s.vals u.vals) (fun _ _ h => h)
    (fun u e _ h => Assign.le_trans hL h (updateEdge_grows P hL u e)) (Assign.le_refl hL _)

theorem below_of_closed {P : Problem V} (hL : IsSemilattice P.join) (hM : Monotone P) {S : Assign V}
    (hS : Closed P S) {s t : State V} (r : Run P s t) (h : Assign.le P s.vals S) :
    Assign.le P t.vals S :=
  r.evolves.le_of_closed hL hM hS h

theorem grows {P : Problem V} (hL : IsSemilattice P.join) {s t : State V} (r : Run P s t) :
    Assign.le P s.vals t.vals :=
  r.evolves.grows hL

def IsLeastClosedAbove (P : Problem V) (A S : Assign V) : Prop :=
  Closed P S ∧ Assign.le P A S ∧ ∀ S', Closed P S' → Assign.le P A S' → Assign.le P S S'

omit [DecidableEq V] in
theorem IsLeastClosedAbove.unique {P : Problem V} (hL : IsSemilattice P.join) {A S T : Assign V}
    (hS : IsLeastClosedAbove P A S) (hT : IsLeastClosedAbove P A T) : S = T :=
  Assign.le_antisymm hL (hS.2.2 T hT.1 hT.2.1) (hT.2.2 S hS.1 hS.2.1)

/-- **C07 main theorem (abstract machine).** A run of the solver — whatever node is taken from the
worklist in each iteration and in whatever order its out-edges are handled — that ends with an
empty worklist ends in THE least assignment that contains the start values and is closed under all
edge transfers. -/
theorem run_least {P : Problem V} (hL : IsSemilattice P.join) (hM : Monotone P) {s t : State V}
    (h0 : Init s) (r : Run P s t) (hst : t.stabilized) : IsLeastClosedAbove P s.vals t.vals :=
  ⟨closed_of_stabilized hL h0.inv r hst, grows hL r, fun _ hS hA => below_of_closed hL hM hS r hA⟩

/-- the result does not depend on the scheduler or the edge order -/
theorem run_unique {P : Problem V} (hL : IsSemilattice P.join) (hM : Monotone P) {s t t' : State V}
    (h0 : Init s) (r : Run P s t) (hst : t.stabilized) (r' : Run P s t') (hst' : t'.stabilized) :
    t.vals = t'.vals :=
  (run_least hL hM h0 r hst).unique hL (run_least hL hM h0 r' hst')

/-- resuming, e.g. from the state the bounded variant leaves behind (`BRun.finish_inv`,
`bounded_between`) -/
theorem run_least_of_between {P : Problem V} (hL : IsSemilattice P.join) (hM : Monotone P) {A : Assign V}
    {s t : State V} (hinv : Inv P (fun _ => false) s) (hA : Assign.le P A s.vals)
    (hbelow : ∀ S, Closed P S → Assign.le P A S → Assign.le P s.vals S)
    (r : Run P s t) (hst : t.stabilized) : IsLeastClosedAbove P A t.vals :=
  ⟨closed_of_stabilized hL hinv r hst, Assign.le_trans hL hA (grows hL r),
   fun S hS hAS => below_of_closed hL hM hS r (hbelow S hS hAS)⟩

/-- finite height `H`, given by a rank function; `ranked_of_chains` derives one from "every
ascending chain has at most `H + 1` elements" -/
structure Ranked (P : Problem V) (H : Nat) (rank : V → Nat) : Prop where
  bound  : ∀ a, rank a ≤ H
  strict : ∀ a b, P.le a b → a ≠ b → rank a < rank b

def WellFormed (P : Problem V) (n : Nat) : Prop := ∀ e ∈ P.edges, e.src < n ∧ e.dst < n

def WlBounded (n : Nat) (s : State V) : Prop := ∀ i, s.wl i = true → i < n

def level (rank : V → Nat) : Option V → Nat
  | none => 0
  | some a => rank a + 1

/-- contribution of node `i` to the termination measure: 1 if it is in the worklist, plus twice
the room that is left above its value -/
def nodeMeasure (H : Nat) (rank : V → Nat) (s : State V) (i : Nat) : Nat :=
  (if s.wl i then 1 else 0) + 2 * (H + 1 - level rank (s.vals i))

def sumTo : Nat → (Nat → Nat) → Nat
  | 0, _ => 0
  | n + 1, g => sumTo n g + g n

def measure (n H : Nat) (rank : V → Nat) (s : State V) : Nat := sumTo n (nodeMeasure H rank s)

theorem sumTo_le {n : Nat} {g g' : Nat → Nat} (h : ∀ i, g' i ≤ g i) : sumTo n g' ≤ sumTo n g := by
  induction n with
  | zero => exact Nat.le_refl _
  | succ n ih => exact Nat.add_le_add ih (h n)

theorem sumTo_lt {n : Nat} {g g' : Nat → Nat} (h : ∀ i, g' i ≤ g i) {p : Nat} (hp : p < n)
    (hlt : g' p + 1 ≤ g p) : sumTo n g' + 1 ≤ sumTo n g := by
  induction n with
  | zero => exact absurd hp (Nat.not_lt_zero p)
  | succ n ih =>
    rcases Nat.lt_succ_iff_lt_or_eq.mp hp with hp | rfl
    · rw [sumTo, Nat.add_right_comm]; exact Nat.add_le_add (ih hp) (h n)
    · exact show sumTo p g' + (g' p + 1) ≤ sumTo p g + g p from Nat.add_le_add (sumTo_le h) hlt

theorem sumTo_bound {n : Nat} {g : Nat → Nat} {B : Nat} (h : ∀ i, g i ≤ B) : sumTo n g ≤ n * B := by
  induction n with
  | zero => exact Nat.zero_le _
  | succ n ih => rw [Nat.succ_mul]; exact Nat.add_le_add ih (h n)

omit [DecidableEq V] in
theorem measure_le (n H : Nat) (rank : V → Nat) (s : State V) : measure n H rank s ≤ n * (2 * H + 3) := by
  refine sumTo_bound fun i => ?_
  have hw : (if s.wl i then 1 else 0) ≤ 1 := by split <;> decide
  exact Nat.le_trans (Nat.add_le_add hw (Nat.mul_le_mul_left 2 (Nat.sub_le ..))) (Nat.le_of_eq (Nat.add_comm ..))

omit [DecidableEq V] in
theorem nodeMeasure_setNodeValue_of_ne (H : Nat) (rank : V → Nat) (s : State V) {i node : Nat} (v : V)
    (h : i ≠ node) : nodeMeasure H rank (s.setNodeValue node v) i = nodeMeasure H rank s i := by
  unfold nodeMeasure
  rw [s.setNodeValue_wl_of_ne v h, s.setNodeValue_vals_of_ne v h]

omit [DecidableEq V] in
/-- a node whose level rises does not gain weight although it enters the worklist: the room above its
value shrinks, and that counts twice -/
theorem nodeMeasure_setNodeValue_self {H : Nat} {rank : V → Nat} (s : State V) (node : Nat) {v : V}
    (hv : rank v ≤ H) (hlt : level rank (s.vals node) ≤ rank v) :
    nodeMeasure H rank (s.setNodeValue node v) node ≤ nodeMeasure H rank s node := by
  unfold nodeMeasure
  rw [s.setNodeValue_wl_self, s.setNodeValue_vals_self]
  have hroom : H + 1 - level rank (some v) < H + 1 - level rank (s.vals node) :=
    Nat.sub_lt_sub_left (Nat.lt_succ_of_le (Nat.le_trans hlt hv)) (Nat.lt_succ_of_le hlt)
  exact Nat.le_trans (Nat.le_trans (Nat.le_of_eq (Nat.add_comm ..)) (Nat.le_succ _))
    (Nat.le_trans (Nat.mul_le_mul_left 2 hroom) (Nat.le_add_left ..))

theorem updateEdge_nodeMeasure (P : Problem V) (hL : IsSemilattice P.join) {H : Nat} {rank : V → Nat}
    (hR : Ranked P H rank) (s : State V) (e : Edge V) (i : Nat) :
    nodeMeasure H rank (updateEdge P s e) i ≤ nodeMeasure H rank s i := by
  rcases updateEdge_cases P hL s e with ⟨heq, _⟩ | ⟨a, x, nv, _, _, heq, _, hnv⟩
  · rw [heq]; exact Nat.le_refl _
  · rw [heq]
    by_cases hi : i = e.dst
    · subst hi
      refine nodeMeasure_setNodeValue_self s _ (hR.bound nv) ?_
      rcases hnv with ⟨hnone, _⟩ | ⟨old, hold, hnveq, hne⟩
      · rw [hnone]; exact Nat.zero_le _
      · rw [hold]
        exact hR.strict old nv (hnveq ▸ hL.le_join_right x old) (Ne.symm hne)
    · exact Nat.le_of_eq (nodeMeasure_setNodeValue_of_ne H rank s nv hi)

theorem updateEdges_nodeMeasure (P : Problem V) (hL : IsSemilattice P.join) {H : Nat} {rank : V → Nat}
    (hR : Ranked P H rank) (es : List (Edge V)) : ∀ (s : State V) (i : Nat),
    nodeMeasure H rank (updateEdges P s es) i ≤ nodeMeasure H rank s i := by
  induction es with
  | nil => intro s i; exact Nat.le_refl _
  | cons e es ih =>
    intro s i
    exact Nat.le_trans (ih (updateEdge P s e) i) (updateEdge_nodeMeasure P hL hR s e i)

omit [DecidableEq V] in
theorem measure_remove_lt {H : Nat} {rank : V → Nat} {n : Nat} {s : State V} {p : Nat}
    (hp : s.wl p = true) (hpn : p < n) : measure n H rank (s.remove p) + 1 ≤ measure n H rank s := by
  refine sumTo_lt (p := p) (fun i => ?_) hpn ?_
  · unfold nodeMeasure
    by_cases hi : i = p
    · rw [hi, s.remove_wl_self]; exact Nat.add_le_add_right (Nat.zero_le _) _
    · rw [s.remove_wl_of_ne hi]; exact Nat.le_refl _
  · unfold nodeMeasure
    rw [s.remove_wl_self, hp]
    exact Nat.le_of_eq (Nat.add_right_comm ..)

theorem Step.measure_lt {P : Problem V} (hL : IsSemilattice P.join) {H : Nat} {rank : V → Nat}
    (hR : Ranked P H rank) {n : Nat} {s t : State V} (hwl : WlBounded n s)
    (hst : Step P s t) : measure n H rank t + 1 ≤ measure n H rank s := by
  cases hst with
  | mk p es hp hes =>
    exact Nat.le_trans (Nat.succ_le_succ (sumTo_le (updateEdges_nodeMeasure P hL hR es _)))
      (measure_remove_lt hp (hwl p hp))

/-- the worklist only gains end nodes of edges -/
theorem Evolves.wl_sub {P : Problem V} (Q : Nat → Prop) (hdst : ∀ e ∈ P.edges, Q e.dst) {s t : State V}
    (r : Evolves P s t) (h : ∀ i, s.wl i = true → Q i) : ∀ i, t.wl i = true → Q i :=
  r.invariant (fun u => ∀ i, u.wl i = true → Q i)
    (fun u p h i hi => h i (by
      by_cases hip : i = p
      · rw [hip, u.remove_wl_self] at hi; cases hi
      · exact (u.remove_wl_of_ne hip).symm.trans hi))
    (fun u e he h i hi => (wl_updateEdge u e i hi).elim (h i) fun hd => hd ▸ hdst e he) h

theorem Evolves.wlBounded {P : Problem V} {n : Nat} (hW : WellFormed P n) {s t : State V}
    (r : Evolves P s t) (h : WlBounded n s) : WlBounded n t :=
  r.wl_sub (· < n) (fun e he => (hW e he).2) h

theorem runN_measure {P : Problem V} (hL : IsSemilattice P.join) {H : Nat} {rank : V → Nat}
    (hR : Ranked P H rank) {n : Nat} (hW : WellFormed P n) {k : Nat} {s t : State V}
    (hs : WlBounded n s) (r : RunN P k s t) : measure n H rank t + k ≤ measure n H rank s := by
  induction r with
  | refl => exact Nat.le_refl _
  | step hst _ ih =>
    exact Nat.le_trans (Nat.succ_le_succ (ih ((hst.evolves (.refl _)).wlBounded hW hs)))
      (hst.measure_lt hL hR hs)

/-- **C07, termination (abstract machine).** Over a lattice of height `H` a run from any state whose
worklist holds only nodes of the graph has at most `n·(2H+3)` iterations, whatever the scheduler does. -/
theorem runN_bound {P : Problem V} (hL : IsSemilattice P.join) {H : Nat} {rank : V → Nat}
    (hR : Ranked P H rank) {n : Nat} (hW : WellFormed P n) {k : Nat} {s t : State V}
    (hs : WlBounded n s) (r : RunN P k s t) : k ≤ n * (2 * H + 3) :=
  Nat.le_trans (Nat.le_add_left ..) (Nat.le_trans (runN_measure hL hR hW hs r) (measure_le n H rank s))

omit [DecidableEq V] in
theorem outEdges_filter (P : Problem V) (p : Nat) : OutEdges P p (P.edges.filter (fun e => e.src = p)) := by
  constructor
  · intro e he
    have := List.mem_filter.mp he
    exact ⟨this.1, of_decide_eq_true this.2⟩
  · intro e he hp
    exact List.mem_filter.mpr ⟨he, decide_eq_true hp⟩

theorem exists_step (P : Problem V) {s : State V} (h : ¬ s.stabilized) : ∃ t, Step P s t := by
  obtain ⟨i, hi⟩ := Classical.not_forall.mp h
  exact ⟨_, Step.mk s i _ (Bool.of_not_eq_false hi) (outEdges_filter P i)⟩

/-- `m` bounds the measure and only serves the induction -/
theorem exists_stabilized_run {P : Problem V} (hL : IsSemilattice P.join) {H : Nat} {rank : V → Nat}
    (hR : Ranked P H rank) {n : Nat} (hW : WellFormed P n) :
    ∀ (m : Nat) (s : State V), WlBounded n s → measure n H rank s ≤ m → ∃ t, Run P s t ∧ t.stabilized := by
  intro m
  induction m with
  | zero =>
    intro s hs hm
    refine ⟨s, Run.refl P s, Classical.byContradiction fun hne => ?_⟩
    obtain ⟨t, hst⟩ := exists_step P hne
    exact Nat.not_succ_le_zero _ (Nat.le_trans (hst.measure_lt hL hR hs) hm)
  | succ m ih =>
    intro s hs hm
    by_cases hstab : s.stabilized
    · exact ⟨s, Run.refl P s, hstab⟩
    · obtain ⟨t, hst⟩ := exists_step P hstab
      obtain ⟨u, ru, hu⟩ := ih t ((hst.evolves (.refl _)).wlBounded hW hs)
        (Nat.le_of_succ_le_succ (Nat.le_trans (hst.measure_lt hL hR hs) hm))
      exact ⟨u, Run.head hst ru, hu⟩

/-- **C07, existence and uniqueness.** Over a finite-height join-semilattice with monotone
transfers the least closed assignment above the start values exists, and it is what every
stabilised run returns. -/
theorem least_solution_exists {P : Problem V} (hL : IsSemilattice P.join) (hM : Monotone P) {H : Nat}
    {rank : V → Nat} (hR : Ranked P H rank) {n : Nat} (hW : WellFormed P n) (s : State V)
    (h0 : Init s) (hs : WlBounded n s) :
    ∃ L, IsLeastClosedAbove P s.vals L ∧ ∀ t, Run P s t → t.stabilized → t.vals = L := by
  obtain ⟨t, rt, ht⟩ := exists_stabilized_run hL hR hW _ s hs (Nat.le_refl _)
  refine ⟨t.vals, run_least hL hM h0 rt ht, ?_⟩
  intro t' rt' ht'
  exact run_unique hL hM h0 rt' ht' rt ht

/-- strictly descending chain (head is the largest element) -/
def DChain (P : Problem V) : List V → Prop
  | [] => True
  | [_] => True
  | a :: b :: rest => P.le b a ∧ b ≠ a ∧ DChain P (b :: rest)

def FiniteHeight (P : Problem V) (H : Nat) : Prop := ∀ l, DChain P l → l.length ≤ H + 1

theorem exists_max (Q : Nat → Prop) (B : Nat) (hb : ∀ k, Q k → k ≤ B) (hex : ∃ k, Q k) :
    ∃ m, Q m ∧ ∀ k, Q k → k ≤ m := by
  induction B with
  | zero =>
    obtain ⟨k, hk⟩ := hex
    exact ⟨k, hk, fun j hj => Nat.le_trans (hb j hj) (Nat.zero_le k)⟩
  | succ B ih =>
    by_cases hq : Q (B + 1)
    · exact ⟨B + 1, hq, hb⟩
    · exact ih fun k hk => Nat.le_of_lt_succ (Nat.lt_of_le_of_ne (hb k hk) fun h => hq (by rwa [h] at hk))

omit [DecidableEq V] in
/-- the rank of `a` is the largest number of elements strictly below `a` in a chain -/
theorem ranked_of_chains {P : Problem V} {H : Nat} (hH : FiniteHeight P H) : ∃ rank, Ranked P H rank := by
  have hmax : ∀ a : V, ∃ m, (∃ l, DChain P (a :: l) ∧ l.length = m) ∧
      ∀ k, (∃ l, DChain P (a :: l) ∧ l.length = k) → k ≤ m := by
    intro a
    apply exists_max _ H
    · rintro k ⟨l, hl, rfl⟩
      exact Nat.le_of_succ_le_succ (hH _ hl)
    · exact ⟨0, [], trivial, rfl⟩
  refine ⟨fun a => Classical.choose (hmax a), ?_, ?_⟩
  · intro a
    obtain ⟨⟨l, hl, hlen⟩, _⟩ := Classical.choose_spec (hmax a)
    exact hlen ▸ Nat.le_of_succ_le_succ (hH _ hl)
  · intro a b hab hne
    obtain ⟨⟨l, hl, hlen⟩, _⟩ := Classical.choose_spec (hmax a)
    exact hlen ▸ (Classical.choose_spec (hmax b)).2 (l.length + 1) ⟨a :: l, ⟨hab, hne, hl⟩, rfl⟩

/-- state of the bounded loop: solver state, the per-node `steps` counters and `non_stabilized_nodes` -/
structure BState (V : Type) where
  st      : State V
  steps   : Nat → Nat
  nonStab : Nat → Bool

/-- one iteration of the `while` loop of `compute_with_max_steps(k)`, for ANY choice of the node -/
inductive BStep (P : Problem V) (k : Nat) : BState V → BState V → Prop where
  | process (b : BState V) (p : Nat) (es : List (Edge V)) :
      b.st.wl p = true → b.steps p < k → OutEdges P p es →
      BStep P k b { st := updateEdges P (b.st.remove p) es
                    steps := fun i => if i = p then b.steps i + 1 else b.steps i
                    nonStab := b.nonStab }
  | giveUp (b : BState V) (p : Nat) :
      b.st.wl p = true → ¬ b.steps p < k →
      BStep P k b { st := b.st.remove p
                    steps := b.steps
                    nonStab := fun i => if i = p then true else b.nonStab i }

inductive BRun (P : Problem V) (k : Nat) : BState V → BState V → Prop where
  | refl (b : BState V) : BRun P k b b
  | step {b c d : BState V} : BStep P k b c → BRun P k c d → BRun P k b d

theorem BRun.snoc {P : Problem V} {k : Nat} {b c d : BState V} (r : BRun P k b c)
    (h : BStep P k c d) : BRun P k b d := by
  induction r with
  | refl => exact .step h (.refl _)
  | step h' _ ih => exact .step h' (ih h)

/-- `let mut steps = vec![0; n]; let mut non_stabilized_nodes = BTreeSet::new();` -/
def BState.start (s : State V) : BState V := { st := s, steps := fun _ => 0, nonStab := fun _ => false }

/-- `self.worklist = non_stabilized_nodes;` — the state `compute_with_max_steps` leaves behind -/
def BState.finish (b : BState V) : State V := { vals := b.st.vals, wl := b.nonStab }

theorem BStep.evolves {P : Problem V} {k : Nat} {b c : BState V} {u : State V} (h : BStep P k b c)
    (r : Evolves P c.st u) : Evolves P b.st u := by
  cases h with
  | process p es _ _ hes => exact .remove p (.of_updateEdges (fun e he => (hes.1 e he).1) r)
  | giveUp p _ _ => exact .remove p r

theorem BRun.evolves {P : Problem V} {k : Nat} {b c : BState V} (r : BRun P k b c) :
    Evolves P b.st c.st := by
  induction r with
  | refl => exact .refl _
  | step h _ ih => exact h.evolves ih

theorem BRun.induction {P : Problem V} {k : Nat} (I : State V → Prop)
    (hrem : ∀ s p, I s → I (s.remove p))
    (hupd : ∀ s e, e ∈ P.edges → I s → I (updateEdge P s e))
    {b c : BState V} (h0 : I b.st) (r : BRun P k b c) : I c.st :=
  r.evolves.invariant I hrem hupd h0

/-- only nodes of the worklist are given up (the companion of `Evolves.wl_sub`) -/
theorem BRun.nonStab_sub {P : Problem V} {k : Nat} (Q : Nat → Prop) (hdst : ∀ e ∈ P.edges, Q e.dst)
    {b c : BState V} (r : BRun P k b c) (hwl : ∀ i, b.st.wl i = true → Q i)
    (hn : ∀ i, b.nonStab i = true → Q i) : ∀ i, c.nonStab i = true → Q i := by
  induction r with
  | refl => exact hn
  | @step b _ _ hst _ ih =>
    refine ih ((hst.evolves (.refl _)).wl_sub Q hdst hwl) ?_
    cases hst with
    | process p es _ _ _ => exact hn
    | giveUp p hp _ =>
      intro i hi
      have hi : (if i = p then true else b.nonStab i) = true := hi
      split at hi
      · next hip => exact hip ▸ hwl p hp
      · exact hn i hi

/-- **C07, bounded variant: no node is processed more often than the bound.** -/
theorem BRun.steps_le {P : Problem V} {k : Nat} {b c : BState V} (r : BRun P k b c)
    (h : ∀ i, b.steps i ≤ k) : ∀ i, c.steps i ≤ k := by
  induction r with
  | refl => exact h
  | @step b _ _ hst _ ih =>
    apply ih
    cases hst with
    | process p es _ hlt _ =>
      intro i
      show (if i = p then b.steps i + 1 else b.steps i) ≤ k
      split
      · subst i; exact hlt
      · exact h i
    | giveUp p _ _ => exact h

theorem BRun.steps_mono {P : Problem V} {k : Nat} {b c : BState V} (r : BRun P k b c) :
    ∀ i, b.steps i ≤ c.steps i := by
  induction r with
  | refl => intro i; exact Nat.le_refl _
  | @step b _ _ hst _ ih =>
    intro i
    refine Nat.le_trans ?_ (ih i)
    cases hst with
    | process p es _ _ _ =>
      show b.steps i ≤ if i = p then b.steps i + 1 else b.steps i
      split
      · exact Nat.le_succ _
      · exact Nat.le_refl _
    | giveUp p _ _ => exact Nat.le_refl _

/-- loop invariant of the bounded loop: the nodes given up are exempt -/
theorem BRun.inv {P : Problem V} (hL : IsSemilattice P.join) {k : Nat} {b c : BState V}
    (r : BRun P k b c) (h : Inv P b.nonStab b.st) : Inv P c.nonStab c.st := by
  induction r with
  | refl => exact h
  | @step b _ _ hst _ ih =>
    apply ih
    cases hst with
    | process p es _ _ hes => exact updateNode_inv P hL _ _ p es hes h
    | giveUp p _ _ =>
      intro e he hwl hX _
      have hX : (if e.src = p then true else b.nonStab e.src) = false := hX
      have hne : e.src ≠ p := fun hc => by rw [if_pos hc] at hX; cases hX
      exact h e he ((b.st.remove_wl_of_ne hne).symm.trans hwl) ((if_neg hne).symm.trans hX) trivial

/-- the state `compute_with_max_steps` leaves behind satisfies the loop invariant of `compute` again,
so the computation can be resumed -/
theorem BRun.finish_inv {P : Problem V} (hL : IsSemilattice P.join) {k : Nat} {s : State V} {c : BState V}
    (h0 : Init s) (r : BRun P k (BState.start s) c) (hdone : c.st.stabilized) :
    Inv P (fun _ => false) c.finish :=
  fun e he hwl _ _ => r.inv hL h0.inv e he (hdone e.src) hwl trivial

/-- **C07, bounded variant: `has_stabilized` ⇒ closed.** -/
theorem bounded_closed_of_stabilized {P : Problem V} (hL : IsSemilattice P.join) {k : Nat} {s : State V}
    {c : BState V} (h0 : Init s) (r : BRun P k (BState.start s) c) (hdone : c.st.stabilized)
    (hstab : c.finish.stabilized) : Closed P c.finish.vals :=
  closed_of_inv (r.finish_inv hL h0 hdone) hstab

/-- **C07, bounded variant: intermediate results lie between the start values and every closed
assignment above them** (in particular below the least solution), stabilised or not. -/
theorem bounded_between {P : Problem V} (hL : IsSemilattice P.join) (hM : Monotone P) {k : Nat}
    {s : State V} {c : BState V} (r : BRun P k (BState.start s) c) :
    Assign.le P s.vals c.finish.vals ∧
    ∀ S, Closed P S → Assign.le P s.vals S → Assign.le P c.finish.vals S :=
  ⟨r.evolves.grows hL, fun _ hS => r.evolves.le_of_closed hL hM hS⟩

/-- **C07, bounded variant.** If `compute_with_max_steps` reports `has_stabilized`, its result is the
least closed assignment above the start values — the same as `compute` — for every scheduler. -/
theorem bounded_least_of_stabilized {P : Problem V} (hL : IsSemilattice P.join) (hM : Monotone P)
    {k : Nat} {s : State V} {c : BState V} (h0 : Init s) (r : BRun P k (BState.start s) c)
    (hdone : c.st.stabilized) (hstab : c.finish.stabilized) :
    IsLeastClosedAbove P s.vals c.finish.vals :=
  ⟨bounded_closed_of_stabilized hL h0 r hdone hstab, bounded_between hL hM r⟩

theorem BStep.measure_lt {P : Problem V} (hL : IsSemilattice P.join) {H : Nat} {rank : V → Nat}
    (hR : Ranked P H rank) {n k : Nat} {b c : BState V} (hwl : WlBounded n b.st)
    (hst : BStep P k b c) : measure n H rank c.st + 1 ≤ measure n H rank b.st := by
  cases hst with
  | process p es hp _ hes => exact (Step.mk b.st p es hp hes).measure_lt hL hR hwl
  | giveUp p hp _ => exact measure_remove_lt hp (hwl p hp)

theorem BStep.wlBounded {P : Problem V} {n k : Nat} (hW : WellFormed P n) {b c : BState V}
    (hst : BStep P k b c) (h : WlBounded n b.st) : WlBounded n c.st :=
  (hst.evolves (.refl _)).wlBounded hW h

section Soundness
variable {C : Type}

/-- states reachable in the concrete (collecting) semantics: `init i c` are the concrete start
states at node `i`, `cstep e c c'` the concrete transition along edge `e`. -/
inductive Reach (P : Problem V) (init : Nat → C → Prop) (cstep : Edge V → C → C → Prop) : Nat → C → Prop where
  | start {i : Nat} {c : C} : init i c → Reach P init cstep i c
  | step {e : Edge V} {c c' : C} : e ∈ P.edges → Reach P init cstep e.src c → cstep e c c' →
      Reach P init cstep e.dst c'

omit [DecidableEq V] in
/-- **Meta-theorem of abstract interpretation.** Let `γ` concretise abstract values. If
* `merge` is an upper bound in the concretisation (`γ x ⊆ γ (merge x b)`),
* every edge transfer is sound (a concrete transition from a state described by `a` is not blocked,
  and its target is described by the transfer's result),
* the assignment `S` is closed under the edge transfers and describes all concrete start states,
then every reachable concrete state at node `i` is described by the value `S i`. -/
theorem sound_of_closed {P : Problem V} {γ : V → C → Prop} {init : Nat → C → Prop}
    {cstep : Edge V → C → C → Prop}
    (hjoin : ∀ x b c, γ x c → γ (P.join x b) c)
    (hsound : ∀ e ∈ P.edges, ∀ a c c', γ a c → cstep e c c' → ∃ x, e.f a = some x ∧ γ x c')
    {S : Assign V} (hS : Closed P S) (hinit : ∀ i c, init i c → ∃ a, S i = some a ∧ γ a c)
    {i : Nat} {c : C} (hr : Reach P init cstep i c) : ∃ a, S i = some a ∧ γ a c := by
  induction hr with
  | start h => exact hinit _ _ h
  | step he _ hc ih =>
    obtain ⟨a, ha, hγ⟩ := ih
    obtain ⟨x, hx, hγx⟩ := hsound _ he a _ _ hγ hc
    obtain ⟨b, hb, hxb⟩ := hS _ he a x ha hx
    refine ⟨b, hb, ?_⟩
    have := hjoin x b _ hγx
    rwa [hxb] at this

omit [DecidableEq V] in
theorem unreachable_of_none {P : Problem V} {γ : V → C → Prop} {init : Nat → C → Prop}
    {cstep : Edge V → C → C → Prop}
    (hjoin : ∀ x b c, γ x c → γ (P.join x b) c)
    (hsound : ∀ e ∈ P.edges, ∀ a c c', γ a c → cstep e c c' → ∃ x, e.f a = some x ∧ γ x c')
    {S : Assign V} (hS : Closed P S) (hinit : ∀ i c, init i c → ∃ a, S i = some a ∧ γ a c)
    {i : Nat} (hnone : S i = none) (c : C) : ¬ Reach P init cstep i c := by
  intro hr
  obtain ⟨a, ha, _⟩ := sound_of_closed hjoin hsound hS hinit hr
  rw [hnone] at ha; cases ha

/-- the result of a stabilised solver run is sound (only the semilattice laws are needed — no
monotonicity, no finite height). -/
theorem solver_sound {P : Problem V} (hL : IsSemilattice P.join) {γ : V → C → Prop}
    {init : Nat → C → Prop} {cstep : Edge V → C → C → Prop}
    (hjoin : ∀ x b c, γ x c → γ (P.join x b) c)
    (hsound : ∀ e ∈ P.edges, ∀ a c c', γ a c → cstep e c c' → ∃ x, e.f a = some x ∧ γ x c')
    {s t : State V} (h0 : Init s) (r : Run P s t) (hst : t.stabilized)
    (hinit : ∀ i c, init i c → ∃ a, s.vals i = some a ∧ γ a c)
    {i : Nat} {c : C} (hr : Reach P init cstep i c) : ∃ a, t.vals i = some a ∧ γ a c := by
  apply sound_of_closed hjoin hsound (closed_of_stabilized hL h0.inv r hst) _ hr
  intro j c' hj
  obtain ⟨a, ha, hγ⟩ := hinit j c' hj
  obtain ⟨b, hb, hab⟩ := grows hL r j a ha
  refine ⟨b, hb, ?_⟩
  have := hjoin a b _ hγ
  rwa [hab] at this

end Soundness

end CweModel.Fix
