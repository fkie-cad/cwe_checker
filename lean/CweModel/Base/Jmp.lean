/-
What a pass does to a jump when it leaves kind and expression alone: `Jmp.mapTarget` rewrites the direct
jump target or return site (block duplication and retargeting in C09, control flow propagation in C10);
`Jmp.skeleton` is what no such rewriting changes.
-/
import CweModel.Base.IR
namespace CweModel.IR

/-- `j` with its direct jump target or return site `t` replaced by `f t` -/
def Jmp.mapTarget (f : Tid → Tid) : Jmp → Jmp
  | .Branch t => .Branch (f t)
  | .CBranch t c => .CBranch (f t) c
  | .Call t r => .Call t (r.map f)
  | .CallInd e r => .CallInd e (r.map f)
  | .CallOther d r => .CallOther d (r.map f)
  | j => j

theorem Jmp.mapTarget_eq_call {f : Tid → Tid} {j : Jmp} {t r : Tid} (h : j.mapTarget f = .Call t (some r)) :
    ∃ r0, j = .Call t (some r0) ∧ f r0 = r := by
  cases j with
  | Call t' r' =>
    cases r' with
    | none => cases h
    | some r0 => cases h; exact ⟨r0, rfl, rfl⟩
  | _ => cases h

/-- kind and expression of a jump: what is left when the TIDs in it are forgotten -/
def Jmp.skeleton : Jmp → Jmp
  | .Branch _ => .Branch default
  | .CBranch _ c => .CBranch default c
  | .Call _ _ => .Call default none
  | .CallInd e _ => .CallInd e none
  | .CallOther d _ => .CallOther d none
  | j => j

theorem Jmp.skeleton_mapTarget (f : Tid → Tid) (j : Jmp) : (j.mapTarget f).skeleton = j.skeleton := by
  cases j <;> rfl

end CweModel.IR
