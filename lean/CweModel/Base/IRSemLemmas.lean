/-
What the reference interpreter of Base/IRSem.lean does, from the state upwards: registers and bytes; `havoc` and
`writeMem` as folds, with read after write and the frame condition of `readMem` in either byte order, and its instance for
two cells of one object (`cells_disjoint`); evaluation as a function of how a variable is read (`evalWith`); one `Def`;
the first jump of a jump list, also with its targets replaced; one block of `runBlocks`.
-/
import CweModel.Base.IRSem
import CweModel.Base.IRInst
import CweModel.Base.ListLemmas
import CweModel.Base.Interval
import CweModel.Base.Jmp

namespace CweModel.Sem
open CweModel CweModel.IR

theorem regDefault_w (σ : State) (v : Variable) : (σ.regDefault v).w = 8 * v.size := rfl

theorem getReg_setReg (σ : State) (v w : Variable) (x : Bv) :
    (σ.setReg v x).getReg w = if w = v then x else σ.getReg w := by
  unfold State.setReg State.getReg
  rw [List.find?_update_key]
  by_cases h : w = v
  · rw [if_pos h, if_pos h]
  · rw [if_neg h, if_neg h]; rfl

theorem getReg_setReg_self (σ : State) (v : Variable) (x : Bv) : (σ.setReg v x).getReg v = x :=
  (getReg_setReg σ v v x).trans (if_pos rfl)

theorem getReg_setReg_ne (σ : State) {v w : Variable} (x : Bv) (h : w ≠ v) :
    (σ.setReg v x).getReg w = σ.getReg w :=
  (getReg_setReg σ v w x).trans (if_neg h)

theorem getReg_setReg_w {σ : State} (h : ∀ u : Variable, (σ.getReg u).w = 8 * u.size) (v : Variable) (x : Bv)
    (hx : x.w = 8 * v.size) (u : Variable) : ((σ.setReg v x).getReg u).w = 8 * u.size := by
  rw [getReg_setReg]
  split
  · next hu => rw [hu, hx]
  · exact h u

theorem getByte_setByte (σ : State) (a b x : Nat) :
    (σ.setByte a b).getByte x = if x = a then b else σ.getByte x := by
  unfold State.setByte State.getByte
  rw [List.find?_update_key]
  by_cases h : x = a
  · rw [if_pos h, if_pos h]
  · rw [if_neg h, if_neg h]; rfl

theorem getReg_setByte (σ : State) (a b : Nat) (v : Variable) : (σ.setByte a b).getReg v = σ.getReg v := rfl

theorem seed_setReg (σ : State) (v : Variable) (x : Bv) : (σ.setReg v x).seed = σ.seed := rfl

theorem readMem_setReg (σ : State) (v : Variable) (x : Bv) (a n : Nat) : (σ.setReg v x).readMem a n = σ.readMem a n := rfl

theorem snapshot_congr {σ τ : State} {regs : List Variable} (hs : σ.seed = τ.seed) (hm : σ.mem = τ.mem)
    (hr : ∀ v ∈ regs, σ.getReg v = τ.getReg v) : σ.snapshot regs = τ.snapshot regs := by
  unfold State.snapshot State.memDefault
  rw [List.map_congr_left fun v hv => by rw [hr v hv], hs, hm]

theorem havoc_inv {P : State → Prop} (hP : ∀ s v x, x.w = 8 * v.size → P s → P (s.setReg v x)) {σ : State} (h : P σ)
    (regs : List Variable) (sp : Variable) (site : String) (n : Nat) : P (havoc σ regs sp site n) :=
  List.foldlRecOn (motive := P) _ _ h fun s hs v _ => by
    split
    · exact hs
    · exact hP s v _ rfl hs

theorem havoc_rel {R : State → State → Prop} (hR : ∀ s t v x, R s t → R (s.setReg v x) (t.setReg v x))
    {σ τ : State} (h : R σ τ) (hs : σ.seed = τ.seed) (regs : List Variable) (sp : Variable) (site : String) (n : Nat) :
    R (havoc σ regs sp site n) (havoc τ regs sp site n) := by
  unfold havoc
  rw [hs]
  refine List.foldl_rel h fun v _ _ _ hst => ?_
  split
  · exact hst
  · exact hR _ _ v _ hst

theorem writeMem_fields (σ : State) (a n val : Nat) :
    (σ.writeMem a n val).seed = σ.seed ∧ (σ.writeMem a n val).regs = σ.regs ∧
    (σ.writeMem a n val).littleEndian = σ.littleEndian ∧ (σ.writeMem a n val).ptrBytes = σ.ptrBytes :=
  List.foldlRecOn (motive := fun s : State => s.seed = σ.seed ∧ s.regs = σ.regs ∧
    s.littleEndian = σ.littleEndian ∧ s.ptrBytes = σ.ptrBytes) _ _ ⟨rfl, rfl, rfl, rfl⟩ fun _ hs _ _ => hs

theorem getReg_writeMem (σ : State) (a n val : Nat) (v : Variable) : (σ.writeMem a n val).getReg v = σ.getReg v :=
  List.foldlRecOn (motive := fun s : State => s.getReg v = σ.getReg v) _ _ rfl fun _ hs _ _ => hs

theorem ptrBytes_writeMem (σ : State) (a n val : Nat) : (σ.writeMem a n val).ptrBytes = σ.ptrBytes :=
  (writeMem_fields σ a n val).2.2.2

theorem wrapAddr_writeMem (σ : State) (a n val x : Nat) : (σ.writeMem a n val).wrapAddr x = σ.wrapAddr x :=
  congrArg (fun p => x % 2 ^ (8 * p)) (ptrBytes_writeMem σ a n val)

theorem writeMem_rel {R : State → State → Prop} (hR : ∀ s t a b, R s t → R (s.setByte a b) (t.setByte a b))
    {σ τ : State} (h : R σ τ) (hle : σ.littleEndian = τ.littleEndian) (hp : σ.ptrBytes = τ.ptrBytes) (a n val : Nat) :
    R (σ.writeMem a n val) (τ.writeMem a n val) := by
  unfold State.writeMem State.wrapAddr
  rw [hle, hp]
  exact List.foldl_rel h fun _ _ _ _ hst => hR _ _ _ _ hst

theorem getByte_foldl_miss (g f : Nat → Nat) {x : Nat} : ∀ (is : List Nat) (s : State), (∀ i ∈ is, g i ≠ x) →
    (is.foldl (fun s i => s.setByte (g i) (f i)) s).getByte x = s.getByte x
  | [], _, _ => rfl
  | i :: is, s, h => by
    rw [List.foldl_cons, getByte_foldl_miss g f is _ fun j hj => h j (List.mem_cons_of_mem _ hj), getByte_setByte,
      if_neg (h i List.mem_cons_self).symm]

theorem getByte_foldl_hit (g f : Nat → Nat) {j : Nat} : ∀ (is : List Nat) (s : State), j ∈ is →
    is.Pairwise (fun i i' => g i ≠ g i') → (is.foldl (fun s i => s.setByte (g i) (f i)) s).getByte (g j) = f j
  | i :: is, s, hj, hp => by
    obtain ⟨hi, hp⟩ := List.pairwise_cons.mp hp
    rw [List.foldl_cons]
    rcases List.mem_cons.mp hj with rfl | hj
    · rw [getByte_foldl_miss g f is _ fun i' h => (hi i' h).symm, getByte_setByte, if_pos rfl]
    · exact getByte_foldl_hit g f is _ hj hp

theorem getByte_writeMem_miss (σ : State) (a n val : Nat) {x : Nat} (h : ∀ i, i < n → σ.wrapAddr (a + i) ≠ x) :
    (σ.writeMem a n val).getByte x = σ.getByte x :=
  getByte_foldl_miss (fun i => σ.wrapAddr (a + i)) _ _ σ fun i hi => h i (List.mem_range.mp hi)

theorem add_mod_ne {a i j m : Nat} (hij : i < j) (hj : j < m) : (a + i) % m ≠ (a + j) % m := fun h => by
  have := Nat.sub_mod_eq_zero_of_mod_eq h.symm
  rw [Nat.add_sub_add_left, Nat.mod_eq_of_lt (Nat.lt_of_le_of_lt (Nat.sub_le j i) hj)] at this
  exact Nat.sub_ne_zero_of_lt hij this

/-- `hn`: the `n` addresses of a write do not wrap around onto each other -/
theorem getByte_writeMem_hit (σ : State) (a val : Nat) {n j : Nat} (hn : n ≤ 2 ^ (8 * σ.ptrBytes)) (hj : j < n) :
    (σ.writeMem a n val).getByte (σ.wrapAddr (a + j)) =
      val / 256 ^ (if σ.littleEndian then j else n - 1 - j) % 256 :=
  getByte_foldl_hit (fun i => σ.wrapAddr (a + i)) (fun i => val / 256 ^ (if σ.littleEndian then i else n - 1 - i) % 256)
    _ σ (List.mem_range.mpr hj) (List.pairwise_lt_range.imp_of_mem fun _ hb hlt =>
      add_mod_ne hlt (Nat.lt_of_lt_of_le (List.mem_range.mp hb) hn))

theorem readMem_of_bytes (τ : State) (a n : Nat) (f : Nat → Nat)
    (h : ∀ i, i < n → τ.getByte (τ.wrapAddr (a + i)) = f i) :
    τ.readMem a n = (if τ.littleEndian then ((List.range n).map f).reverse else (List.range n).map f).foldl
      (fun acc b => acc * 256 + b) 0 := by
  unfold State.readMem
  rw [List.map_congr_left fun i hi => h i (List.mem_range.mp hi)]

theorem foldl_digits_le (val : Nat) : ∀ n acc : Nat,
    ((List.range n).map fun i => val / 256 ^ i % 256).reverse.foldl (fun acc b => acc * 256 + b) acc =
      acc * 256 ^ n + val % 256 ^ n
  | 0, acc => by simp [Nat.mod_one]
  | n + 1, acc => by
    rw [List.range_succ, List.map_append, List.reverse_append, List.map_singleton, List.reverse_singleton,
      List.singleton_append, List.foldl_cons, foldl_digits_le val n, Nat.mod_pow_succ, Nat.pow_succ, Nat.add_mul,
      Nat.mul_assoc, Nat.mul_comm 256, Nat.mul_comm (256 ^ n) (_ % 256), Nat.add_assoc, Nat.add_comm (_ * 256 ^ n)]

theorem digits_be (val n : Nat) :
    ((List.range n).map fun i => val / 256 ^ (n - 1 - i) % 256) =
      ((List.range n).map fun i => val / 256 ^ i % 256).reverse := by
  have h := @List.reverse_range' 0 n
  rw [← List.range_eq_range', Nat.zero_add] at h
  rw [← List.map_reverse, h, List.map_map]; rfl

/-- **read after write**: reading the `n` bytes just written gives the low `n` bytes of the value, in either
byte order -/
theorem readMem_writeMem_same (σ : State) (a n val : Nat) (hn : n ≤ 2 ^ (8 * σ.ptrBytes)) :
    (σ.writeMem a n val).readMem a n = val % 256 ^ n := by
  rw [readMem_of_bytes _ a n _ fun j hj => (wrapAddr_writeMem σ a n val _ ▸ getByte_writeMem_hit σ a val hn hj :),
    (writeMem_fields σ a n val).2.2.1]
  cases σ.littleEndian
  · simpa [digits_be] using foldl_digits_le val n 0
  · simpa using foldl_digits_le val n 0

/-- **frame**: a read of bytes none of which is written is unchanged -/
theorem readMem_writeMem_frame (σ : State) (a n val b m : Nat)
    (hdis : ∀ i, i < n → ∀ j, j < m → σ.wrapAddr (a + i) ≠ σ.wrapAddr (b + j)) :
    (σ.writeMem a n val).readMem b m = σ.readMem b m := by
  rw [readMem_of_bytes _ b m (fun j => σ.getByte (σ.wrapAddr (b + j))) fun j hj => by
    rw [wrapAddr_writeMem]; exact getByte_writeMem_miss σ a n val fun i hi => hdis i hi j hj,
    (writeMem_fields σ a n val).2.2.1]
  rfl

/-- The cells of one object are byte ranges at signed offsets from its base, and `Itv.toU 64 (base + o)` is the machine
address of offset `o` (8-byte pointers). -/
theorem wrapAddr_cell (σ : State) (h8 : σ.ptrBytes = 8) (base o : Int) (i : Nat) :
    σ.wrapAddr (Itv.toU 64 (base + o) + i) = Itv.toU 64 (base + (o + (i : Int))) := by
  have hP : Itv.pow2 64 ≠ 0 := Int.ne_of_gt (Itv.pow2_pos 64)
  unfold State.wrapAddr Itv.toU
  rw [h8]
  apply Int.ofNat.inj
  show (((((base + o) % Itv.pow2 64).toNat + i) % 2 ^ 64 : Nat) : Int) = (((base + (o + i)) % Itv.pow2 64).toNat : Int)
  rw [Int.natCast_emod, Int.natCast_add, Int.toNat_of_nonneg (Int.emod_nonneg _ hP),
    Int.toNat_of_nonneg (Int.emod_nonneg _ hP), ← Int.add_assoc]
  exact Int.emod_add_emod _ _ _

theorem cells_disjoint_lt (σ : State) (h8 : σ.ptrBytes = 8) (base : Int) {lo hi o c : Int} {s n : Nat}
    (hwin : hi - lo < Itv.pow2 64) (hdis : o + (s : Int) ≤ c) (hbo : lo ≤ o) (hbc : c + (n : Int) ≤ hi)
    {i j : Nat} (hin : i < n) (hjs : j < s) :
    σ.wrapAddr (Itv.toU 64 (base + c) + i) ≠ σ.wrapAddr (Itv.toU 64 (base + o) + j) := by
  rw [wrapAddr_cell σ h8, wrapAddr_cell σ h8]
  -- the two byte offsets: `lo ≤ o + j < o + s ≤ c ≤ c + i < c + n ≤ hi`
  have h1 : o + (j : Int) < c + (i : Int) :=
    Int.lt_of_lt_of_le (Int.lt_of_lt_of_le (Int.add_lt_add_left (Int.ofNat_lt.mpr hjs) o) hdis)
      (Int.le_add_of_nonneg_right (Int.natCast_nonneg i))
  have h2 : c + (i : Int) < hi := Int.lt_of_lt_of_le (Int.add_lt_add_left (Int.ofNat_lt.mpr hin) c) hbc
  have h3 : lo ≤ o + (j : Int) := Int.le_trans hbo (Int.le_add_of_nonneg_right (Int.natCast_nonneg j))
  exact Itv.toU_add_ne base h1 (Int.lt_trans (Int.sub_lt_sub_of_lt_of_le h2 h3) hwin)

/-- Two cells of one object whose offset ranges do not meet and lie in a window shorter than `2^64` share no address: the
hypothesis of `readMem_writeMem_frame`. -/
theorem cells_disjoint (σ : State) (h8 : σ.ptrBytes = 8) (base : Int) {lo hi o c : Int} {s n : Nat}
    (hwin : hi - lo < Itv.pow2 64) (hdis : o + (s : Int) ≤ c ∨ c + (n : Int) ≤ o)
    (hbo : lo ≤ o ∧ o + (s : Int) ≤ hi) (hbc : lo ≤ c ∧ c + (n : Int) ≤ hi) :
    ∀ i, i < n → ∀ j, j < s → σ.wrapAddr (Itv.toU 64 (base + c) + i) ≠ σ.wrapAddr (Itv.toU 64 (base + o) + j) := by
  intro i hi j hj
  rcases hdis with h | h
  · exact cells_disjoint_lt σ h8 base hwin h hbo.1 hbc.2 hi hj
  · exact (cells_disjoint_lt σ h8 base hwin h hbc.1 hbo.2 hj hi).symm

theorem resToOpt_some {r : Res} {v : Bv} : resToOpt r = some v ↔ r = .val v := by
  cases r <;> simp [resToOpt]

/-- `eval` with the reading of a variable as a parameter: evaluation only depends on the seed and on what the input
variables hold -/
def evalWith (rd : Variable → Option Bv) (seed : Nat) : Expression → Option Bv
  | .Var v => rd v
  | .Const b x => some (Bv.ofBytes b x)
  | .BinOp op l r => do
    let a ← evalWith rd seed l
    let b ← evalWith rd seed r
    resToOpt (Ref.binOp op a b)
  | .UnOp op a => do resToOpt (Ref.unOp op (← evalWith rd seed a))
  | .Cast op s a => do resToOpt (Ref.cast op s (← evalWith rd seed a))
  | .Unknown d s => some (unknownValue seed d s)
  | .Subpiece lb s a => do resToOpt (Ref.subpieceOp lb s (← evalWith rd seed a))

theorem eval_eq_evalWith (σ : State) : ∀ e : Expression, eval σ e = evalWith (fun v => some (σ.getReg v)) σ.seed e := by
  intro e
  induction e with
  | Var _ | Const _ _ | Unknown _ _ => rfl
  | BinOp op l r ihl ihr => simp only [eval, evalWith, ihl, ihr]
  | UnOp _ a ih | Cast _ _ a ih | Subpiece _ _ a ih => simp only [eval, evalWith, ih]

theorem evalWith_congr {rd rd' : Variable → Option Bv} (seed : Nat) :
    ∀ e : Expression, (∀ v ∈ e.inputVars, rd v = rd' v) → evalWith rd seed e = evalWith rd' seed e := by
  intro e
  induction e with
  | Var v => exact fun h => h v List.mem_cons_self
  | Const _ _ | Unknown _ _ => exact fun _ => rfl
  | BinOp op l r ihl ihr =>
    intro h
    simp only [evalWith, ihl fun v hv => h v (List.mem_append_left _ hv), ihr fun v hv => h v (List.mem_append_right _ hv)]
  | UnOp _ a ih | Cast _ _ a ih | Subpiece _ _ a ih => intro h; simp only [evalWith, ih h]

theorem eval_agree {σ₁ σ₂ : State} (hs : σ₁.seed = σ₂.seed) :
    ∀ {e : Expression}, (∀ v ∈ e.inputVars, σ₁.getReg v = σ₂.getReg v) → eval σ₁ e = eval σ₂ e := by
  intro e h
  rw [eval_eq_evalWith, eval_eq_evalWith, hs]
  exact evalWith_congr _ e fun v hv => congrArg some (h v hv)

theorem evalWith_substVar (rd : Variable → Option Bv) (seed : Nat) (v : Variable) (r : Expression) :
    ∀ e : Expression, evalWith rd seed (e.substVar v r)
      = evalWith (fun w => if w = v then evalWith rd seed r else rd w) seed e := by
  intro e
  induction e with
  | Var w => simp only [Expression.substVar, evalWith]; split <;> rfl
  | Const _ _ | Unknown _ _ => rfl
  | BinOp op l r ihl ihr => simp only [Expression.substVar, evalWith, ihl, ihr]
  | UnOp _ a ih | Cast _ _ a ih | Subpiece _ _ a ih => simp only [Expression.substVar, evalWith, ih]

theorem evalWith_reads {rd : Variable → Option Bv} {seed : Nat} :
    ∀ {e : Expression} {x : Bv}, evalWith rd seed e = some x → ∀ v ∈ e.inputVars, (rd v).isSome = true := by
  intro e
  induction e with
  | Var w => intro x h v hv; cases List.mem_singleton.mp hv; rw [show rd w = some x from h]; rfl
  | Const _ _ | Unknown _ _ => intro _ _ v hv; cases hv
  | BinOp op l r ihl ihr =>
    intro x h v hv
    simp only [evalWith, Option.bind_eq_bind, Option.bind_eq_some_iff] at h
    obtain ⟨a, hl, b, hr, _⟩ := h
    exact (List.mem_append.mp hv).elim (ihl hl v) (ihr hr v)
  | UnOp _ a ih | Cast _ _ a ih | Subpiece _ _ a ih =>
    intro x h v hv
    simp only [evalWith, Option.bind_eq_bind, Option.bind_eq_some_iff] at h
    obtain ⟨y, ha, _⟩ := h
    exact ih ha v hv

theorem execDef_assign {σ : State} {v : Variable} {e : Expression} {r : State × List Event} :
    execDef σ (.Assign v e) = some r ↔ ∃ x, eval σ e = some x ∧ x.w = 8 * v.size ∧ (σ.setReg v x, []) = r := by
  simp only [execDef, Option.bind_eq_bind, Option.bind_eq_some_iff, bne_iff_ne, ne_eq, ite_not,
    Option.ite_none_right_eq_some, Option.some.injEq]

theorem execDef_load {σ : State} {v : Variable} {a : Expression} {r : State × List Event} :
    execDef σ (.Load v a) = some r ↔ ∃ x, eval σ a = some x ∧
      (σ.setReg v (Bv.ofBytes v.size (σ.readMem x.toNat v.size)),
        [Event.load x.toNat v.size (σ.readMem x.toNat v.size)]) = r := by
  simp only [execDef, Option.bind_eq_bind, Option.bind_eq_some_iff, Option.some.injEq]

theorem execDef_store {σ : State} {a e : Expression} {r : State × List Event} :
    execDef σ (.Store a e) = some r ↔ ∃ x, eval σ a = some x ∧ ∃ y, eval σ e = some y ∧
      (σ.writeMem x.toNat y.bytes y.toNat, [Event.store x.toNat y.bytes y.toNat]) = r := by
  simp only [execDef, Option.bind_eq_bind, Option.bind_eq_some_iff, Option.some.injEq]

theorem execDefs_cons (σ : State) (d : Term Def) (ds : List (Term Def)) :
    execDefs σ (d :: ds) = (execDef σ d.term).bind fun r₁ => (execDefs r₁.1 ds).bind fun r₂ =>
      some (r₂.1, r₁.2 ++ r₂.2) := rfl

theorem execDefs_cons_some {σ : State} {d : Term Def} {ds : List (Term Def)} {r : State × List Event} :
    execDefs σ (d :: ds) = some r ↔
      ∃ σ₁ e₁ σ₂ e₂, execDef σ d.term = some (σ₁, e₁) ∧ execDefs σ₁ ds = some (σ₂, e₂) ∧ r = (σ₂, e₁ ++ e₂) := by
  rw [execDefs_cons]
  constructor
  · intro h
    obtain ⟨⟨σ₁, e₁⟩, h₁, h⟩ := Option.bind_eq_some_iff.mp h
    obtain ⟨⟨σ₂, e₂⟩, h₂, h⟩ := Option.bind_eq_some_iff.mp h
    exact ⟨σ₁, e₁, σ₂, e₂, h₁, h₂, (Option.some.inj h).symm⟩
  · rintro ⟨σ₁, e₁, σ₂, e₂, h₁, h₂, rfl⟩
    rw [h₁, Option.bind_some, h₂, Option.bind_some]

theorem execDef_effect {σ σ' : State} {d : Def} {evs : List Event} :
    execDef σ d = some (σ', evs) →
      match d with
      | .Assign v _ | .Load v _ => ∃ x, σ' = σ.setReg v x
      | .Store _ _ => ∃ a n x, σ' = σ.writeMem a n x := by
  intro h
  cases d with
  | Assign v e => obtain ⟨x, _, _, hr⟩ := execDef_assign.mp h; cases hr; exact ⟨x, rfl⟩
  | Load v a => obtain ⟨x, _, hr⟩ := execDef_load.mp h; cases hr; exact ⟨_, rfl⟩
  | Store a e => obtain ⟨x, _, y, _, hr⟩ := execDef_store.mp h; cases hr; exact ⟨_, _, _, rfl⟩

theorem execDef_ptrBytes {σ σ' : State} {d : Def} {ev : List Event} (h : execDef σ d = some (σ', ev)) :
    σ'.ptrBytes = σ.ptrBytes := by
  have he := execDef_effect h
  cases d with
  | Assign v e | Load v a => obtain ⟨x, rfl⟩ := he; rfl
  | Store a e => obtain ⟨a, n, x, rfl⟩ := he; exact ptrBytes_writeMem σ a n x

/-- jump `j`, executed in `σ` with call counter `c`, continues at block `t` in state `σ₂` with counter `c₂` -/
def JmpGoes (env : Env) (σ : State) (c : Nat) (j : Term Jmp) (t : Tid) (σ₂ : State) (c₂ : Nat) : Prop :=
  match j.term with
  | .Branch tgt => tgt = t ∧ σ₂ = σ ∧ c₂ = c
  | .CBranch tgt cnd => tgt = t ∧ σ₂ = σ ∧ c₂ = c ∧ ∃ v, eval σ cnd = some v ∧ v.toNat ≠ 0
  | .Call _ (some r) => r = t ∧ σ₂ = havoc σ env.physRegs env.sp j.tid.id c ∧ c₂ = c + 1
  | .CallInd e (some r) => r = t ∧ σ₂ = havoc σ env.physRegs env.sp j.tid.id c ∧ c₂ = c + 1 ∧ (eval σ e).isSome
  | .CallOther _ (some r) => r = t ∧ σ₂ = havoc σ env.physRegs env.sp j.tid.id c ∧ c₂ = c + 1
  | _ => False

def Untaken (σ : State) (j : Term Jmp) : Prop :=
  ∃ t cnd v, j.term = .CBranch t cnd ∧ eval σ cnd = some v ∧ v.toNat = 0

theorem execJmps_cons_mapTarget (env : Env) (σ : State) (c : Nat) (f : Tid → Tid) (j : Term Jmp)
    (rest rest' : List (Term Jmp)) :
    (Untaken σ j ∧ execJmps env σ c (j :: rest) = execJmps env σ c rest ∧
      execJmps env σ c ({ j with term := Jmp.mapTarget f j.term } :: rest') = execJmps env σ c rest') ∨
    (∃ evs, execJmps env σ c (j :: rest) = (evs, .stop) ∧
      execJmps env σ c ({ j with term := Jmp.mapTarget f j.term } :: rest') = (evs, .stop)) ∨
    (∃ evs t σ' c', JmpGoes env σ c j t σ' c' ∧ execJmps env σ c (j :: rest) = (evs, .goto t σ' c') ∧
      execJmps env σ c ({ j with term := Jmp.mapTarget f j.term } :: rest') = (evs, .goto (f t) σ' c')) := by
  obtain ⟨jt, jterm⟩ := j
  cases jterm with
  | Branch t => exact .inr (.inr ⟨_, _, _, _, ⟨rfl, rfl, rfl⟩, rfl, rfl⟩)
  | CBranch t cnd =>
    simp only [Jmp.mapTarget, Sem.execJmps]
    cases he : eval σ cnd with
    | none => exact .inr (.inl ⟨_, rfl, rfl⟩)
    | some v =>
      by_cases hv : v.toNat = 0
      · simp only [show (v.toNat != 0) = false by rw [hv]; rfl, Bool.false_eq_true, if_false]
        exact .inl ⟨⟨t, cnd, v, rfl, he, hv⟩, trivial, trivial⟩
      · simp only [bne_iff_ne.mpr hv, if_true]
        exact .inr (.inr ⟨_, _, _, _, ⟨rfl, rfl, rfl, v, he, hv⟩, rfl, rfl⟩)
  | BranchInd e =>
    simp only [Jmp.mapTarget, Sem.execJmps]
    cases eval σ e <;> exact .inr (.inl ⟨_, rfl, rfl⟩)
  | Return e =>
    simp only [Jmp.mapTarget, Sem.execJmps]
    cases eval σ e <;> exact .inr (.inl ⟨_, rfl, rfl⟩)
  | Call callee r =>
    cases r with
    | none => exact .inr (.inl ⟨_, rfl, rfl⟩)
    | some r => exact .inr (.inr ⟨_, _, _, _, ⟨rfl, rfl, rfl⟩, rfl, rfl⟩)
  | CallOther d r =>
    cases r with
    | none => exact .inr (.inl ⟨_, rfl, rfl⟩)
    | some r => exact .inr (.inr ⟨_, _, _, _, ⟨rfl, rfl, rfl⟩, rfl, rfl⟩)
  | CallInd e r =>
    cases r with
    | none =>
      simp only [Jmp.mapTarget, Sem.execJmps]
      cases eval σ e <;> exact .inr (.inl ⟨_, rfl, rfl⟩)
    | some r =>
      simp only [Jmp.mapTarget, Sem.execJmps]
      cases he : eval σ e with
      | none => exact .inr (.inl ⟨_, rfl, rfl⟩)
      | some v => exact .inr (.inr ⟨_, _, _, _, ⟨rfl, rfl, rfl, by rw [he]; rfl⟩, rfl, rfl⟩)

theorem execJmps_map_mapTarget (env : Env) (σ : State) (c : Nat) (f : Term Jmp → Tid → Tid) :
    ∀ js : List (Term Jmp),
      (∀ evs, execJmps env σ c js = (evs, .stop) →
        execJmps env σ c (js.map fun j => { j with term := Jmp.mapTarget (f j) j.term }) = (evs, .stop)) ∧
      (∀ evs t σ' c', execJmps env σ c js = (evs, .goto t σ' c') →
        ∃ pre j post, js = pre ++ j :: post ∧ (∀ j' ∈ pre, Untaken σ j') ∧ JmpGoes env σ c j t σ' c' ∧
          execJmps env σ c (js.map fun j => { j with term := Jmp.mapTarget (f j) j.term }) =
            (evs, .goto (f j t) σ' c')) := by
  intro js
  induction js with
  | nil => exact ⟨fun _ h => h, fun _ _ _ _ h => by cases h⟩
  | cons j js ih =>
    rw [List.map_cons]
    rcases execJmps_cons_mapTarget env σ c (f j) j js
      (js.map fun j => { j with term := Jmp.mapTarget (f j) j.term }) with
      ⟨hun, h, h'⟩ | ⟨evs₀, h, h'⟩ | ⟨evs₀, t₀, σ₀, c₀, hgo, h, h'⟩
    · rw [h, h']
      refine ⟨ih.1, fun evs t σ' c' hj => ?_⟩
      obtain ⟨pre, j₁, post, rfl, hpre, hrest⟩ := ih.2 evs t σ' c' hj
      exact ⟨j :: pre, j₁, post, rfl, List.forall_mem_cons.mpr ⟨hun, hpre⟩, hrest⟩
    · rw [h, h']
      exact ⟨fun _ h => h, fun _ _ _ _ h => by cases h⟩
    · rw [h, h']
      refine ⟨fun _ h => (by cases h), fun evs t σ' c' hj => ?_⟩
      cases hj
      exact ⟨[], j, js, rfl, fun _ h => (by cases h), hgo, rfl⟩

theorem execJmps_goto_mem {env : Env} {σ σ' : State} {c c' : Nat} {js : List (Term Jmp)} {evs : List Event} {t : Tid}
    (h : execJmps env σ c js = (evs, .goto t σ' c')) : ∃ j ∈ js, JmpGoes env σ c j t σ' c' := by
  obtain ⟨pre, j, post, rfl, _, hgo, _⟩ := (execJmps_map_mapTarget env σ c (fun _ t => t) js).2 evs t σ' c' h
  exact ⟨j, List.mem_append_right _ List.mem_cons_self, hgo⟩

theorem execJmps_goto_state {P : State → Prop} {env : Env} {σ σ₂ : State} {c c₂ : Nat} {js : List (Term Jmp)}
    {evs : List Event} {t : Tid} (h : P σ) (hh : ∀ site, P (havoc σ env.physRegs env.sp site c))
    (hj : execJmps env σ c js = (evs, .goto t σ₂ c₂)) : P σ₂ := by
  obtain ⟨⟨jt, jterm⟩, _, hgo⟩ := execJmps_goto_mem hj
  cases jterm with
  | Branch _ | CBranch _ _ => rw [hgo.2.1]; exact h
  | Call _ r | CallInd _ r | CallOther _ r =>
    cases r with
    | none => cases hgo
    | some _ => rw [hgo.2.1]; exact hh _
  | BranchInd _ | Return _ => cases hgo

theorem runBlocks_none {env : Env} {blocks : List (Term Blk)} {n : Nat} {t : Tid} {σ : State} {c : Nat}
    (h : blocks.find? (fun b => b.tid == t) = none) :
    runBlocks env blocks (n + 1) t σ c = [.stuck s!"no block {t.id}"] := by
  simp only [runBlocks, h]

theorem runBlocks_defs_none {env : Env} {blocks : List (Term Blk)} {n : Nat} {t : Tid} {σ : State} {c : Nat}
    {b : Term Blk} (h : blocks.find? (fun b => b.tid == t) = some b) (hd : execDefs σ b.term.defs = none) :
    runBlocks env blocks (n + 1) t σ c = [.stuck s!"def in {t.id}"] := by
  simp only [runBlocks, h, hd]

theorem runBlocks_stop {env : Env} {blocks : List (Term Blk)} {n : Nat} {t : Tid} {σ σ₁ : State} {c : Nat}
    {b : Term Blk} {evs evs₂ : List Event} (h : blocks.find? (fun b => b.tid == t) = some b)
    (hd : execDefs σ b.term.defs = some (σ₁, evs)) (hj : execJmps env σ₁ c b.term.jmps = (evs₂, .stop)) :
    runBlocks env blocks (n + 1) t σ c = evs ++ evs₂ := by
  simp only [runBlocks, h, hd, hj]

theorem runBlocks_goto {env : Env} {blocks : List (Term Blk)} {n : Nat} {t t₂ : Tid} {σ σ₁ σ₂ : State} {c c₂ : Nat}
    {b : Term Blk} {evs evs₂ : List Event} (h : blocks.find? (fun b => b.tid == t) = some b)
    (hd : execDefs σ b.term.defs = some (σ₁, evs)) (hj : execJmps env σ₁ c b.term.jmps = (evs₂, .goto t₂ σ₂ c₂)) :
    runBlocks env blocks (n + 1) t σ c = evs ++ evs₂ ++ runBlocks env blocks n t₂ σ₂ c₂ := by
  simp only [runBlocks, h, hd, hj]

/-- The exact simulation for a pass that changes neither the jumps nor the outcome of the defs of the blocks a run
enters. No hypothesis that the run does not get stuck: the new defs get stuck exactly when the original ones do. -/
theorem runBlocks_congr (env : Env) (blocks blocks' : List (Term Blk)) (I : Tid → State → Prop)
    (hnone : ∀ t σ, I t σ → blocks.find? (fun b => b.tid == t) = none → blocks'.find? (fun b => b.tid == t) = none)
    (hsome : ∀ t σ b, I t σ → blocks.find? (fun b => b.tid == t) = some b →
      ∃ b', blocks'.find? (fun b => b.tid == t) = some b' ∧ b'.term.jmps = b.term.jmps ∧
        execDefs σ b'.term.defs = execDefs σ b.term.defs)
    (hinv : ∀ t σ c b σ₁ evs evs₂ t₂ σ₂ c₂, I t σ → blocks.find? (fun b => b.tid == t) = some b →
      execDefs σ b.term.defs = some (σ₁, evs) → execJmps env σ₁ c b.term.jmps = (evs₂, .goto t₂ σ₂ c₂) → I t₂ σ₂) :
    ∀ fuel t σ c, I t σ → runBlocks env blocks' fuel t σ c = runBlocks env blocks fuel t σ c := by
  intro fuel
  induction fuel with
  | zero => intro t σ c _; rfl
  | succ n ih =>
    intro t σ c hI
    cases hb : blocks.find? (fun b => b.tid == t) with
    | none => rw [runBlocks_none hb, runBlocks_none (hnone t σ hI hb)]
    | some b =>
      obtain ⟨b', hb', hj', hd'⟩ := hsome t σ b hI hb
      cases hd : execDefs σ b.term.defs with
      | none => rw [runBlocks_defs_none hb hd, runBlocks_defs_none hb' (hd'.trans hd)]
      | some r =>
        obtain ⟨σ₁, evs⟩ := r
        cases hjm : execJmps env σ₁ c b.term.jmps with
        | mk evs₂ nxt =>
          cases nxt with
          | stop => rw [runBlocks_stop hb hd hjm, runBlocks_stop hb' (hd'.trans hd) (hj' ▸ hjm)]
          | goto t₂ σ₂ c₂ =>
            rw [runBlocks_goto hb hd hjm, runBlocks_goto hb' (hd'.trans hd) (hj' ▸ hjm),
              ih t₂ σ₂ c₂ (hinv t σ c b σ₁ evs evs₂ t₂ σ₂ c₂ hI hb hd hjm)]

end CweModel.Sem
