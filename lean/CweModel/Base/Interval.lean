/-
The strided-interval value domain of `src/cwe_checker_lib/src/abstract_domain/interval.rs` and
`interval/simple_interval.rs`, and what the definitions compute. Core Lean only.

Representation
* a bit-vector (`apint::ApInt`) of width `w` bits is modelled by its **signed value**, an `Int`
  in `[-2^(w-1), 2^(w-1))` (`InRange w`); the width travels separately (`Interval.w`),
* machine arithmetic is made explicit: `wrap w` (two's complement wrap to `w` bits, it is
  `Int.bmod · (2^w)`, the same function core's `BitVec.toInt_add/_sub/_mul/_neg` use),
  `toU w` (the unsigned reading), `u64`/`i128` wrap for the primitive-integer computations,
* the stride is a `Nat` (`u64` in Rust; every operation that can leave the `u64` range wraps
  explicitly).

A definition that mirrors a Rust function names it. The Rust code is compiled in release mode
(no overflow checks), so primitive arithmetic wraps.
-/
namespace CweModel.Itv

/-- `2^w` as an integer. Kept as an opaque atom in proofs (`omega` treats `pow2 w` as a variable; the
facts needed are `pow2_pos` and `pow2_eq : pow2 w = 2 * pow2 (w - 1)`). -/
def pow2 (w : Nat) : Int := ((2 ^ w : Nat) : Int)

/-- two's complement wrap of an integer to `w` bits, signed reading -/
def wrap (w : Nat) (x : Int) : Int := x.bmod (2 ^ w)

/-- unsigned reading of (the `w`-bit pattern of) `x` -/
def toU (w : Nat) (x : Int) : Nat := (x % pow2 w).toNat

/-- `Bitvector::signed_min_value(w)` -/
def smin (w : Nat) : Int := -(pow2 (w - 1))
/-- `Bitvector::signed_max_value(w)` -/
def smax (w : Nat) : Int := pow2 (w - 1) - 1

/-- `x` is the signed value of some `w`-bit vector -/
def InRange (w : Nat) (x : Int) : Prop := smin w ≤ x ∧ x ≤ smax w

instance (w : Nat) (x : Int) : Decidable (InRange w x) := by unfold InRange; exact inferInstance

/-- wrap of a `u64` computation -/
def u64 (n : Nat) : Nat := n % 2 ^ 64
/-- wrap of an `i128` computation -/
def i128 (x : Int) : Int := x.bmod (2 ^ 128)
/-- wrap of an `i64` computation -/
def i64 (x : Int) : Int := x.bmod (2 ^ 64)

/-- Rust `%` on signed primitives (truncated remainder) -/
def trem (a b : Int) : Int := Int.tmod a b
/-- Rust `/` on signed primitives (truncated quotient) -/
def tquot (a b : Int) : Int := Int.tdiv a b

/-- `u64::trailing_zeros` (64 for 0) -/
def trailingZeros64 (n : Nat) : Nat :=
  if n = 0 then 64 else go 64 n 0
where
  go : Nat → Nat → Nat → Nat
    | 0, _, acc => acc
    | fuel + 1, n, acc => if n % 2 = 1 then acc else go fuel (n / 2) (acc + 1)

/-- `ApInt::try_to_u64`: succeeds iff the unsigned value needs at most 64 bits -/
def tryToU64 (w : Nat) (x : Int) : Option Nat :=
  let u := toU w x
  if u < 2 ^ 64 then some u else none

/-- `ApInt::try_to_i64`: succeeds iff the *unsigned* value needs at most 64 bits (apint 0.2);
the low digit is sign extended from `w` if `w < 64`, else reinterpreted as `i64`. -/
def tryToI64 (w : Nat) (x : Int) : Option Int :=
  let u := toU w x
  if u < 2 ^ 64 then some (if w < 64 then wrap w x else i64 u) else none

/-- `ApInt::try_to_i128`: succeeds iff the unsigned value needs at most 128 bits; sign extended
from `w` if `w < 128`. -/
def tryToI128 (w : Nat) (x : Int) : Option Int :=
  let u := toU w x
  if u < 2 ^ 128 then some (if w < 128 then wrap w x else i128 u) else none

/-- `Bitvector::from_u64(n).into_resize_unsigned(w)` as a signed value -/
def fromU64 (w : Nat) (n : Nat) : Int := wrap w (n : Int)

/-- `signed_add_overflow_checked` (intermediate_representation/bitvector.rs) -/
def signedAddOverflowChecked (w : Nat) (x y : Int) : Option Int :=
  let r := wrap w (x + y)
  if decide (y < 0) == decide (x ≤ r) then none else some r

/-- `signed_sub_overflow_checked` -/
def signedSubOverflowChecked (w : Nat) (x y : Int) : Option Int :=
  let r := wrap w (x - y)
  if decide (y < 0) == decide (r ≤ x) then none else some r

/-! ## `Interval` (simple_interval.rs) -/

/-- `struct Interval { start, end, stride }`; `w` is the bit width of `start`/`end`. -/
structure Interval where
  w : Nat
  start : Int
  stop : Int          -- Rust field `end`
  stride : Nat
deriving DecidableEq, Repr, Inhabited

namespace Interval

/-- concretisation: `x ∈ γ I`. `(stride : Int) ∣ x - start` covers both the singleton case
(`0 ∣ d ↔ d = 0`) and the strided case; see `mem_iff`. -/
def Mem (I : Interval) (x : Int) : Prop :=
  I.start ≤ x ∧ x ≤ I.stop ∧ (I.stride : Int) ∣ x - I.start

instance (I : Interval) (x : Int) : Decidable (I.Mem x) := by unfold Mem; exact inferInstance

/-- well-formedness (the invariants in the doc comment of `struct Interval`, plus ranges) -/
def WF (I : Interval) : Prop :=
  0 < I.w ∧ InRange I.w I.start ∧ InRange I.w I.stop ∧ I.start ≤ I.stop ∧
  (I.stride = 0 ↔ I.start = I.stop) ∧ (I.stride : Int) ∣ I.stop - I.start ∧ I.stride < 2 ^ 64

instance (I : Interval) : Decidable I.WF := by unfold WF; exact inferInstance

/-- `Interval::new_top` -/
def newTop (w : Nat) : Interval := { w := w, start := smin w, stop := smax w, stride := 1 }

/-- `Interval::is_top`: `start - 1 == end && stride == 1` -/
def isTop (I : Interval) : Bool := wrap I.w (I.start - 1) == I.stop && I.stride == 1

/-- `impl From<Bitvector> for Interval` -/
def single (w : Nat) (x : Int) : Interval := { w := w, start := x, stop := x, stride := 0 }

/-- `set_stride_to_unknown` -/
def setStrideToUnknown (I : Interval) : Interval :=
  { I with stride := if I.start = I.stop then 0 else 1 }

/-- the common prefix of `adjust_end_to_value_in_stride` / `adjust_start_to_value_in_stride`:
`(end - start) as u64 % stride` with `i64` operands -/
def adjustDiff (I : Interval) : Option Nat :=
  match tryToI64 I.w I.start, tryToI64 I.w I.stop with
  | some s, some e => some (toU 64 (i64 (e - s)) % I.stride)
  | _, _ => none

/-- `adjust_end_to_value_in_stride` -/
def adjustEnd (I : Interval) : Interval :=
  if I.stride = 0 then { I with stop := I.start }
  else if I.stride = 1 ∧ I.start ≠ I.stop then I
  else match I.adjustDiff with
    | some d =>
      let e := wrap I.w (I.stop - fromU64 I.w d)
      { I with stop := e, stride := if I.start = e then 0 else I.stride }
    | none => I.setStrideToUnknown

/-- `adjust_start_to_value_in_stride` -/
def adjustStart (I : Interval) : Interval :=
  if I.stride = 0 then { I with start := I.stop }
  else if I.stride = 1 ∧ I.start ≠ I.stop then I
  else match I.adjustDiff with
    | some d =>
      let s := wrap I.w (I.start + fromU64 I.w d)
      { I with start := s, stride := if s = I.stop then 0 else I.stride }
    | none => I.setStrideToUnknown

/-- `Interval::new` -/
def new (w : Nat) (s e : Int) (stride : Nat) : Interval :=
  adjustEnd { w := w, start := s, stop := e, stride := stride }

/-- `Interval::contains` -/
def contains (I : Interval) (x : Int) : Bool :=
  if I.start = x then true
  else decide (I.start ≤ x) && decide (x ≤ I.stop) &&
    (match tryToU64 I.w (wrap I.w (x - I.start)) with
     | some d => decide (0 < I.stride) && decide (d % I.stride = 0)
     | none => true)

end Interval

/-! ## `StrideRounding for Bitvector` (interval.rs) -/

/-- `round_up_to_stride_of` (after the repair: the rounded value is computed in `i128` and compared
with the maximal signed value; before, a difference ≥ 2^(w-1) was misread as negative) -/
def roundUpToStrideOf (x : Int) (I : Interval) : Option Int :=
  if I.stride = 0 ∨ I.w > 64 then some x
  else
    let diff := i128 ((tryToI128 I.w I.start).getD 0 - (tryToI128 I.w x).getD 0)
    let diff := trem diff I.stride
    let diff := trem (i128 (diff + I.stride)) I.stride
    let rounded := i128 ((tryToI128 I.w x).getD 0 + diff)
    if rounded > smax I.w then none else some (wrap I.w rounded)

/-- `round_down_to_stride_of` (repaired like `round_up_to_stride_of`) -/
def roundDownToStrideOf (x : Int) (I : Interval) : Option Int :=
  if I.stride = 0 ∨ I.w > 64 then some x
  else
    let diff := i128 ((tryToI128 I.w x).getD 0 - (tryToI128 I.w I.stop).getD 0)
    let diff := trem diff I.stride
    let diff := trem (i128 (diff + I.stride)) I.stride
    let rounded := i128 ((tryToI128 I.w x).getD 0 - diff)
    if rounded < smin I.w then none else some (wrap I.w rounded)

/-! ## `IntervalDomain` (interval.rs) -/

/-- `struct IntervalDomain`; hints are signed values of width `interval.w`. -/
structure IntervalDomain where
  interval : Interval
  upper : Option Int      -- `widening_upper_bound`
  lower : Option Int      -- `widening_lower_bound`
  delay : Nat             -- `widening_delay`
deriving DecidableEq, Repr, Inhabited

namespace IntervalDomain

/-- γ of a domain value ignores the hints (as `contains` does) -/
def Mem (a : IntervalDomain) (x : Int) : Prop := a.interval.Mem x

instance (a : IntervalDomain) (x : Int) : Decidable (a.Mem x) := by unfold Mem; exact inferInstance

/-- well-formed: interval well-formed, hints are `w`-bit values, delay is a `u64` -/
def WF (a : IntervalDomain) : Prop :=
  a.interval.WF ∧ (∀ u, a.upper = some u → InRange a.interval.w u) ∧
  (∀ l, a.lower = some l → InRange a.interval.w l) ∧ a.delay < 2 ^ 64

/-- `impl From<Interval> for IntervalDomain` -/
def ofInterval (I : Interval) : IntervalDomain :=
  { interval := I, upper := none, lower := none, delay := 0 }

/-- `impl From<Bitvector> for IntervalDomain` -/
def single (w : Nat) (x : Int) : IntervalDomain := ofInterval (Interval.single w x)

/-- `IntervalDomain::new(start, end)` -/
def new (w : Nat) (s e : Int) : IntervalDomain := ofInterval (Interval.new w s e 1)

/-- `SizedDomain::new_top` -/
def newTop (w : Nat) : IntervalDomain := ofInterval (Interval.newTop w)

def isTop (a : IntervalDomain) : Bool := a.interval.isTop
def w (a : IntervalDomain) : Nat := a.interval.w

/-- `try_to_bitvec` -/
def tryToBitvec (a : IntervalDomain) : Option Int :=
  if a.interval.start = a.interval.stop then some a.interval.start else none

/-- `update_widening_lower_bound` -/
def updateLower (a : IntervalDomain) (bound : Option Int) : IntervalDomain :=
  match bound with
  | none => a
  | some b =>
    match roundUpToStrideOf b a.interval with
    | none => a
    | some b =>
      if b < a.interval.start then
        match a.lower with
        | some prev => if b > prev then { a with lower := some b } else a
        | none => { a with lower := some b }
      else a

/-- `update_widening_upper_bound` -/
def updateUpper (a : IntervalDomain) (bound : Option Int) : IntervalDomain :=
  match bound with
  | none => a
  | some b =>
    match roundDownToStrideOf b a.interval with
    | none => a
    | some b =>
      if b > a.interval.stop then
        match a.upper with
        | some prev => if b < prev then { a with upper := some b } else a
        | none => { a with upper := some b }
      else a

end IntervalDomain

theorem pow2_pos (w : Nat) : 0 < pow2 w := Int.natCast_pos.mpr (Nat.two_pow_pos w)

theorem pow2_eq (w : Nat) (hw : 0 < w) : pow2 w = 2 * pow2 (w - 1) := by
  obtain ⟨k, rfl⟩ : ∃ k, w = k + 1 := ⟨w - 1, by omega⟩
  unfold pow2
  rw [Nat.add_sub_cancel, Nat.pow_succ, Nat.mul_comm]
  exact Int.natCast_mul 2 (2 ^ k)

theorem pow2_add (a b : Nat) : pow2 (a + b) = pow2 a * pow2 b := by
  unfold pow2; rw [Nat.pow_add]; exact Int.natCast_mul _ _

theorem pow2_le_pow2 {a b : Nat} (h : a ≤ b) : pow2 a ≤ pow2 b :=
  Int.ofNat_le.mpr (Nat.pow_le_pow_right (by decide) h)

theorem pow2_lt_pow2 {a b : Nat} (h : a < b) : pow2 a < pow2 b :=
  Int.ofNat_lt.mpr (Nat.pow_lt_pow_right (by decide) h)

theorem wrap_def (w : Nat) (x : Int) :
    wrap w x = if x % pow2 w < (pow2 w + 1) / 2 then x % pow2 w else x % pow2 w - pow2 w :=
  Int.bmod_def x (2 ^ w)

/-- the bounds in core's `Int.le_bmod` / `Int.bmod_lt` / `Int.bmod_eq_of_le` at the modulus `2^w` -/
theorem half_pow2 (w : Nat) (hw : 0 < w) :
    ((2 ^ w : Nat) : Int) / 2 = pow2 (w - 1) ∧ (((2 ^ w : Nat) : Int) + 1) / 2 = pow2 (w - 1) := by
  rw [show ((2 ^ w : Nat) : Int) = 2 * pow2 (w - 1) from pow2_eq w hw, Int.mul_ediv_cancel_left _ (by decide),
    Int.add_comm, Int.add_mul_ediv_left _ _ (by decide)]
  exact ⟨rfl, Int.zero_add _⟩

theorem wrap_inRange (w : Nat) (hw : 0 < w) (x : Int) : InRange w (wrap w x) := by
  have hlo := Int.le_bmod (x := x) (Nat.two_pow_pos w)
  have hhi := Int.bmod_lt (x := x) (Nat.two_pow_pos w)
  rw [(half_pow2 w hw).1] at hlo; rw [(half_pow2 w hw).2] at hhi
  exact ⟨hlo, Int.le_sub_one_of_lt hhi⟩

theorem wrap_spec (w : Nat) (hw : 0 < w) (x : Int) :
    InRange w (wrap w x) ∧ ∃ k : Int, wrap w x = x + k * pow2 w := by
  refine ⟨wrap_inRange w hw x, -x.bdiv (2 ^ w), ?_⟩
  rw [Int.neg_mul, Int.mul_comm, ← Int.sub_eq_add_neg]
  exact (Int.sub_eq_iff_eq_add.mpr (Int.bmod_add_bdiv x (2 ^ w)).symm).symm

theorem wrap_of_inRange (w : Nat) (hw : 0 < w) {x : Int} (hx : InRange w x) : wrap w x = x :=
  Int.bmod_eq_of_le (by rw [(half_pow2 w hw).1]; exact hx.1)
    (by rw [(half_pow2 w hw).2]; exact Int.lt_of_le_sub_one hx.2)

/-- `wrap x` is the value in range congruent to `x`: to show `wrap w x = y` give the multiple -/
theorem wrap_eq (w : Nat) (hw : 0 < w) {x y : Int} (k : Int) (hy : InRange w y) (h : x = y + k * pow2 w) :
    wrap w x = y := by
  rw [h, wrap, pow2, Int.add_mul_bmod_self_right]; exact wrap_of_inRange w hw hy

/-- `wrap` of a value at distance one range from the signed range: the three cases -/
theorem wrap_cases (w : Nat) (hw : 0 < w) (x : Int)
    (h1 : 3 * smin w ≤ x) (h2 : x ≤ 3 * smax w + 2) :
    (InRange w x ∧ wrap w x = x) ∨
    (smax w < x ∧ wrap w x = x - pow2 w) ∨
    (x < smin w ∧ wrap w x = x + pow2 w) := by
  -- below or above the range, one period brings `x` back into it
  have hb : (x < smin w → InRange w (x + pow2 w)) ∧ (smax w < x → InRange w (x - pow2 w)) := by
    have hP := pow2_eq w hw
    unfold InRange smin smax at *; omega
  by_cases hlo : x < smin w
  · exact .inr (.inr ⟨hlo, wrap_eq w hw (-1) (hb.1 hlo) (by rw [Int.neg_one_mul, Int.add_neg_cancel_right])⟩)
  by_cases hhi : smax w < x
  · exact .inr (.inl ⟨hhi, wrap_eq w hw 1 (hb.2 hhi) (by rw [Int.one_mul, Int.sub_add_cancel])⟩)
  · have hx : InRange w x := ⟨Int.not_lt.mp hlo, Int.not_lt.mp hhi⟩
    exact .inl ⟨hx, wrap_of_inRange w hw hx⟩

/-- `i128` is `wrap 128` (by `rfl`): the identity on the signed 128-bit range -/
theorem i128_of_small {z : Int} (h1 : -(2 ^ 127) ≤ z) (h2 : z < 2 ^ 127) : i128 z = z :=
  wrap_of_inRange 128 (by decide) ⟨h1, Int.le_sub_one_of_lt h2⟩

theorem inRange_toInt {w : Nat} (x : BitVec w) : InRange w x.toInt := by
  have h1 := @BitVec.le_toInt w x
  have h2 := @BitVec.toInt_lt w x
  have : pow2 (w - 1) = (2 : Int) ^ (w - 1) := Int.natCast_pow 2 (w - 1)
  unfold InRange smin smax; omega

theorem toU_int (w : Nat) (z : Int) : ((toU w z : Nat) : Int) = z % pow2 w :=
  Int.toNat_of_nonneg (Int.emod_nonneg _ (Int.ne_of_gt (pow2_pos w)))

theorem toU_zero (w : Nat) : toU w 0 = 0 := by
  unfold toU; simp

theorem toU_nonneg (w : Nat) (x : Int) : (0 : Int) ≤ (toU w x : Int) := by omega

theorem toU_congr (w : Nat) (x : Int) : pow2 w ∣ (toU w x : Int) - x := by
  rw [toU_int]; exact Int.dvd_emod_sub_self

theorem toU_of_nonneg_lt (w : Nat) {d : Int} (h0 : 0 ≤ d) (h1 : d < pow2 w) : (toU w d : Int) = d := by
  rw [toU_int]; exact Int.emod_eq_of_lt h0 h1

theorem toU_of_inRange (w : Nat) (hw : 0 < w) {x : Int} (hx : InRange w x) :
    (toU w x : Int) = if x < 0 then x + pow2 w else x := by
  have ⟨h0, h1⟩ : 0 ≤ x + pow2 w ∧ x < pow2 w := by
    have hp := pow2_pos (w - 1); have h2 := pow2_eq w hw
    unfold InRange smin smax at hx; omega
  rw [toU_int]
  split
  · rw [← Int.add_mul_emod_self_left x (pow2 w) 1, Int.mul_one]
    exact Int.emod_eq_of_lt h0 (by omega)
  · rename_i hx0
    exact Int.emod_eq_of_lt (Int.not_lt.mp hx0) h1

theorem toU_sub_toU (w : Nat) (hw : 0 < w) {s y : Int} (hs : InRange w s) (hy : InRange w y) (hsy : s ≤ y)
    (h : ¬ (s < 0 ∧ 0 ≤ y)) : (toU w y : Int) - (toU w s : Int) = y - s := by
  rw [toU_of_inRange w hw hs, toU_of_inRange w hw hy]
  split <;> split <;> omega

theorem toU_le_toU (w : Nat) (hw : 0 < w) {s y : Int} (hs : InRange w s) (hy : InRange w y) (hsy : s ≤ y)
    (h : ¬ (s < 0 ∧ 0 ≤ y)) : (toU w s : Int) ≤ (toU w y : Int) := by
  have := toU_sub_toU w hw hs hy hsy h; omega

theorem toU_lt (w : Nat) (x : Int) : (toU w x : Int) < pow2 w := by
  rw [toU_int]
  exact Int.emod_lt_of_pos _ (pow2_pos w)

theorem toU_wrap (w : Nat) (d : Int) : toU w (wrap w d) = toU w d := by
  unfold toU wrap pow2; rw [Int.bmod_emod]

theorem toU_toInt {w : Nat} (x : BitVec w) : toU w x.toInt = x.toNat := by
  unfold toU pow2
  rw [BitVec.toInt_eq_toNat_bmod, Int.bmod_emod]
  have := x.isLt
  rw [Int.emod_eq_of_lt (by omega) (by omega)]
  simp

/-- unsigned successor: below another unsigned value there is no wrap -/
theorem toU_succ {w : Nat} {x y : Int} (hlt : toU w x < toU w y) : toU w (wrap w (x + 1)) = toU w x + 1 := by
  have hy := toU_lt w y
  have h0 := Int.emod_nonneg x (Int.ne_of_gt (pow2_pos w))
  have hlt' := Int.ofNat_lt.mpr hlt
  rw [toU_int] at hy
  rw [toU_int, toU_int] at hlt'
  rw [toU_wrap]
  apply Int.ofNat_inj.mp
  rw [Int.natCast_add, toU_int, toU_int, ← Int.emod_add_emod]
  exact Int.emod_eq_of_lt (by omega) (by omega)

/-- unsigned predecessor: above another unsigned value there is no wrap -/
theorem toU_pred {w : Nat} {x y : Int} (hlt : toU w x < toU w y) : toU w (wrap w (y - 1)) + 1 = toU w y := by
  have hy := toU_lt w y
  have h0 := Int.emod_nonneg x (Int.ne_of_gt (pow2_pos w))
  have hlt' := Int.ofNat_lt.mpr hlt
  rw [toU_int] at hy
  rw [toU_int, toU_int] at hlt'
  rw [toU_wrap]
  apply Int.ofNat_inj.mp
  rw [Int.natCast_add, toU_int, toU_int, ← Int.emod_sub_emod, Int.emod_eq_of_lt (by omega) (by omega)]
  omega

theorem toU_add_ne {w : Nat} (b : Int) {p q : Int} (hlt : q < p) (hd : p - q < pow2 w) :
    toU w (b + p) ≠ toU w (b + q) := by
  intro h
  have hP := pow2_pos w
  have h' : (b + p) % pow2 w = (b + q) % pow2 w := by
    have := congrArg (fun n : Nat => (n : Int)) h
    simpa only [toU_int] using this
  have hdvd : pow2 w ∣ p - q := by
    have := Int.dvd_of_emod_eq_zero (Int.emod_eq_emod_iff_emod_sub_eq_zero.mp h')
    rwa [Int.add_sub_add_left] at this
  exact absurd (Int.le_of_dvd (Int.sub_pos.mpr hlt) hdvd) (Int.not_le.mpr hd)

/-! ### up to 64 bit the conversions `try_to_u64/i64/i128` do not fail, and a length is read back unchanged -/

theorem range_width (w : Nat) (hw : 0 < w) : smax w - smin w = pow2 w - 1 := by
  have := pow2_eq w hw
  unfold smax smin; omega

theorem diff_bounds {w : Nat} (hw : 0 < w) {s e : Int} (hs : InRange w s) (he : InRange w e)
    (hse : s ≤ e) : 0 ≤ e - s ∧ e - s < pow2 w :=
  ⟨Int.sub_nonneg_of_le hse, Int.lt_of_le_sub_one (range_width w hw ▸ Int.sub_le_sub he.2 hs.1)⟩

theorem toU_lt_u64 {w : Nat} (hw64 : w ≤ 64) (x : Int) : toU w x < 2 ^ 64 :=
  Int.ofNat_lt.mp (Int.lt_of_lt_of_le (toU_lt w x) (pow2_le_pow2 hw64))

theorem toU_wrap_of_nonneg {w : Nat} {d : Int} (h0 : 0 ≤ d) (h1 : d < pow2 w) :
    toU w (wrap w d) = d.toNat :=
  (toU_wrap w d).trans (congrArg Int.toNat (Int.emod_eq_of_lt h0 h1))

theorem tryToU64_diff {w : Nat} (hw : 0 < w) (hw64 : w ≤ 64) {s e : Int} (hs : InRange w s)
    (he : InRange w e) (hse : s ≤ e) : tryToU64 w (wrap w (e - s)) = some (e - s).toNat := by
  obtain ⟨h0, h1⟩ := diff_bounds hw hs he hse
  rw [← toU_wrap_of_nonneg h0 h1]
  exact if_pos (toU_lt_u64 hw64 _)

theorem tryToI64_inRange {w : Nat} (hw : 0 < w) (hw64 : w ≤ 64) {x : Int} (hx : InRange w x) :
    tryToI64 w x = some x := by
  unfold tryToI64
  rw [if_pos (toU_lt_u64 hw64 x)]
  by_cases h : w < 64
  · rw [if_pos h, wrap_of_inRange w hw hx]
  · obtain rfl : w = 64 := by omega
    -- the low digit reinterpreted as `i64`: `wrap 64 (x mod 2^64) = wrap 64 x = x`
    rw [if_neg h, toU_int]
    exact congrArg some ((Int.emod_bmod x (2 ^ 64)).trans (wrap_of_inRange 64 hw hx))

theorem tryToI128_inRange {w : Nat} (hw : 0 < w) (hw64 : w ≤ 64) {x : Int} (hx : InRange w x) :
    tryToI128 w x = some x := by
  unfold tryToI128
  have hw' : w < 128 := by omega
  have hlt : toU w x < 2 ^ 128 := Int.ofNat_lt.mp (Int.lt_trans (toU_lt w x) (pow2_lt_pow2 hw'))
  simp only [hlt, hw', if_true, wrap_of_inRange w hw hx]

/-! ### rounding into a residue class

After the facts on remainders and divisibility of differences, `firstIn` and `lastIn`: every adjustment of a bound to a
stride (`adjust_start/end_to_value_in_stride`, `round_up/down_to_stride_of`, `adjust_to_stride_and_remainder`) computes
one of these two values, and the three facts of each are all a user needs. -/

theorem trem_bounds (a n : Int) (hn : 0 < n) : -n < trem a n ∧ trem a n < n := by
  unfold trem
  exact ⟨Int.lt_tmod_of_pos a hn, Int.tmod_lt_of_pos a hn⟩

theorem emod_eq_of_dvd_sub {a b n : Int} (h : n ∣ a - b) : a % n = b % n :=
  Int.emod_eq_emod_iff_emod_sub_eq_zero.mpr (Int.emod_eq_zero_of_dvd h)

theorem emod_le_of_nonneg (a n : Int) (ha : 0 ≤ a) (hn : 0 < n) : a % n ≤ a := by
  have := Int.mul_ediv_add_emod a n
  have := Int.mul_nonneg (Int.le_of_lt hn) (Int.ediv_nonneg ha (Int.le_of_lt hn))
  omega

theorem dvd_sub_of_dvd_sub {g p q c : Int} (hp : g ∣ p - c) (hq : g ∣ q - c) : g ∣ p - q := by
  have := Int.dvd_sub hp hq
  rwa [show p - c - (q - c) = p - q by omega] at this

theorem dvd_sub_comm {g a b : Int} (h : g ∣ a - b) : g ∣ b - a := by
  rw [← Int.neg_sub]; exact Int.dvd_neg.mpr h

theorem sub_add_sub_cancel (a b c : Int) : a - b + (b - c) = a - c := by
  rw [← Int.add_sub_assoc, Int.sub_add_cancel]

theorem dvd_sub_trans {k x s t : Int} (h₁ : k ∣ x - s) (h₂ : k ∣ s - t) : k ∣ x - t :=
  sub_add_sub_cancel x s t ▸ Int.dvd_add h₁ h₂

/-- the least `x ≥ s` with `n ∣ x - r` (for `0 < n`) -/
def firstIn (s r n : Int) : Int := s + (r - s) % n

/-- the greatest `x ≤ e` with `n ∣ x - r` (for `0 < n`) -/
def lastIn (e r n : Int) : Int := e - (e - r) % n

theorem le_firstIn (s r : Int) {n : Int} (hn : 0 < n) : s ≤ firstIn s r n :=
  Int.le_add_of_nonneg_right (Int.emod_nonneg _ (Int.ne_of_gt hn))

theorem firstIn_dvd (s r n : Int) : n ∣ firstIn s r n - r := by
  rw [firstIn, show s + (r - s) % n - r = -(r - s - (r - s) % n) by omega]
  exact Int.dvd_neg.mpr Int.dvd_self_sub_emod

theorem firstIn_le {s x r n : Int} (hn : 0 < n) (hx : s ≤ x) (hc : n ∣ x - r) : firstIn s r n ≤ x := by
  have h : (r - s) % n = (x - s) % n :=
    emod_eq_of_dvd_sub (by rw [show r - s - (x - s) = -(x - r) by omega]; exact Int.dvd_neg.mpr hc)
  have := emod_le_of_nonneg (x - s) n (by omega) hn
  unfold firstIn; omega

theorem lastIn_le (e r : Int) {n : Int} (hn : 0 < n) : lastIn e r n ≤ e :=
  Int.sub_le_self _ (Int.emod_nonneg _ (Int.ne_of_gt hn))

theorem lastIn_dvd (e r n : Int) : n ∣ lastIn e r n - r := by
  rw [lastIn, show e - (e - r) % n - r = e - r - (e - r) % n by omega]
  exact Int.dvd_self_sub_emod

theorem le_lastIn {e x r n : Int} (hn : 0 < n) (hx : x ≤ e) (hc : n ∣ x - r) : x ≤ lastIn e r n := by
  have h : (e - r) % n = (e - x) % n :=
    emod_eq_of_dvd_sub (by rw [show e - r - (e - x) = x - r by omega]; exact hc)
  have := emod_le_of_nonneg (e - x) n (by omega) hn
  unfold lastIn; omega

/-! ### the components of `WF` by name, `Mem` of the simplest intervals, the shape of an adjusted interval -/

namespace Interval

section
variable {I : Interval} (h : I.WF)
include h
theorem WF.w_pos : 0 < I.w := h.1
theorem WF.start_inRange : InRange I.w I.start := h.2.1
theorem WF.stop_inRange : InRange I.w I.stop := h.2.2.1
theorem WF.start_le_stop : I.start ≤ I.stop := h.2.2.2.1
theorem WF.stride_eq_zero_iff : I.stride = 0 ↔ I.start = I.stop := h.2.2.2.2.1
theorem WF.stride_dvd : (I.stride : Int) ∣ I.stop - I.start := h.2.2.2.2.2.1
theorem WF.stride_lt : I.stride < 2 ^ 64 := h.2.2.2.2.2.2
end

/-- the long form of `γ` as written in the property text -/
theorem mem_iff (I : Interval) (x : Int) :
    I.Mem x ↔ I.start ≤ x ∧ x ≤ I.stop ∧ (I.stride = 0 → x = I.start) ∧
      (0 < I.stride → (I.stride : Int) ∣ x - I.start) := by
  refine ⟨fun ⟨h1, h2, h3⟩ => ⟨h1, h2, fun h0 => ?_, fun _ => h3⟩, fun ⟨h1, h2, h3, h4⟩ => ⟨h1, h2, ?_⟩⟩
  · rw [h0] at h3; exact Int.eq_of_sub_eq_zero (Int.zero_dvd.mp h3)
  · rcases Nat.eq_zero_or_pos I.stride with h0 | h0
    · rw [h0, h3 h0, Int.sub_self]; exact Int.dvd_refl _
    · exact h4 h0

theorem start_mem (I : Interval) (h : I.start ≤ I.stop) : I.Mem I.start :=
  ⟨Int.le_refl _, h, Int.sub_self _ ▸ Int.dvd_zero _⟩

theorem stop_mem (I : Interval) (h : I.WF) : I.Mem I.stop := ⟨h.start_le_stop, Int.le_refl _, h.stride_dvd⟩

theorem mem_inRange {I : Interval} (h : I.WF) {x : Int} (hx : I.Mem x) : InRange I.w x :=
  ⟨Int.le_trans h.2.1.1 hx.1, Int.le_trans hx.2.1 h.2.2.1.2⟩

theorem mem_single (w : Nat) (x y : Int) : (single w x).Mem y ↔ y = x :=
  ⟨fun h => Int.le_antisymm h.2.1 h.1, fun h => h ▸ start_mem (single w y) (Int.le_refl _)⟩

theorem mem_newTop (w : Nat) (x : Int) : (newTop w).Mem x ↔ InRange w x :=
  ⟨fun h => ⟨h.1, h.2.1⟩, fun h => ⟨h.1, h.2, Int.one_dvd _⟩⟩

theorem wf_single (w : Nat) (hw : 0 < w) (x : Int) (hx : InRange w x) : (single w x).WF :=
  ⟨hw, hx, hx, Int.le_refl _, ⟨fun _ => rfl, fun _ => rfl⟩, Int.sub_self _ ▸ Int.dvd_zero _, Nat.two_pow_pos 64⟩

/-- the result shape of every stride adjustment: bounds `s ≤ e` in one residue class modulo `st`, the stride reset to
`0` when they coincide -/
theorem wf_ifStride {w : Nat} {s e : Int} {st : Nat} (hw : 0 < w) (hs : InRange w s) (he : InRange w e) (hse : s ≤ e)
    (hst : 0 < st) (hst64 : st < 2 ^ 64) (hd : (st : Int) ∣ e - s) :
    ({ w := w, start := s, stop := e, stride := if s = e then 0 else st } : Interval).WF := by
  refine ⟨hw, hs, he, hse, ?_, ?_, ?_⟩ <;> by_cases h : s = e <;> simp [h]
  · omega
  · exact hd
  · exact hst64

theorem mem_ifStride {w : Nat} {s e x : Int} {st : Nat} :
    ({ w := w, start := s, stop := e, stride := if s = e then 0 else st } : Interval).Mem x ↔
      s ≤ x ∧ x ≤ e ∧ (st : Int) ∣ x - s := by
  show s ≤ x ∧ x ≤ e ∧ (((if s = e then 0 else st : Nat) : Nat) : Int) ∣ x - s ↔ _
  by_cases h : s = e
  · -- a singleton: `x - s = 0` on both sides
    rw [if_pos h]
    exact ⟨fun ⟨h1, h2, _⟩ => ⟨h1, h2, by rw [show x - s = 0 by omega]; exact Int.dvd_zero _⟩,
      fun ⟨h1, h2, _⟩ => ⟨h1, h2, by rw [show x - s = 0 by omega]; exact Int.dvd_refl _⟩⟩
  · rw [if_neg h]

theorem wf_newTop (w : Nat) (hw : 0 < w) : (newTop w).WF := by
  have hlt : smin w < smax w := by
    have := pow2_pos (w - 1)
    unfold smin smax; omega
  exact ⟨hw, ⟨Int.le_refl _, Int.le_of_lt hlt⟩, ⟨Int.le_of_lt hlt, Int.le_refl _⟩, Int.le_of_lt hlt,
    ⟨fun h => absurd h Nat.one_ne_zero, fun h => absurd h (Int.ne_of_lt hlt)⟩, Int.one_dvd _,
    show 1 < 2 ^ 64 by decide⟩

end Interval

theorem IntervalDomain.WF.interval {a : IntervalDomain} (h : a.WF) : a.interval.WF := h.1
theorem IntervalDomain.WF.delay_lt {a : IntervalDomain} (h : a.WF) : a.delay < 2 ^ 64 := h.2.2.2

/-! ### `adjust_start/end_to_value_in_stride` in closed form, with their exact value sets -/

theorem adjustDiff_spec {I : Interval} (hw : 0 < I.w) (hw64 : I.w ≤ 64) (hs : InRange I.w I.start)
    (he : InRange I.w I.stop) (hse : I.start ≤ I.stop) :
    I.adjustDiff = some ((I.stop - I.start).toNat % I.stride) := by
  obtain ⟨h0, h1⟩ := diff_bounds hw hs he hse
  unfold Interval.adjustDiff
  rw [tryToI64_inRange hw hw64 hs, tryToI64_inRange hw hw64 he]
  exact congrArg (fun n => some (n % I.stride))
    (toU_wrap_of_nonneg (w := 64) h0 (Int.lt_of_lt_of_le h1 (pow2_le_pow2 hw64)))

theorem rem_cast (d : Int) (k : Nat) (h0 : 0 ≤ d) : ((d.toNat % k : Nat) : Int) = d % (k : Int) := by
  rw [Int.natCast_emod, Int.toNat_of_nonneg h0]

theorem adjustStart_spec {I : Interval} (hw : 0 < I.w) (hw64 : I.w ≤ 64) (hs : InRange I.w I.start)
    (he : InRange I.w I.stop) (hse : I.start ≤ I.stop) (hst : 0 < I.stride) :
    I.adjustStart = { I with start := firstIn I.start I.stop I.stride,
                             stride := if firstIn I.start I.stop I.stride = I.stop then 0 else I.stride } := by
  obtain ⟨h0, _⟩ := diff_bounds hw hs he hse
  have hk : (0 : Int) < (I.stride : Int) := Int.natCast_pos.mpr hst
  unfold Interval.adjustStart firstIn
  rw [if_neg (Nat.ne_of_gt hst)]
  by_cases h : I.stride = 1 ∧ I.start ≠ I.stop
  · have : (I.stop - I.start) % (I.stride : Int) = 0 := by rw [h.1]; exact Int.emod_one _
    rw [if_pos h, this, Int.add_zero, if_neg h.2]
  · have hval : wrap I.w (I.start + fromU64 I.w ((I.stop - I.start).toNat % I.stride))
        = I.start + (I.stop - I.start) % (I.stride : Int) := by
      unfold fromU64 wrap
      rw [Int.add_bmod_bmod, rem_cast _ _ h0]
      exact wrap_of_inRange I.w hw
        ⟨Int.le_trans hs.1 (Int.le_add_of_nonneg_right (Int.emod_nonneg _ (Int.ne_of_gt hk))),
         Int.le_trans (Int.add_le_of_le_sub_left (emod_le_of_nonneg _ _ h0 hk)) he.2⟩
    rw [if_neg h, adjustDiff_spec hw hw64 hs he hse]
    simp only [hval]

theorem adjustEnd_spec {I : Interval} (hw : 0 < I.w) (hw64 : I.w ≤ 64) (hs : InRange I.w I.start)
    (he : InRange I.w I.stop) (hse : I.start ≤ I.stop) (hst : 0 < I.stride) :
    I.adjustEnd = { I with stop := lastIn I.stop I.start I.stride,
                           stride := if I.start = lastIn I.stop I.start I.stride then 0 else I.stride } := by
  obtain ⟨h0, _⟩ := diff_bounds hw hs he hse
  have hk : (0 : Int) < (I.stride : Int) := Int.natCast_pos.mpr hst
  unfold Interval.adjustEnd lastIn
  rw [if_neg (Nat.ne_of_gt hst)]
  by_cases h : I.stride = 1 ∧ I.start ≠ I.stop
  · have : (I.stop - I.start) % (I.stride : Int) = 0 := by rw [h.1]; exact Int.emod_one _
    rw [if_pos h, this, Int.sub_zero, if_neg h.2]
  · have hval : wrap I.w (I.stop - fromU64 I.w ((I.stop - I.start).toNat % I.stride))
        = I.stop - (I.stop - I.start) % (I.stride : Int) := by
      unfold fromU64 wrap
      rw [Int.sub_bmod_bmod, rem_cast _ _ h0]
      exact wrap_of_inRange I.w hw
        ⟨Int.le_trans hs.1
           (Int.le_sub_right_of_add_le (Int.add_le_of_le_sub_left (emod_le_of_nonneg _ _ h0 hk))),
         Int.le_trans (Int.sub_le_self _ (Int.emod_nonneg _ (Int.ne_of_gt hk))) he.2⟩
    rw [if_neg h, adjustDiff_spec hw hw64 hs he hse]
    simp only [hval]

/-- **the value set of `adjust_start_to_value_in_stride`** on any bounds `start ≤ stop` of at most 64 bit and any
stride: the values between the bounds in the residue class of the END. The cuts of C04 (`start` raised to a bound)
and the widening steps (`start` lowered to a hint) are both read off this. -/
theorem mem_adjustStart {I : Interval} (hw : 0 < I.w) (hw64 : I.w ≤ 64) (hs : InRange I.w I.start)
    (he : InRange I.w I.stop) (hse : I.start ≤ I.stop) {x : Int} :
    I.adjustStart.Mem x ↔ I.start ≤ x ∧ x ≤ I.stop ∧ (I.stride : Int) ∣ x - I.stop := by
  rcases Nat.eq_zero_or_pos I.stride with h0 | hst
  · have e : I.adjustStart = { I with start := I.stop } := by unfold Interval.adjustStart; rw [if_pos h0]
    rw [e]
    refine ⟨fun ⟨h1, h2, h3⟩ => ⟨Int.le_trans hse h1, h2, h3⟩, fun ⟨_, h2, h3⟩ => ⟨?_, h2, h3⟩⟩
    rw [h0] at h3
    exact Int.le_of_eq (Int.eq_of_sub_eq_zero (Int.zero_dvd.mp h3)).symm
  · have hn : (0 : Int) < (I.stride : Int) := Int.natCast_pos.mpr hst
    have d := firstIn_dvd I.start I.stop I.stride
    rw [adjustStart_spec hw hw64 hs he hse hst, Interval.mem_ifStride]
    exact ⟨fun ⟨h1, h2, h3⟩ => ⟨Int.le_trans (le_firstIn _ _ hn) h1, h2, dvd_sub_trans h3 d⟩,
      fun ⟨h1, h2, h3⟩ => ⟨firstIn_le hn h1 h3, h2, dvd_sub_of_dvd_sub h3 d⟩⟩

/-- **the value set of `adjust_end_to_value_in_stride`**: the values between the bounds in the residue class of the
START -/
theorem mem_adjustEnd {I : Interval} (hw : 0 < I.w) (hw64 : I.w ≤ 64) (hs : InRange I.w I.start)
    (he : InRange I.w I.stop) (hse : I.start ≤ I.stop) {x : Int} :
    I.adjustEnd.Mem x ↔ I.start ≤ x ∧ x ≤ I.stop ∧ (I.stride : Int) ∣ x - I.start := by
  rcases Nat.eq_zero_or_pos I.stride with h0 | hst
  · have e : I.adjustEnd = { I with stop := I.start } := by unfold Interval.adjustEnd; rw [if_pos h0]
    rw [e]
    refine ⟨fun ⟨h1, h2, h3⟩ => ⟨h1, Int.le_trans h2 hse, h3⟩, fun ⟨h1, _, h3⟩ => ⟨h1, ?_, h3⟩⟩
    rw [h0] at h3
    exact Int.le_of_eq (Int.eq_of_sub_eq_zero (Int.zero_dvd.mp h3))
  · have hn : (0 : Int) < (I.stride : Int) := Int.natCast_pos.mpr hst
    rw [adjustEnd_spec hw hw64 hs he hse hst, Interval.mem_ifStride]
    exact ⟨fun ⟨h1, h2, h3⟩ => ⟨h1, Int.le_trans h2 (lastIn_le _ _ hn), h3⟩,
      fun ⟨h1, h2, h3⟩ => ⟨h1, le_lastIn hn h2 h3, h3⟩⟩

theorem ite_zero_or (c : Prop) [Decidable c] (k : Nat) : (if c then 0 else k) = k ∨ (if c then 0 else k) = 0 := by
  split
  · exact Or.inr rfl
  · exact Or.inl rfl

theorem adjustStart_wf {I : Interval} (hw : 0 < I.w) (hw64 : I.w ≤ 64) (hs : InRange I.w I.start)
    (he : InRange I.w I.stop) (hse : I.start ≤ I.stop) (hl : I.stride < 2 ^ 64) :
    I.adjustStart.WF ∧ (I.adjustStart.stride = I.stride ∨ I.adjustStart.stride = 0) := by
  rcases Nat.eq_zero_or_pos I.stride with h0 | hst
  · have e : I.adjustStart = { I with start := I.stop } := by unfold Interval.adjustStart; rw [if_pos h0]
    rw [e]
    exact ⟨⟨hw, he, he, Int.le_refl _, ⟨fun _ => rfl, fun _ => h0⟩, by simp, hl⟩, Or.inl rfl⟩
  · have hn : (0 : Int) < (I.stride : Int) := Int.natCast_pos.mpr hst
    have h1 := firstIn_le hn hse (Int.sub_self _ ▸ Int.dvd_zero _ : (I.stride : Int) ∣ I.stop - I.stop)
    have h2 := le_firstIn I.start I.stop hn
    rw [adjustStart_spec hw hw64 hs he hse hst]
    exact ⟨Interval.wf_ifStride hw ⟨Int.le_trans hs.1 h2, Int.le_trans h1 he.2⟩ he h1 hst hl
      (dvd_sub_comm (firstIn_dvd _ _ _)), ite_zero_or _ _⟩

theorem adjustEnd_wf {I : Interval} (hw : 0 < I.w) (hw64 : I.w ≤ 64) (hs : InRange I.w I.start)
    (he : InRange I.w I.stop) (hse : I.start ≤ I.stop) (hl : I.stride < 2 ^ 64) :
    I.adjustEnd.WF ∧ (I.adjustEnd.stride = I.stride ∨ I.adjustEnd.stride = 0) := by
  rcases Nat.eq_zero_or_pos I.stride with h0 | hst
  · have e : I.adjustEnd = { I with stop := I.start } := by unfold Interval.adjustEnd; rw [if_pos h0]
    rw [e]
    exact ⟨⟨hw, hs, hs, Int.le_refl _, ⟨fun _ => rfl, fun _ => h0⟩, by simp, hl⟩, Or.inl rfl⟩
  · have hn : (0 : Int) < (I.stride : Int) := Int.natCast_pos.mpr hst
    have h1 := le_lastIn hn hse (Int.sub_self _ ▸ Int.dvd_zero _ : (I.stride : Int) ∣ I.start - I.start)
    have h2 := lastIn_le I.stop I.start hn
    rw [adjustEnd_spec hw hw64 hs he hse hst]
    exact ⟨Interval.wf_ifStride hw hs ⟨Int.le_trans hs.1 h1, Int.le_trans h2 he.2⟩ h1 hst hl (lastIn_dvd _ _ _),
      ite_zero_or _ _⟩

/-- `adjust_start_to_value_in_stride` touches the start and the stride only, on every input -/
theorem adjustStart_shape (I : Interval) : ∃ s st, I.adjustStart = { I with start := s, stride := st } := by
  unfold Interval.adjustStart
  by_cases h0 : I.stride = 0
  · rw [if_pos h0]; exact ⟨_, _, rfl⟩
  · rw [if_neg h0]
    by_cases h1 : I.stride = 1 ∧ I.start ≠ I.stop
    · rw [if_pos h1]; exact ⟨_, _, rfl⟩
    · rw [if_neg h1]; cases I.adjustDiff <;> exact ⟨_, _, rfl⟩

/-- `adjust_end_to_value_in_stride` touches the end and the stride only -/
theorem adjustEnd_shape (I : Interval) : ∃ e st, I.adjustEnd = { I with stop := e, stride := st } := by
  unfold Interval.adjustEnd
  by_cases h0 : I.stride = 0
  · rw [if_pos h0]; exact ⟨_, _, rfl⟩
  · rw [if_neg h0]
    by_cases h1 : I.stride = 1 ∧ I.start ≠ I.stop
    · rw [if_pos h1]; exact ⟨_, _, rfl⟩
    · rw [if_neg h1]; cases I.adjustDiff <;> exact ⟨_, _, rfl⟩

theorem adjustStart_w (I : Interval) : I.adjustStart.w = I.w := by
  obtain ⟨_, _, h⟩ := adjustStart_shape I; rw [h]

theorem adjustEnd_w (I : Interval) : I.adjustEnd.w = I.w := by
  obtain ⟨_, _, h⟩ := adjustEnd_shape I; rw [h]

theorem adjustStart_stop (I : Interval) : I.adjustStart.stop = I.stop := by
  obtain ⟨_, _, h⟩ := adjustStart_shape I; rw [h]

theorem adjustEnd_start (I : Interval) : I.adjustEnd.start = I.start := by
  obtain ⟨_, _, h⟩ := adjustEnd_shape I; rw [h]

/-! ### the stride rounding and the two widening-bound updates -/

theorem roundUp_inRange {I : Interval} (hw : 0 < I.w) {x y : Int} (hx : InRange I.w x)
    (h : roundUpToStrideOf x I = some y) : InRange I.w y := by
  unfold roundUpToStrideOf at h
  by_cases h0 : I.stride = 0 ∨ I.w > 64
  · rw [if_pos h0] at h; cases h; exact hx
  · rw [if_neg h0] at h
    simp only at h
    split at h
    · cases h
    · cases h; exact wrap_inRange I.w hw _

theorem roundDown_inRange {I : Interval} (hw : 0 < I.w) {x y : Int} (hx : InRange I.w x)
    (h : roundDownToStrideOf x I = some y) : InRange I.w y := by
  unfold roundDownToStrideOf at h
  by_cases h0 : I.stride = 0 ∨ I.w > 64
  · rw [if_pos h0] at h; cases h; exact hx
  · rw [if_neg h0] at h
    simp only at h
    split at h
    · cases h
    · cases h; exact wrap_inRange I.w hw _

theorem updateLower_cases (m : IntervalDomain) (bound : Option Int) :
    m.updateLower bound = m ∨
    ∃ x y, bound = some x ∧ roundUpToStrideOf x m.interval = some y ∧ y < m.interval.start ∧
      m.updateLower bound = { m with lower := some y } := by
  unfold IntervalDomain.updateLower
  cases bound with
  | none => exact .inl rfl
  | some x =>
    simp only
    cases hr : roundUpToStrideOf x m.interval with
    | none => exact .inl rfl
    | some y =>
      simp only
      by_cases hlt : y < m.interval.start
      · rw [if_pos hlt]
        cases m.lower with
        | none => exact .inr ⟨x, y, rfl, hr, hlt, rfl⟩
        | some prev =>
          simp only
          by_cases hp : y > prev
          · rw [if_pos hp]; exact .inr ⟨x, y, rfl, hr, hlt, rfl⟩
          · rw [if_neg hp]; exact .inl rfl
      · rw [if_neg hlt]; exact .inl rfl

theorem updateUpper_cases (m : IntervalDomain) (bound : Option Int) :
    m.updateUpper bound = m ∨
    ∃ x y, bound = some x ∧ roundDownToStrideOf x m.interval = some y ∧ m.interval.stop < y ∧
      m.updateUpper bound = { m with upper := some y } := by
  unfold IntervalDomain.updateUpper
  cases bound with
  | none => exact .inl rfl
  | some x =>
    simp only
    cases hr : roundDownToStrideOf x m.interval with
    | none => exact .inl rfl
    | some y =>
      simp only
      by_cases hlt : y > m.interval.stop
      · rw [if_pos hlt]
        cases m.upper with
        | none => exact .inr ⟨x, y, rfl, hr, hlt, rfl⟩
        | some prev =>
          simp only
          by_cases hp : y < prev
          · rw [if_pos hp]; exact .inr ⟨x, y, rfl, hr, hlt, rfl⟩
          · rw [if_neg hp]; exact .inl rfl
      · rw [if_neg hlt]; exact .inl rfl

theorem updateLower_interval (m : IntervalDomain) (bound : Option Int) :
    (m.updateLower bound).interval = m.interval := by
  rcases updateLower_cases m bound with h | ⟨_, _, _, _, _, h⟩ <;> rw [h]

theorem updateUpper_interval (m : IntervalDomain) (bound : Option Int) :
    (m.updateUpper bound).interval = m.interval := by
  rcases updateUpper_cases m bound with h | ⟨_, _, _, _, _, h⟩ <;> rw [h]

end CweModel.Itv
