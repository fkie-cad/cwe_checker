/-
C11 — the interpreter state: registers and memory under updates, well-typed states, agreement of two states
up to a set of temporaries (and of two branch decisions), evaluation of `pieceTogether`.
-/
import CweModel.C11.PropsBytes
import CweModel.Base.IRSemLemmas

namespace CweModel.C11
open CweModel CweModel.IR CweModel.Sem CweModel.Gen.PcodeOps CweModel.C11.Lift

theorem regDefault_w (σ : State) (v : Variable) : (σ.regDefault v).w = 8 * v.size := Sem.regDefault_w σ v

theorem getByte_setByte (σ : State) (a b c : Nat) :
    (σ.setByte a b).getByte c = if c = a then b else σ.getByte c := Sem.getByte_setByte σ a b c

@[simp] theorem getReg_setByte (σ : State) (a b : Nat) (v : Variable) : (σ.setByte a b).getReg v = σ.getReg v :=
  Sem.getReg_setByte σ a b v
@[simp] theorem seed_setByte (σ : State) (a b : Nat) : (σ.setByte a b).seed = σ.seed := rfl
@[simp] theorem ptr_setByte (σ : State) (a b : Nat) : (σ.setByte a b).ptrBytes = σ.ptrBytes := rfl
@[simp] theorem endian_setByte (σ : State) (a b : Nat) : (σ.setByte a b).littleEndian = σ.littleEndian := rfl
@[simp] theorem seed_setReg (σ : State) (v : Variable) (x : Bv) : (σ.setReg v x).seed = σ.seed := rfl
@[simp] theorem ptr_setReg (σ : State) (v : Variable) (x : Bv) : (σ.setReg v x).ptrBytes = σ.ptrBytes := rfl
@[simp] theorem endian_setReg (σ : State) (v : Variable) (x : Bv) : (σ.setReg v x).littleEndian = σ.littleEndian := rfl
@[simp] theorem getByte_setReg (σ : State) (v : Variable) (x : Bv) (a : Nat) : (σ.setReg v x).getByte a = σ.getByte a := rfl

theorem getReg_writeMem (σ : State) (a n val : Nat) (v : Variable) : (σ.writeMem a n val).getReg v = σ.getReg v :=
  Sem.getReg_writeMem σ a n val v

def WellTyped (σ : State) : Prop := ∀ v : Variable, (σ.getReg v).w = 8 * v.size

theorem WellTyped.setReg {σ : State} (h : WellTyped σ) (v : Variable) (x : Bv) (hx : x.w = 8 * v.size) :
    WellTyped (σ.setReg v x) :=
  getReg_setReg_w h v x hx

/-- a state without register overrides (the initial states of the driver) is well typed -/
theorem WellTyped.initial (σ : State) (h : σ.regs = []) : WellTyped σ := by
  intro v; simp [State.getReg, h, regDefault_w]

theorem WellTyped.setByte {σ : State} (h : WellTyped σ) (a b : Nat) : WellTyped (σ.setByte a b) := fun v => h v

theorem WellTyped.writeMem {σ : State} (h : WellTyped σ) (a n val : Nat) : WellTyped (σ.writeMem a n val) :=
  fun v => (getReg_writeMem σ a n val v).symm ▸ h v

def IsLiftTemp (v : Variable) : Prop := v.isTemp = true ∧ v.name ∈ liftTempNames

/-- the temporary of `replace_subregister_in_block` for loads into sub-registers -/
def IsLoadedValue (v : Variable) : Prop := v.isTemp = true ∧ v.name = "loaded_value"

/-- the temporaries of `add_load_defs_for_implicit_ram_access` -/
def IsLoadTemp (v : Variable) : Prop := v.isTemp = true ∧ v.name ∈ ["$load_temp0", "$load_temp1", "$load_temp2"]

theorem loadTemp_lift {n : String} (h : n ∈ ["$load_temp0", "$load_temp1", "$load_temp2"]) : n ∈ liftTempNames :=
  List.mem_cons_of_mem _ h

theorem IsLoadTemp.lift {v : Variable} (h : IsLoadTemp v) : IsLiftTemp v := ⟨h.1, loadTemp_lift h.2⟩

theorem IsLoadedValue.lift {v : Variable} (h : IsLoadedValue v) : IsLiftTemp v :=
  ⟨h.1, h.2 ▸ List.mem_cons_self⟩

structure Agree (T : Variable → Prop) (σ ρ : State) : Prop where
  seed : σ.seed = ρ.seed
  ptr : σ.ptrBytes = ρ.ptrBytes
  endian : σ.littleEndian = ρ.littleEndian
  mem : σ.mem = ρ.mem
  regs : ∀ v, ¬ T v → σ.getReg v = ρ.getReg v

variable {T : Variable → Prop}

theorem Agree.refl (σ : State) : Agree T σ σ := ⟨rfl, rfl, rfl, rfl, fun _ _ => rfl⟩

theorem Agree.symm {σ ρ : State} (h : Agree T σ ρ) : Agree T ρ σ :=
  ⟨h.seed.symm, h.ptr.symm, h.endian.symm, h.mem.symm, fun v hv => (h.regs v hv).symm⟩

theorem Agree.trans {T₁ T₂ : Variable → Prop} {σ ρ τ : State} (h₁ : Agree T₁ σ ρ) (h₂ : Agree T₂ ρ τ) :
    Agree (fun v => T₁ v ∨ T₂ v) σ τ :=
  ⟨h₁.seed.trans h₂.seed, h₁.ptr.trans h₂.ptr, h₁.endian.trans h₂.endian,
   h₁.mem.trans h₂.mem,
   fun v hv => (h₁.regs v (fun h => hv (Or.inl h))).trans (h₂.regs v (fun h => hv (Or.inr h)))⟩

theorem Agree.mono {T' : Variable → Prop} {σ ρ : State} (h : Agree T σ ρ) (hT : ∀ v, T v → T' v) : Agree T' σ ρ :=
  ⟨h.seed, h.ptr, h.endian, h.mem, fun v hv => h.regs v (fun ht => hv (hT v ht))⟩

theorem not_of_nontemp (hT : ∀ u, T u → u.isTemp = true) {v : Variable} (h : v.isTemp = false) : ¬ T v :=
  fun ht => Bool.false_ne_true (h.symm.trans (hT v ht))

theorem Agree.bytes {σ ρ : State} (h : Agree T σ ρ) (a : Nat) : σ.getByte a = ρ.getByte a := by
  unfold State.getByte State.memDefault
  rw [h.mem, h.seed]

theorem Agree.wrapAddr {σ ρ : State} (h : Agree T σ ρ) (a : Nat) : σ.wrapAddr a = ρ.wrapAddr a := by
  unfold State.wrapAddr; rw [h.ptr]

theorem Agree.readMem {σ ρ : State} (h : Agree T σ ρ) (a n : Nat) : σ.readMem a n = ρ.readMem a n := by
  unfold State.readMem State.wrapAddr
  simp only [h.bytes, h.ptr, h.endian]

theorem Agree.setByte {σ ρ : State} (h : Agree T σ ρ) (a b : Nat) : Agree T (σ.setByte a b) (ρ.setByte a b) :=
  ⟨h.seed, h.ptr, h.endian, show (a, b) :: σ.mem.filter _ = (a, b) :: ρ.mem.filter _ by rw [h.mem], h.regs⟩

theorem Agree.writeMem {σ ρ : State} (h : Agree T σ ρ) (a n val : Nat) :
    Agree T (σ.writeMem a n val) (ρ.writeMem a n val) :=
  writeMem_rel (fun _ _ a b hs => hs.setByte a b) h h.endian h.ptr a n val

theorem Agree.setReg {σ ρ : State} (h : Agree T σ ρ) (v : Variable) (x : Bv) : Agree T (σ.setReg v x) (ρ.setReg v x) :=
  ⟨h.seed, h.ptr, h.endian, h.mem, fun u hu => by
    rw [getReg_setReg, getReg_setReg, h.regs u hu]⟩

/-- the lifted code may additionally set a lifting temporary -/
theorem Agree.setTempRight {σ ρ : State} (h : Agree T σ ρ) (t : Variable) (ht : T t) (x : Bv) :
    Agree T σ (ρ.setReg t x) :=
  ⟨h.seed, h.ptr, h.endian, h.mem, fun u hu => by
    rw [getReg_setReg, if_neg (fun e : u = t => hu (e ▸ ht)), h.regs u hu]⟩

theorem Agree.setTempLeft {σ ρ : State} (h : Agree T σ ρ) (t : Variable) (ht : T t) (x : Bv) :
    Agree T (σ.setReg t x) ρ :=
  (h.symm.setTempRight t ht x).symm

theorem snapshot_agree {σ ρ : State} (h : Agree T σ ρ) (regs : List Variable) (hr : ∀ v ∈ regs, ¬ T v) :
    σ.snapshot regs = ρ.snapshot regs :=
  snapshot_congr h.seed h.mem fun v hv => h.regs v (hr v hv)

theorem havoc_agree {σ ρ : State} (h : Agree T σ ρ) (regs : List Variable) (sp : Variable) (site : String) (n : Nat) :
    Agree T (havoc σ regs sp site n) (havoc ρ regs sp site n) :=
  havoc_rel (fun _ _ v x hs => hs.setReg v x) h h.seed regs sp site n

inductive NextAgree (T : Variable → Prop) : Next → Next → Prop where
  | goto {t : Tid} {σ ρ : State} {c : Nat} : Agree T σ ρ → NextAgree T (.goto t σ c) (.goto t ρ c)
  | stop : NextAgree T .stop .stop

theorem NextAgree.mono {T' : Variable → Prop} {n n' : Next} (h : NextAgree T n n') (hT : ∀ v, T v → T' v) :
    NextAgree T' n n' := by
  cases h with
  | goto hag => exact .goto (hag.mono hT)
  | stop => exact .stop

theorem NextAgree.trans {T₁ T₂ : Variable → Prop} {a b c : Next} (h₁ : NextAgree T₁ a b) (h₂ : NextAgree T₂ b c) :
    NextAgree (fun v => T₁ v ∨ T₂ v) a c := by
  cases h₁ with
  | goto hag₁ => cases h₂ with | goto hag₂ => exact .goto (hag₁.trans hag₂)
  | stop => cases h₂ with | stop => exact .stop

/-- **C11-piece.** The three shapes of `piece_base_register_assignment_expression_together` (sub-register
at the bottom, in the middle, at the top of the base register) all evaluate to the base register with
exactly the bytes `[lsb, lsb+size)` replaced by the assigned value. -/
theorem eval_pieceTogether (σ : State) (e : Expression) (bn : String) (B l s : Nat) (x : Bv)
    (he : eval σ e = some x) (hbw : (σ.getReg ⟨bn, B, false⟩).w = 8 * B) (hxw : x.w = 8 * s)
    (hin : l + s ≤ B) (hproper : s < B) :
    eval σ (pieceTogether e bn B l s) = some (replaceBytes (σ.getReg ⟨bn, B, false⟩) l s x.toNat) := by
  rcases Nat.eq_zero_or_pos l with rfl | hl
  · rw [pieceTogether_low]
    simp only [eval, he, Option.bind_eq_bind, Option.bind_some]
    exact piece_low _ x B s hbw hxw hproper
  · rcases Nat.eq_or_lt_of_le hin with h | h
    · rw [pieceTogether_top e bn hl h]
      simp only [eval, he, Option.bind_eq_bind, Option.bind_some]
      exact piece_top _ x B l s hbw hxw hl h
    · rw [pieceTogether_mid e bn hl (Nat.ne_of_lt h)]
      simp only [eval, he, Option.bind_eq_bind, Option.bind_some, Option.bind_assoc]
      exact piece_mid _ x B l s hbw hxw hl h

/-- non-vacuity: AH := 0x12 (middle shape) in any well-typed state -/
example (σ : State) (hw : WellTyped σ) :
    eval σ (pieceTogether (.Const 1 0x12) "RAX" 8 1 1)
      = some (replaceBytes (σ.getReg ⟨"RAX", 8, false⟩) 1 1 (Bv.ofBytes 1 0x12).toNat) :=
  eval_pieceTogether σ _ "RAX" 8 1 1 (Bv.ofBytes 1 0x12) rfl (hw _) rfl (by omega) (by omega)

end CweModel.C11
