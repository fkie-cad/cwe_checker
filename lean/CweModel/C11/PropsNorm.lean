/-
C11 — layer `normalize`: `add_load_defs_for_implicit_ram_access` on instructions. Implicit loads through RAM
operands become explicit `LOAD`s of the same address and size into `$load_temp0..2`; events and effect are
preserved (`addLoads_sim`). The two runs differ in the `$load_temp`s; that does no harm because P-Code execution only
depends on the registers the code mentions (`VarAvoids`, the `…_congr` lemmas) and in-domain code mentions no
`$load_temp` (`varOk_avoids`).
-/
import CweModel.C11.PropsLift

namespace CweModel.C11
open CweModel CweModel.IR CweModel.Sem CweModel.Gen.PcodeOps CweModel.C11.Lift

variable {T : Variable → Prop}

def VarAvoids (T : Variable → Prop) (v : Pcode.Var) : Prop := ∀ n, v.kind = .tmp n → ¬ T ⟨n, v.size, true⟩

theorem VarAvoids.mono {T' : Variable → Prop} {v : Pcode.Var} (h : VarAvoids T' v) (hT : ∀ u, T u → T' u) :
    VarAvoids T v :=
  fun n hk ht => h n hk (hT _ ht)

theorem readVar_congr (hT : ∀ u, T u → u.isTemp = true) {tbl : RegTable} {σ τ : State} (h : Agree T σ τ)
    {v : Pcode.Var} (hv : VarAvoids T v) : readVar tbl σ v = readVar tbl τ v := by
  unfold readVar
  cases hk : v.kind with
  | bad => rfl
  | const c => rfl
  | tmp n => simp only; rw [h.regs _ (hv n hk)]
  | ram a => simp only [h.wrapAddr, h.readMem]
  | reg n =>
    simp only [Option.bind_eq_bind]
    cases hl : regLoc tbl n v.size with
    | none => simp only [Option.bind_none]
    | some l =>
      simp only [Option.bind_some, readLoc, h.regs _ (not_of_nontemp hT (regLoc_base_nontemp hl))]

def OptAvoids (T : Variable → Prop) (o : Option Pcode.Var) : Prop := ∀ v, o = some v → VarAvoids T v

theorem readOpt_congr (hT : ∀ u, T u → u.isTemp = true) {tbl : RegTable} {σ τ : State} (h : Agree T σ τ)
    {o : Option Pcode.Var} (ho : OptAvoids T o) : readOpt tbl σ o = readOpt tbl τ o := by
  cases o with
  | none => rfl
  | some v => simp only [readOpt]; rw [readVar_congr hT h (ho v rfl)]

theorem writeVar_congr (hT : ∀ u, T u → u.isTemp = true) {tbl : RegTable} {σ τ : State} (h : Agree T σ τ)
    {out : Pcode.Var} {x : Bv} {σ' : State} {ev : List Event}
    (hw : writeVar tbl σ out x = some (σ', ev)) :
    ∃ τ', writeVar tbl τ out x = some (τ', ev) ∧ Agree T σ' τ' := by
  obtain ⟨hxw, ⟨n, l, hk, hl, rfl, rfl⟩ | ⟨n, hk, rfl, rfl⟩ | ⟨a, hk, rfl, rfl⟩⟩ := writeVar_cases hw
  · refine ⟨writeLoc τ l x, by simp only [writeVar, hxw, bne_self_eq_false, Bool.false_eq_true, if_false, hk, hl,
      Option.bind_eq_bind, Option.bind_some], ?_⟩
    unfold writeLoc
    rw [h.regs _ (not_of_nontemp hT (regLoc_base_nontemp hl))]
    exact h.setReg _ _
  · exact ⟨_, by simp only [writeVar, hxw, bne_self_eq_false, Bool.false_eq_true, if_false, hk], h.setReg _ _⟩
  · exact ⟨_, by simp only [writeVar, hxw, bne_self_eq_false, Bool.false_eq_true, if_false, hk, h.wrapAddr],
      h.writeMem _ _ _⟩

theorem perform_congr (hT : ∀ u, T u → u.isTemp = true) {tbl : RegTable} {σ τ : State} (h : Agree T σ τ)
    {act : Action} {σ' : State} {ev : List Event} (hp : perform tbl σ act = some (σ', ev)) :
    ∃ τ', perform tbl τ act = some (τ', ev) ∧ Agree T σ' τ' := by
  cases act with
  | write out x => exact writeVar_congr hT h hp
  | store addr x => cases hp; exact ⟨_, rfl, h.writeMem _ _ _⟩
  | load out addr =>
    simp only [perform, Option.bind_eq_bind, Option.bind_eq_some_iff, Option.some.injEq, Prod.mk.injEq,
      Prod.exists] at hp ⊢
    obtain ⟨σw, ew, hw, rfl, rfl⟩ := hp
    obtain ⟨τ', hτ, hag⟩ := writeVar_congr hT h hw
    exact ⟨τ', ⟨τ', ew, h.readMem _ _ ▸ hτ, rfl, h.readMem _ _ ▸ rfl⟩, hag⟩

theorem varOk_avoids_lift {tbl : RegTable} {v : Pcode.Var} (h : varOk tbl v = true) : VarAvoids IsLiftTemp v := by
  intro n hk hT
  simp only [varOk, hk, Bool.and_eq_true, Bool.not_eq_true', List.contains_eq_mem, decide_eq_false_iff_not] at h
  exact h.2.1 hT.2

theorem varOk_avoids {tbl : RegTable} {v : Pcode.Var} (h : varOk tbl v = true) : VarAvoids IsLoadTemp v :=
  (varOk_avoids_lift h).mono fun _ => IsLoadTemp.lift

theorem optVarOk_avoids {tbl : RegTable} {o : Option Pcode.Var} (h : optVarOk? tbl o = true) : OptAvoids IsLoadTemp o := by
  intro v hv; subst hv; exact varOk_avoids h

theorem varOk_size_pos {tbl : RegTable} {v : Pcode.Var} (h : varOk tbl v = true) : 0 < v.size := by
  unfold varOk at h; simp only [Bool.and_eq_true, decide_eq_true_eq] at h; exact h.1

/-- one operand slot of `add_load_defs_for_implicit_ram_access`. The last three conjuncts are what lets
`addLoads_sim` chain the three slots: the other temporaries keep their values, the rewritten operand reads the
old value without event in every later state that still holds this slot's temporary, and an operand that is
not in RAM is left as it is. -/
theorem slot_sim {tbl : RegTable} (ht : tableOk tbl = true) {ptr : Nat} (hp0 : 0 < ptr) {σ τ : State}
    (hptr : σ.ptrBytes = ptr) (hag : Agree IsLoadTemp σ τ)
    {o : Option Pcode.Var} (hok : optVarOk? tbl o = true) {a : Option Bv} {e : List Event}
    (hr : readOpt tbl σ o = some (a, e)) (tid : Tid) (name suffix : String)
    (hname : name ∈ ["$load_temp0", "$load_temp1", "$load_temp2"]) :
    ∃ l o' τ', loadFor tid o name suffix ptr = some (l, o') ∧ execDefs tbl τ l = some (τ', e) ∧
      Agree IsLoadTemp σ τ' ∧ inOkN tbl o' = true ∧ (∀ d' ∈ l, defOkN tbl d'.term = true) ∧
      o'.isSome = o.isSome ∧
      (∀ other, other ≠ name → ∀ sz, τ'.getReg ⟨other, sz, true⟩ = τ.getReg ⟨other, sz, true⟩) ∧
      (∀ τ'', Agree IsLoadTemp σ τ'' → (∀ sz, τ''.getReg ⟨name, sz, true⟩ = τ'.getReg ⟨name, sz, true⟩) →
        readOpt tbl τ'' o' = some (a, [])) ∧
      ((∀ v, o = some v → v.isRam = false) → o' = o) := by
  cases o with
  | none =>
    cases hr
    exact ⟨[], none, τ, rfl, rfl, hag, rfl, fun _ h => (List.not_mem_nil h).elim, rfl, fun _ _ _ => rfl, fun _ _ _ => rfl, fun _ => rfl⟩
  | some v =>
    simp only [optVarOk?] at hok
    obtain ⟨x, hrv, rfl⟩ := readOpt_some_iff.mp hr
    have hadr := address_isSome_eq_isRam hok
    by_cases hram : v.isRam = true
    · -- RAM operand: an explicit load into the temporary
      obtain ⟨addr, hk⟩ : ∃ addr, v.kind = .ram addr := by
        unfold Pcode.Var.isRam at hram
        cases hk : v.kind <;> simp only [hk] at hram <;> first | exact ⟨_, rfl⟩ | cases hram
      obtain ⟨h1, h2, s, h3, hs⟩ := kind_ram hk
      have hvs := varOk_size_pos hok
      have hktmp : ({ name := some name, size := v.size, isVirtual := true } : Pcode.Var).kind = .tmp name := rfl
      have hkcst : ({ value := some s, size := ptr, isVirtual := false } : Pcode.Var).kind = .const addr := by
        simp only [Pcode.Var.kind, hs]
      have hnl : name ≠ "loaded_value" := by
        intro e; rw [e] at hname; simp at hname
      have hfresh : regGet tbl name = none := tableOk_fresh ht (loadTemp_lift hname)
      -- the value read
      simp only [readVar, hk, Option.some.injEq, Prod.mk.injEq] at hrv
      obtain ⟨rfl, rfl⟩ := hrv
      have hexec : execDef tbl τ (loadDef name v.size s ptr) = some (τ.setReg ⟨name, v.size, true⟩
          (Bv.ofBytes v.size (σ.readMem (σ.wrapAddr addr) v.size)),
          [.load (σ.wrapAddr addr) v.size (σ.readMem (σ.wrapAddr addr) v.size)]) := by
        have hw : (Bv.ofBytes ptr addr).toNat = σ.wrapAddr addr := by
          rw [Bv.ofBytes_toNat, State.wrapAddr, hptr]
        refine execDef_iff.mpr ⟨none, [], some (Bv.ofBytes ptr addr), [], none, [],
          .load (loadTemp name v.size) (Bv.ofBytes ptr addr), _,
          rfl, by simp only [readOpt, readVar, hkcst, loadDef, Option.bind_eq_bind, Option.bind_some], rfl, rfl, ?_, rfl⟩
        simp only [perform, writeVar, Bv.ofBytes_w, bne_self_eq_false, Bool.false_eq_true, if_false, hktmp, loadTemp, hw,
          ← hag.readMem, Option.bind_eq_bind, Option.bind_some]
      refine ⟨[⟨tid.withIdSuffix suffix, loadDef name v.size s ptr⟩], some (loadTemp name v.size), _,
        by rw [loadFor_eq]; simp only [h3], execDefs_one hexec,
        hag.setTempRight _ ⟨rfl, hname⟩ _, ?_, ?_, rfl, ?_, ?_, ?_⟩
      · simp [inOkN, varOkN, hktmp, hvs, hnl, hfresh, Pcode.Var.isRam, loadTemp]
      · intro d' hd'
        cases List.mem_singleton.mp hd'
        simp [defOkN, kindOkN, inOkN, loadDef, opKind, varOkN, hktmp, hkcst, hvs, hnl, hfresh, Pcode.Var.isRam, hp0,
          loadTemp]
      · intro other hne sz
        rw [getReg_setReg, if_neg]
        intro e; injection e with e1; exact hne e1
      · intro τ'' _ hsame
        simp only [readOpt, readVar, loadTemp, hktmp, Option.bind_eq_bind, Option.bind_some]
        rw [hsame, getReg_setReg, if_pos rfl]
      · intro hall; have := hall v rfl; rw [hram] at this; cases this
    · -- any other operand is left alone
      have hnr : v.isRam = false := Bool.eq_false_iff.mpr hram
      cases (readVar_A (varOk_varOkN hok) hnr hrv).1
      refine ⟨[], some v, τ, by simp only [loadFor_eq, Option.not_isSome_iff_eq_none.mp (Bool.eq_false_iff.mp (hadr.trans hnr))], rfl, hag, ?_, fun _ h => (List.not_mem_nil h).elim, rfl,
        fun _ _ _ => rfl, ?_, fun _ => rfl⟩
      · simp [inOkN, varOk_varOkN hok, hnr]
      · intro τ'' hag'' _
        simp only [readOpt]
        rw [← readVar_congr (fun _ h => h.1) hag'' (varOk_avoids hok), hrv]
        rfl

/-- `compute` only looks at the mnemonic, the output and (for SUBPIECE) the constant offset operand -/
theorem compute_clean (d : Pcode.Def) (i₀ i₁ i₂ : Option Pcode.Var) (a₀ a₁ a₂ : Option Bv)
    (h1 : opKind d.rhs.mnemonic = .subpiece → i₁ = d.rhs.input1) :
    compute { d with rhs := { d.rhs with input0 := i₀, input1 := i₁, input2 := i₂ } } a₀ a₁ a₂ = compute d a₀ a₁ a₂ := by
  unfold compute
  cases hk : opKind d.rhs.mnemonic <;> simp
  rw [h1 hk]

theorem kindOkN_clean {tbl : RegTable} {d : Pcode.Def} (hok : defOk tbl d = true) {i₀ i₁ i₂ : Option Pcode.Var}
    (hs₀ : i₀.isSome = d.rhs.input0.isSome) (hs₁ : i₁.isSome = d.rhs.input1.isSome)
    (hs₂ : i₂.isSome = d.rhs.input2.isSome) (h1 : opKind d.rhs.mnemonic = .subpiece → i₁ = d.rhs.input1) :
    kindOkN tbl { d with rhs := { d.rhs with input0 := i₀, input1 := i₁, input2 := i₂ } } = true := by
  unfold defOk at hok
  simp only [Bool.and_eq_true] at hok
  have hkind := hok.2
  unfold kindOkN
  cases hk : opKind d.rhs.mnemonic with
  | load =>
    simp only [hk, Bool.and_eq_true] at hkind ⊢
    obtain ⟨out, hout, hoo⟩ := exists_of_match_some hkind.1
    simp only [Bool.and_eq_true] at hoo
    simp [hout, varOk_varOkN hoo.1, hoo.2, hs₁, hkind.2]
  | store =>
    simp only [hk, Bool.and_eq_true] at hkind ⊢
    simp [hs₁, hs₂, hkind.1, hkind.2]
  | subpiece =>
    simp only [hk, Bool.and_eq_true] at hkind ⊢
    obtain ⟨out, hout, hoo⟩ := exists_of_match_some hkind.1.1
    rw [h1 hk]
    simp [hout, varOk_varOkN hoo, hs₀, hkind.1.2]
    exact hkind.2
  | bin op =>
    simp only [hk, Bool.and_eq_true] at hkind ⊢
    obtain ⟨out, hout, hoo⟩ := exists_of_match_some hkind.1.1
    simp [hout, varOk_varOkN hoo, hs₀, hs₁, hkind.1.2, hkind.2]
  | copy | un _ | cast _ =>
    simp only [hk, Bool.and_eq_true] at hkind ⊢
    obtain ⟨out, hout, hoo⟩ := exists_of_match_some hkind.1.1
    simp [hout, varOk_varOkN hoo, hs₀, hkind.1.2]

/-- **C11-normalize (instructions).** `add_load_defs_for_implicit_ram_access` on one instruction: the
inserted `LOAD`s into `$load_temp0..2` followed by the cleaned instruction have the same events and the same
effect on every register except those temporaries and on memory. -/
theorem addLoads_sim {tbl : RegTable} (ht : tableOk tbl = true) {ptr : Nat} (hp0 : 0 < ptr) {σ τ : State}
    (hptr : σ.ptrBytes = ptr) (hag : Agree IsLoadTemp σ τ) (d : Term Pcode.Def) (hok : defOk tbl d.term = true)
    {σ' : State} {ev : List Event} (hx : execDef tbl σ d.term = some (σ', ev)) :
    ∃ ds τ', addLoadsDef ptr d = some ds ∧ execDefs tbl τ ds = some (τ', ev) ∧ Agree IsLoadTemp σ' τ' ∧
      ∀ d' ∈ ds, defOkN tbl d'.term = true := by
  obtain ⟨hi₀, hi₁, hi₂⟩ := defOk_inputs hok
  obtain ⟨a₀, e₀, a₁, e₁, a₂, e₂, act, ep, hr₀, hr₁, hr₂, hc, hp, rfl⟩ := execDef_iff.mp hx
  obtain ⟨l₀, o₀, τ₁, hl₀, hx₀, hag₁, hin₀, hdok₀, hs₀, hoth₀, hpers₀, hsame₀⟩ :=
    slot_sim ht hp0 hptr hag hi₀ hr₀ d.tid "$load_temp0" "_load0" (by simp)
  obtain ⟨l₁, o₁, τ₂, hl₁, hx₁, hag₂, hin₁, hdok₁, hs₁, hoth₁, hpers₁, hsame₁⟩ :=
    slot_sim ht hp0 hptr hag₁ hi₁ hr₁ d.tid "$load_temp1" "_load1" (by simp)
  obtain ⟨l₂, o₂, τ₃, hl₂, hx₂, hag₃, hin₂, hdok₂, hs₂, hoth₂, hpers₂, hsame₂⟩ :=
    slot_sim ht hp0 hptr hag₂ hi₂ hr₂ d.tid "$load_temp2" "_load2" (by simp)
  -- the cleaned instruction reads the same operand values, without events
  have hq₀ : readOpt tbl τ₃ o₀ = some (a₀, []) := hpers₀ τ₃ hag₃ (fun sz => by
    rw [hoth₂ "$load_temp0" (by decide) sz, hoth₁ "$load_temp0" (by decide) sz])
  have hq₁ : readOpt tbl τ₃ o₁ = some (a₁, []) := hpers₁ τ₃ hag₃ (fun sz => by
    rw [hoth₂ "$load_temp1" (by decide) sz])
  have hq₂ : readOpt tbl τ₃ o₂ = some (a₂, []) := hpers₂ τ₃ hag₃ (fun _ => rfl)
  obtain ⟨τ', hpτ, hag'⟩ := perform_congr (fun _ h => h.1) hag₃ hp
  -- a SUBPIECE offset is a constant, hence untouched
  have hsub : opKind d.term.rhs.mnemonic = .subpiece → o₁ = d.term.rhs.input1 := fun hk =>
    hsame₁ fun v hv => by
      obtain ⟨x, hx⟩ := offsetOk_const (defOk_offset hok hk hv)
      simp only [Pcode.Var.isRam, hx]
  let dc : Term Pcode.Def := ⟨d.tid, { d.term with rhs := { d.term.rhs with input0 := o₀, input1 := o₁, input2 := o₂ } }⟩
  have hxc : execDef tbl τ₃ dc.term = some (τ', ep) :=
    execDef_iff.mpr ⟨a₀, [], a₁, [], a₂, [], act, ep, hq₀, hq₁, hq₂,
      (compute_clean d.term o₀ o₁ o₂ a₀ a₁ a₂ hsub).trans hc, hpτ, rfl⟩
  refine ⟨l₀ ++ l₁ ++ l₂ ++ [dc], τ', ?_, ?_, hag', ?_⟩
  · simp [addLoadsDef, hl₀, hl₁, hl₂, dc]
  · exact execDefs_append (execDefs_append (execDefs_append hx₀ hx₁) hx₂) (execDefs_one hxc)
  · intro d' hd'
    simp only [List.mem_append, List.mem_singleton] at hd'
    rcases hd' with ((hd' | hd') | hd') | hd'
    · exact hdok₀ d' hd'
    · exact hdok₁ d' hd'
    · exact hdok₂ d' hd'
    · subst hd'
      simp only [defOkN, dc, hin₀, hin₁, hin₂, Bool.true_and]
      exact kindOkN_clean hok hs₀ hs₁ hs₂ hsub

end CweModel.C11
