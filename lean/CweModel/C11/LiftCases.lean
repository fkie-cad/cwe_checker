/-
C11 — what the model functions of the lifting (Lift.lean) and the domain predicates (PcodeSem.lean, Sized.lean) do on each
form of their input, stated once for the two walks over them: behaviour (C11/Props*) and sizes (C12/Lift). A jump is
taken apart once into the fields its mnemonic uses (`jmpShape`); `From<Jmp>`, the operand, the mnemonic and the size
condition are functions of that shape (`jmpShape_spec`).
-/
import CweModel.C11.Lift
import CweModel.C11.Sized
import CweModel.Base.IRInst

namespace CweModel.C11
open CweModel CweModel.IR CweModel.Sem CweModel.Gen.PcodeOps CweModel.C11.Lift

theorem mapOpt_cons_iff {α β} {f : α → Option β} {a : α} {l : List α} {ys : List β} :
    mapOpt f (a :: l) = some ys ↔ ∃ b bs, f a = some b ∧ mapOpt f l = some bs ∧ ys = b :: bs := by
  simp only [mapOpt, Option.bind_eq_bind, Option.bind_eq_some_iff, Option.some.injEq]
  exact ⟨fun ⟨b, hb, bs, hbs, h⟩ => ⟨b, bs, hb, hbs, h.symm⟩, fun ⟨b, bs, hb, hbs, h⟩ => ⟨b, hb, bs, hbs, h.symm⟩⟩

theorem mapOpt_some {α β} (f : α → Option β) :
    ∀ (l : List α) (ys : List β), mapOpt f l = some ys →
      (∀ a ∈ l, ∃ y ∈ ys, f a = some y) ∧ (∀ y ∈ ys, ∃ a ∈ l, f a = some y) := by
  intro l
  induction l with
  | nil => intro ys h; cases h; simp
  | cons a l ih =>
    intro ys h
    obtain ⟨b, bs, ha, hl, rfl⟩ := mapOpt_cons_iff.mp h
    obtain ⟨h1, h2⟩ := ih bs hl
    constructor
    · intro x hx
      rcases List.mem_cons.mp hx with rfl | hx
      · exact ⟨b, List.mem_cons_self, ha⟩
      · obtain ⟨y, hy, hfy⟩ := h1 x hx; exact ⟨y, List.mem_cons_of_mem _ hy, hfy⟩
    · intro y hy
      rcases List.mem_cons.mp hy with rfl | hy
      · exact ⟨a, List.mem_cons_self, ha⟩
      · obtain ⟨x, hx, hfx⟩ := h2 y hy; exact ⟨x, List.mem_cons_of_mem _ hx, hfx⟩

theorem forall_of_mapOpt {α β : Type} {f : α → Option β} {l : List α} {ys : List β} (h : mapOpt f l = some ys)
    {Q : β → Prop} (hQ : ∀ a ∈ l, ∀ y, f a = some y → Q y) : ∀ y ∈ ys, Q y := fun y hy =>
  let ⟨a, ha, hfa⟩ := (mapOpt_some f l ys h).2 y hy
  hQ a ha y hfa

theorem mapOpt_isSome {α β} (f : α → Option β) :
    ∀ (l : List α), (∀ a ∈ l, (f a).isSome) → ∃ ys, mapOpt f l = some ys
  | [], _ => ⟨[], rfl⟩
  | a :: l, h => by
    obtain ⟨ys, hys⟩ := mapOpt_isSome f l (fun x hx => h x (List.mem_cons_of_mem _ hx))
    obtain ⟨b, hb⟩ := Option.isSome_iff_exists.mp (h a List.mem_cons_self)
    exact ⟨b :: ys, mapOpt_cons_iff.mpr ⟨b, ys, hb, hys, rfl⟩⟩

theorem mapOpt_preimage {α β} (f : α → Option β) (src : List α) :
    ∀ (l : List β), (∀ y ∈ l, ∃ a ∈ src, f a = some y) → ∃ pre, mapOpt f pre = some l ∧ ∀ a ∈ pre, a ∈ src := by
  intro l
  induction l with
  | nil => intro _; exact ⟨[], rfl, by simp⟩
  | cons y ys ih =>
    intro h
    obtain ⟨a, ha, hfa⟩ := h y (by simp)
    obtain ⟨pre, hp, hm⟩ := ih (fun y' hy' => h y' (by simp [hy']))
    refine ⟨a :: pre, by simp [mapOpt, hfa, hp], ?_⟩
    intro x hx
    rcases List.mem_cons.mp hx with rfl | hx
    · exact ha
    · exact hm x hx

theorem mapOpt_bind {α β γ} (f : α → Option β) (g : β → Option γ) :
    ∀ l : List α, (mapOpt f l).bind (mapOpt g) = mapOpt (fun a => (f a).bind g) l
  | [] => rfl
  | a :: l => by
    simp only [mapOpt, Option.bind_eq_bind, ← mapOpt_bind f g l]
    cases f a with
    | none => rfl
    | some b =>
      rw [Option.bind_some, Option.bind_some]
      cases mapOpt f l with
      | none => cases g b <;> rfl
      | some bs => simp only [Option.bind_some, mapOpt, Option.bind_eq_bind]

theorem mapOpt_find? {α β} {f : α → Option β} {p : α → Bool} {q : β → Bool} (hpq : ∀ a b, f a = some b → q b = p a) :
    ∀ {l : List α} {ys : List β}, mapOpt f l = some ys → ys.find? q = (l.find? p).bind f
  | [], _, h => by cases h; rfl
  | a :: l, _, h => by
    obtain ⟨b, bs, ha, hl, rfl⟩ := mapOpt_cons_iff.mp h
    rw [List.find?_cons, List.find?_cons, hpq a b ha, mapOpt_find? hpq hl]
    cases p a
    · rfl
    · exact ha.symm

theorem kind_reg {v : Pcode.Var} {n : String} (h : v.kind = .reg n) :
    v.name = some n ∧ v.value = none ∧ v.address = none ∧ v.isVirtual = false := by
  unfold Pcode.Var.kind at h
  split at h
  · split at h <;> simp_all
  · split at h <;> simp at h
  · split at h <;> simp at h
  · simp at h

theorem kind_tmp {v : Pcode.Var} {n : String} (h : v.kind = .tmp n) :
    v.name = some n ∧ v.value = none ∧ v.address = none ∧ v.isVirtual = true := by
  unfold Pcode.Var.kind at h
  split at h
  · split at h <;> simp_all
  · split at h <;> simp at h
  · split at h <;> simp at h
  · simp at h

theorem kind_const {v : Pcode.Var} {x : Nat} (h : v.kind = .const x) :
    v.name = none ∧ v.address = none ∧ ∃ s, v.value = some s ∧ parseHex s = some x := by
  unfold Pcode.Var.kind at h
  split at h
  · split at h <;> simp at h
  · rename_i s _ _ _
    split at h
    · rename_i y hy; simp at h; subst h; simp_all
    · simp at h
  · split at h <;> simp at h
  · simp at h

theorem kind_ram {v : Pcode.Var} {x : Nat} (h : v.kind = .ram x) :
    v.name = none ∧ v.value = none ∧ ∃ s, v.address = some s ∧ parseHex s = some x := by
  unfold Pcode.Var.kind at h
  split at h
  · split at h <;> simp at h
  · split at h <;> simp at h
  · split at h
    · rename_i y hy; simp at h; subst h; simp_all
    · simp at h
  · simp at h

theorem varToIrVar_reg {v : Pcode.Var} {n : String} (h : v.kind = .reg n) :
    varToIrVar v = some ⟨n, v.size, false⟩ := by
  obtain ⟨h1, _, _, h4⟩ := kind_reg h
  simp only [varToIrVar, h1, h4, Option.bind_eq_bind, Option.bind_some]

theorem varToIrVar_tmp {v : Pcode.Var} {n : String} (h : v.kind = .tmp n) :
    varToIrVar v = some ⟨n, v.size, true⟩ := by
  obtain ⟨h1, _, _, h4⟩ := kind_tmp h
  simp only [varToIrVar, h1, h4, Option.bind_eq_bind, Option.bind_some]

theorem varToIrExpr_reg {v : Pcode.Var} {n : String} (h : v.kind = .reg n) :
    varToIrExpr v = some (.Var ⟨n, v.size, false⟩) := by
  simp only [varToIrExpr, (kind_reg h).1, (kind_reg h).2.1, varToIrVar_reg h, Option.bind_eq_bind, Option.bind_some]

theorem varToIrExpr_tmp {v : Pcode.Var} {n : String} (h : v.kind = .tmp n) :
    varToIrExpr v = some (.Var ⟨n, v.size, true⟩) := by
  simp only [varToIrExpr, (kind_tmp h).1, (kind_tmp h).2.1, varToIrVar_tmp h, Option.bind_eq_bind, Option.bind_some]

theorem varToIrExpr_const {v : Pcode.Var} {x : Nat} (h : v.kind = .const x) :
    varToIrExpr v = some (.Const v.size (x % 2 ^ (8 * v.size))) := by
  obtain ⟨h1, _, s, h2, hs⟩ := kind_const h
  simp only [varToIrExpr, parseConst, h1, h2, hs, Option.bind_eq_bind, Option.bind_some]

theorem varToIrVar_size {out : Pcode.Var} {v : Variable} (h : varToIrVar out = some v) : v.size = out.size := by
  simp only [varToIrVar, Option.bind_eq_bind, Option.bind_eq_some_iff, Option.some.injEq] at h
  obtain ⟨_, _, rfl⟩ := h
  rfl

theorem address_isSome_eq_isRam {tbl : RegTable} {v : Pcode.Var} (h : varOk tbl v = true) :
    v.address.isSome = v.isRam := by
  unfold varOk at h
  unfold Pcode.Var.isRam
  cases hk : v.kind with
  | bad => simp [hk] at h
  | ram a => obtain ⟨_, _, s, hs, _⟩ := kind_ram hk; simp [hs]
  | const c => obtain ⟨_, ha, _⟩ := kind_const hk; simp [ha]
  | tmp n => obtain ⟨_, _, ha, _⟩ := kind_tmp hk; simp [ha]
  | reg n => obtain ⟨_, _, ha, _⟩ := kind_reg hk; simp [ha]

theorem subpiece_offset {c : Pcode.Var} (h : subpieceOffsetOk c = true) {low : Nat} (hl : constOperand c = some low) :
    parseToBytesize c = some low := by
  unfold subpieceOffsetOk at h
  simp only [Bool.and_eq_true, decide_eq_true_eq] at h
  obtain ⟨⟨hsz, _⟩, hv⟩ := h
  unfold constOperand at hl
  cases hk : c.kind with
  | const x =>
    obtain ⟨h1, h3, s, h2, hs⟩ := kind_const hk
    simp only [h2, beq_iff_eq] at hv
    simp [parseToBytesize, h1, h2, hsz, hv, constOperand, hk] at hl ⊢
    exact hl
  | reg n => simp [hk] at hl
  | tmp n => simp [hk] at hl
  | ram a => simp [hk] at hl
  | bad => simp [hk] at hl

theorem offsetOk_const {c : Pcode.Var} (h : subpieceOffsetOk c = true) : ∃ x, c.kind = .const x := by
  unfold subpieceOffsetOk constOperand at h
  cases hk : c.kind with
  | const x => exact ⟨x, rfl⟩
  | _ => simp [hk] at h

theorem defOk_inputs {tbl : RegTable} {d : Pcode.Def} (h : defOk tbl d = true) :
    optVarOk? tbl d.rhs.input0 = true ∧ optVarOk? tbl d.rhs.input1 = true ∧ optVarOk? tbl d.rhs.input2 = true := by
  unfold defOk at h
  simp only [Bool.and_eq_true] at h
  exact ⟨h.1.1.1, h.1.1.2, h.1.2⟩

theorem defOk_lhs {tbl : RegTable} {d : Pcode.Def} (h : defOk tbl d = true)
    (hns : opKind d.rhs.mnemonic ≠ .store) {v : Pcode.Var} (hv : d.lhs = some v) : varOk tbl v = true := by
  unfold defOk at h
  rw [hv] at h
  revert hns h
  cases opKind d.rhs.mnemonic <;> intro hns h <;> simp only [Bool.and_eq_true] at h
  case store => exact absurd rfl hns
  all_goals exact h.2.1.1

theorem defOk_offset {tbl : RegTable} {d : Pcode.Def} (h : defOk tbl d = true)
    (hk : opKind d.rhs.mnemonic = .subpiece) {c : Pcode.Var} (hc : d.rhs.input1 = some c) :
    subpieceOffsetOk c = true := by
  unfold defOk at h
  rw [hk, hc] at h
  simp only [Bool.and_eq_true] at h
  exact h.2.2

theorem regGet_mem {tbl : RegTable} {n : String} {r : Pcode.RegisterProperties}
    (h : regGet tbl n = some r) : r ∈ tbl :=
  List.mem_reverse.mp (List.mem_of_find?_eq_some h)

theorem regGet_name {tbl : RegTable} {n : String} {r : Pcode.RegisterProperties}
    (h : regGet tbl n = some r) : r.register = n :=
  eq_of_beq (List.find?_some (p := fun r : Pcode.RegisterProperties => r.register == n) h)

/-- what `tableOk` says about an entry -/
structure EntryOk (tbl : RegTable) (r b : Pcode.RegisterProperties) : Prop where
  size_pos : 0 < r.size
  base : regGet tbl r.baseRegister = some b
  base_self : b.baseRegister = b.register
  base_lsb : b.lsb = 0
  inside : r.lsb + r.size ≤ b.size
  whole : r.register = r.baseRegister → r.lsb = 0 ∧ r.size = b.size
  proper : r.register ≠ r.baseRegister → r.size < b.size

theorem tableOk_entry {tbl : RegTable} (h : tableOk tbl = true) {r : Pcode.RegisterProperties} (hr : r ∈ tbl) :
    ∃ b, EntryOk tbl r b := by
  unfold tableOk at h
  simp only [Bool.and_eq_true, List.all_eq_true] at h
  have := h.2 r hr
  revert this
  cases hb : regGet tbl r.baseRegister with
  | none => simp
  | some b =>
    intro this
    simp only [Bool.and_eq_true, decide_eq_true_eq, beq_iff_eq] at this
    obtain ⟨hs, ⟨⟨⟨h1, h2⟩, h3⟩, h4⟩⟩ := this
    refine ⟨b, ⟨hs, hb, h1, h2, h3, ?_, ?_⟩⟩
    · intro he; simp [he] at h4; exact h4
    · intro hne; simp [hne] at h4; exact h4

theorem tableOk_get {tbl : RegTable} (h : tableOk tbl = true) {n : String} {r : Pcode.RegisterProperties}
    (hr : regGet tbl n = some r) : ∃ b, EntryOk tbl r b := tableOk_entry h (regGet_mem hr)

theorem tableOk_fresh {tbl : RegTable} (h : tableOk tbl = true) {n : String} (hn : n ∈ liftTempNames) :
    regGet tbl n = none := by
  unfold tableOk at h
  simp only [Bool.and_eq_true, List.all_eq_true] at h
  exact Option.isNone_iff_eq_none.mp (h.1.2 n hn)

abbrev baseVar (b : Pcode.RegisterProperties) : Variable := ⟨b.register, b.size, false⟩

theorem regLoc_none {tbl : RegTable} {n : String} (h : regGet tbl n = none) (s : Nat) :
    regLoc tbl n s = some ⟨⟨n, s, false⟩, 0, s⟩ := by
  simp only [regLoc, h]

theorem regLoc_some {tbl : RegTable} {n : String} {r b : Pcode.RegisterProperties} (hr : regGet tbl n = some r)
    (hb : EntryOk tbl r b) (s : Nat) :
    regLoc tbl n s = if r.lsb + s ≤ b.size then some ⟨⟨b.register, b.size, false⟩, r.lsb, s⟩ else none := by
  simp only [regLoc, hr, hb.base]

theorem regLoc_base_nontemp {tbl : RegTable} {n : String} {s : Nat} {l : Loc} (h : regLoc tbl n s = some l) :
    l.base.isTemp = false := by
  unfold regLoc at h
  split at h
  · cases h; rfl
  · split at h
    · cases h
    · split at h <;> cases h
      rfl

/-- `v` is named after the register `r` of the table, whose base register is `b`, without being the whole of `b`: it
lives in the bytes `[r.lsb, r.lsb + v.size)` of `b`, `replace_input_subregister` replaces it by that SUBPIECE of `b`
(which is not replaced in turn), and `is_subregister_assignment` holds of it -/
structure IsSub (tbl : RegTable) (v : Variable) (r b : Pcode.RegisterProperties) : Prop where
  get : regGet tbl v.name = some r
  entry : EntryOk tbl r b
  proper : v.size ≤ r.size → v.size < b.size
  loc : regLoc tbl v.name v.size = if r.lsb + v.size ≤ b.size then some ⟨baseVar b, r.lsb, v.size⟩ else none
  input : replacementFor tbl v = some (some (v, .Subpiece r.lsb v.size (.Var (baseVar b))))
  output : outputSubregister tbl v = some (some (r, b))
  base : replacementFor tbl (baseVar b) = some none

/-- The test of `replace_input_subregister` on an input variable and `is_subregister_assignment` on an output variable
single out the same variables of a consistent table (both go by the name and the size alone): either the variable is
left alone by both and, read as a register, lives in itself — a name the table does not know, or a whole base
register —, or it is a proper part of a base register. -/
theorem subregister_cases {tbl : RegTable} (ht : tableOk tbl = true) (v : Variable) :
    (replacementFor tbl v = some none ∧ outputSubregister tbl v = some none ∧
      ∀ l, regLoc tbl v.name v.size = some l → l = ⟨⟨v.name, v.size, false⟩, 0, v.size⟩) ∨
    ∃ r b, IsSub tbl v r b := by
  cases hr : regGet tbl v.name with
  | none =>
    exact .inl ⟨by simp only [replacementFor, hr], by simp only [outputSubregister, hr],
      fun l hl => (Option.some.inj ((regLoc_none hr v.size).symm.trans hl)).symm⟩
  | some r =>
    obtain ⟨b, hb⟩ := tableOk_get ht hr
    have hbn : b.register = r.baseRegister := regGet_name hb.base
    have hrn : r.register = v.name := regGet_name hr
    by_cases hrep : (v.name != r.baseRegister || decide (v.size < r.size)) = true
    · have hrep' := hrep
      simp only [Bool.or_eq_true, bne_iff_ne, ne_eq, decide_eq_true_eq] at hrep'
      -- `v` is smaller than `b`, unless it is larger than the register it is named after
      have hlt : v.size ≤ r.size → v.size < b.size := fun hle => hrep'.elim
        (fun hne => Nat.lt_of_le_of_lt hle (hb.proper (hrn ▸ hne)))
        (fun h => Nat.lt_of_lt_of_le h (Nat.le_trans (Nat.le_add_left _ _) hb.inside))
      refine .inr ⟨r, b, hr, hb, hlt, regLoc_some hr hb v.size, ?_, ?_, ?_⟩
      · simp only [replacementFor, hr, hrep, if_true, createSubpiece, hb.base, Option.bind_eq_bind, Option.bind_some,
          baseVar, hbn]
      · have : isSubregisterAssignment v b = true := by
          simp only [isSubregisterAssignment, Bool.or_eq_true, bne_iff_ne, ne_eq, decide_eq_true_eq, hbn]
          exact hrep'.imp id fun h => Nat.lt_of_lt_of_le h (Nat.le_trans (Nat.le_add_left _ _) hb.inside)
        simp only [outputSubregister, hr, hb.base, this, Option.bind_eq_bind, Option.bind_some, if_true]
      · have : ((b.register != b.baseRegister) || decide (b.size < b.size)) = false := by
          simp only [hb.base_self, bne_self_eq_false, Nat.lt_irrefl, decide_false, Bool.or_self]
        simp only [replacementFor, baseVar, hbn ▸ hb.base, this, Bool.false_eq_true, if_false]
    · -- named after a base register and at least as large: the whole base register, or nothing of the table
      have hrep' : (v.name != r.baseRegister || decide (v.size < r.size)) = false := Bool.eq_false_iff.mpr hrep
      simp only [Bool.or_eq_true, bne_iff_ne, ne_eq, decide_eq_true_eq, not_or, Decidable.not_not, Nat.not_lt] at hrep
      obtain ⟨hl0, hsz⟩ := hb.whole (hrn.trans hrep.1)
      refine .inl ⟨by simp only [replacementFor, hr, hrep', Bool.false_eq_true, if_false], ?_, fun l hl => ?_⟩
      · have : isSubregisterAssignment v b = false := by
          simp only [isSubregisterAssignment, Bool.or_eq_false_iff, bne_eq_false_iff_eq, decide_eq_false_iff_not,
            Nat.not_lt, hbn]
          exact ⟨hrep.1, hsz ▸ hrep.2⟩
        simp only [outputSubregister, hr, hb.base, this, Option.bind_eq_bind, Option.bind_some, Bool.false_eq_true,
          if_false]
      · rw [regLoc_some hr hb] at hl
        split at hl
        · next hin =>
          cases hl
          have : b.size = v.size := Nat.le_antisymm (hsz ▸ hrep.2) (Nat.le_trans (Nat.le_add_left _ _) hin)
          rw [hbn, ← hrep.1, this, hl0]
        · cases hl

def loadTemp (name : String) (size : Nat) : Pcode.Var := { name := some name, size := size, isVirtual := true }

/-- `Variable::to_load_def` of a varnode of `size` bytes at the address `a` -/
def loadDef (name : String) (size : Nat) (a : String) (ptr : Nat) : Pcode.Def :=
  { lhs := some (loadTemp name size),
    rhs := { mnemonic := .LOAD, input1 := some { value := some a, size := ptr, isVirtual := false } } }

theorem toLoadDef_eq (v : Pcode.Var) (name : String) (ptr : Nat) :
    toLoadDef v name ptr = v.address.map fun a => loadDef name v.size a ptr := by
  unfold toLoadDef
  cases v.address <;> rfl

theorem loadFor_eq (tid : Tid) (inp : Option Pcode.Var) (tmp sfx : String) (ptr : Nat) :
    loadFor tid inp tmp sfx ptr = some (match inp with
      | none => ([], none)
      | some v => match v.address with
        | some a => ([⟨tid.withIdSuffix sfx, loadDef tmp v.size a ptr⟩], some (loadTemp tmp v.size))
        | none => ([], some v)) := by
  cases inp with
  | none => rfl
  | some v =>
    simp only [loadFor, toLoadDef_eq]
    cases v.address <;> rfl

def jmpOperand (j : Pcode.Jmp) : Option Pcode.Var :=
  match j.mnemonic with
  | .CBRANCH => j.condition
  | .BRANCHIND => j.goto.bind Pcode.Label.indirect?
  | .RETURN => j.goto.bind Pcode.Label.indirect?
  | .CALLIND => (j.call.bind (·.target)).bind Pcode.Label.indirect?
  | _ => none

/-- a jump with the fields its mnemonic uses -/
inductive JmpShape where
  | branch (t : Tid)
  | cbranch (t : Tid) (v : Pcode.Var)
  | branchInd (v : Pcode.Var)
  | call (t : Tid) (r : Option Tid)
  | callInd (v : Pcode.Var) (r : Option Tid)
  | callOther (d : String) (r : Option Tid)
  | ret (v : Pcode.Var)

/-- the fields of a jump; `none` = malformed: neither the lifting (`jmpToIr_none`) nor the P-Code interpreter
(`execJmps_cons`, PropsJmp.lean) is defined on it -/
def jmpShape (j : Pcode.Jmp) : Option JmpShape :=
  match j.mnemonic with
  | .BRANCH => do some (.branch (← (← j.goto).direct?))
  | .CBRANCH => do some (.cbranch (← (← j.goto).direct?) (← j.condition))
  | .BRANCHIND => do some (.branchInd (← (← j.goto).indirect?))
  | .CALL => do
    let c ← j.call
    some (.call (← (← c.target).direct?) (← callReturn c))
  | .CALLIND => do
    let c ← j.call
    some (.callInd (← (← c.target).indirect?) (← callReturn c))
  | .CALLOTHER => do
    let c ← j.call
    let r ← callReturn c
    some (.callOther (← c.callString) r)
  | .RETURN => do some (.ret (← (← j.goto).indirect?))

def JmpShape.operand : JmpShape → Option Pcode.Var
  | .cbranch _ v | .branchInd v | .callInd v _ | .ret v => some v
  | _ => none

def JmpShape.setOperand (w : Pcode.Var) : JmpShape → JmpShape
  | .cbranch t _ => .cbranch t w
  | .branchInd _ => .branchInd w
  | .callInd _ r => .callInd w r
  | .ret _ => .ret w
  | s => s

/-- `From<Jmp>` by shape -/
def JmpShape.toIr : JmpShape → Option Jmp
  | .branch t => some (.Branch t)
  | .cbranch t v => do some (.CBranch t (← varToIrExpr v))
  | .branchInd v => do some (.BranchInd (← varToIrExpr v))
  | .call t r => some (.Call t r)
  | .callInd v r => do some (.CallInd (← varToIrExpr v) r)
  | .callOther d r => some (.CallOther d r)
  | .ret v => do some (.Return (← varToIrExpr v))

/-- the operand sizes `pcodeJmpSized` asks for -/
def JmpShape.sized (ptr : Nat) : JmpShape → Bool
  | .cbranch _ v => v.size == 1
  | .branchInd v | .ret v | .callInd v _ => v.size == ptr
  | _ => true

def JmpShape.mnemonic : JmpShape → JmpType
  | .branch _ => .BRANCH
  | .cbranch _ _ => .CBRANCH
  | .branchInd _ => .BRANCHIND
  | .call _ _ => .CALL
  | .callInd _ _ => .CALLIND
  | .callOther _ _ => .CALLOTHER
  | .ret _ => .RETURN

theorem jmpShape_spec {j : Pcode.Jmp} {s : JmpShape} (h : jmpShape j = some s) :
    jmpToIr j = s.toIr ∧ jmpOperand j = s.operand ∧ j.mnemonic = s.mnemonic ∧
      ∀ ptr, pcodeJmpSized ptr j = s.sized ptr := by
  obtain ⟨m, goto, call, cond, hints⟩ := j
  cases m
  · rcases goto with _ | ⟨t | w⟩ <;> cases h <;> exact ⟨rfl, rfl, rfl, fun _ => rfl⟩
  · rcases goto with _ | ⟨t | w⟩ <;> rcases cond with _ | v <;> cases h <;> exact ⟨rfl, rfl, rfl, fun _ => rfl⟩
  · rcases goto with _ | ⟨t | v⟩ <;> cases h <;> exact ⟨rfl, rfl, rfl, fun _ => rfl⟩
  · rcases call with _ | ⟨_ | ⟨t | v⟩, _ | ⟨r | w⟩, cs⟩ <;> cases h <;> exact ⟨rfl, rfl, rfl, fun _ => rfl⟩
  · rcases call with _ | ⟨_ | ⟨t | v⟩, _ | ⟨r | w⟩, cs⟩ <;> cases h <;> exact ⟨rfl, rfl, rfl, fun _ => rfl⟩
  · rcases call with _ | ⟨tg, _ | ⟨r | w⟩, _ | cs⟩ <;> cases h <;> exact ⟨rfl, rfl, rfl, fun _ => rfl⟩
  · rcases goto with _ | ⟨t | v⟩ <;> cases h <;> exact ⟨rfl, rfl, rfl, fun _ => rfl⟩

theorem jmpToIr_eq {j : Pcode.Jmp} {s : JmpShape} (h : jmpShape j = some s) : jmpToIr j = s.toIr :=
  (jmpShape_spec h).1

theorem jmpOperand_eq {j : Pcode.Jmp} {s : JmpShape} (h : jmpShape j = some s) : jmpOperand j = s.operand :=
  (jmpShape_spec h).2.1

theorem pcodeJmpSized_eq {j : Pcode.Jmp} {s : JmpShape} (h : jmpShape j = some s) (ptr : Nat) :
    pcodeJmpSized ptr j = s.sized ptr :=
  (jmpShape_spec h).2.2.2 ptr

theorem jmpToIr_none {j : Pcode.Jmp} (h : jmpShape j = none) : jmpToIr j = none := by
  obtain ⟨m, goto, call, cond, hints⟩ := j
  cases m
  · rcases goto with _ | ⟨t | w⟩ <;> first | rfl | cases h
  · rcases goto with _ | ⟨t | w⟩ <;> rcases cond with _ | v <;> first | rfl | cases h
  · rcases goto with _ | ⟨t | v⟩ <;> first | rfl | cases h
  · rcases call with _ | ⟨_ | ⟨t | v⟩, _ | ⟨r | w⟩, cs⟩ <;> first | rfl | cases h
  · rcases call with _ | ⟨_ | ⟨t | v⟩, _ | ⟨r | w⟩, cs⟩ <;>
      first | rfl | (cases h; done) | exact (show (varToIrExpr v).bind _ = none by cases varToIrExpr v <;> rfl)
  · rcases call with _ | ⟨tg, _ | ⟨r | w⟩, _ | cs⟩ <;> first | rfl | cases h
  · rcases goto with _ | ⟨t | v⟩ <;> first | rfl | cases h

theorem jmpOk_operand {tbl : RegTable} {j : Pcode.Jmp} {v : Pcode.Var} (h : jmpOk tbl j = true)
    (hv : jmpOperand j = some v) :
    varOk tbl v = true ∧ (v.isRam = true → j.mnemonic = .BRANCHIND ∨ j.mnemonic = .CALLIND) := by
  obtain ⟨m, goto, call, cond, hints⟩ := j
  cases m <;> simp only [jmpOperand, jmpOk] at hv h
  · cases hv
  · subst hv; simp only [Bool.and_eq_true, Bool.not_eq_true'] at h; exact ⟨h.2.1, fun hr => by simp [hr] at h⟩
  · rcases goto with _ | ⟨t | w⟩ <;> cases hv
    exact ⟨h, fun _ => .inl rfl⟩
  · cases hv
  · rcases call with _ | ⟨_ | ⟨t | w⟩, ret, cs⟩ <;> cases hv
    simp only [Bool.and_eq_true] at h
    exact ⟨h.1, fun _ => .inr rfl⟩
  · cases hv
  · rcases goto with _ | ⟨t | w⟩ <;> cases hv
    simp only [Bool.and_eq_true, Bool.not_eq_true'] at h
    exact ⟨h.1, fun hr => by simp [hr] at h⟩

def _root_.CweModel.Gen.PcodeOps.JmpType.indirect : JmpType → Bool
  | .BRANCHIND | .CALLIND => true
  | _ => false

def setTarget (w : Pcode.Var) (j : Pcode.Jmp) : Pcode.Jmp :=
  match j.mnemonic with
  | .BRANCHIND => { j with goto := some (.Indirect w) }
  | .CALLIND => { j with call := j.call.map fun c => { c with target := some (.Indirect w) } }
  | _ => j

/-- `add_load_defs_for_implicit_ram_access` on jump number `i` of a block: the RAM target of an indirect jump or call
is loaded into `$load_temp<i>` and the jump goes through the temporary; any other jump is left alone -/
theorem addLoadsJmp_eq (ptr i : Nat) (j : Term Pcode.Jmp) :
    addLoadsJmp ptr i j =
      if j.term.mnemonic.indirect then
        (jmpOperand j.term).bind fun v => match v.address with
          | some a => some ([⟨j.tid.withIdSuffix "_load", loadDef ("$load_temp" ++ toString i) v.size a ptr⟩],
              ⟨j.tid, setTarget (loadTemp ("$load_temp" ++ toString i) v.size) j.term⟩)
          | none => some ([], j)
      else some ([], j) := by
  obtain ⟨tid, m, goto, call, cond, hints⟩ := j
  cases m <;> try rfl
  · rcases goto with _ | ⟨t | v⟩ <;> try rfl
    simp only [addLoadsJmp, toLoadDef_eq, jmpOperand, labelIndirect, Pcode.Label.indirect?, Option.bind_eq_bind,
      Option.bind_some, JmpType.indirect, if_true]
    cases v.address <;> rfl
  · rcases call with _ | ⟨_ | ⟨t | v⟩, ret, cs⟩ <;> try rfl
    simp only [addLoadsJmp, toLoadDef_eq, jmpOperand, labelIndirect, Pcode.Label.indirect?, Option.bind_eq_bind,
      Option.bind_some, JmpType.indirect, if_true]
    cases v.address <;> rfl

theorem setTarget_spec {j : Pcode.Jmp} {s : JmpShape} (hs : jmpShape j = some s) (hm : j.mnemonic.indirect = true)
    (w : Pcode.Var) : jmpShape (setTarget w j) = some (s.setOperand w) := by
  obtain ⟨m, goto, call, cond, hints⟩ := j
  cases m <;> try cases hm
  · rcases goto with _ | ⟨t | v⟩ <;> cases hs <;> rfl
  · rcases call with _ | ⟨_ | ⟨t | v⟩, ret, cs⟩ <;> try cases hs
    simp only [jmpShape, Option.bind_eq_bind, Option.bind_some, Pcode.Label.indirect?, Option.bind_eq_some_iff,
      Option.some.injEq] at hs
    obtain ⟨r, hr, rfl⟩ := hs
    simp only [setTarget, jmpShape, Option.map_some, Option.bind_eq_bind, Option.bind_some, Pcode.Label.indirect?]
    rw [show callReturn { target := some (Pcode.Label.Indirect w), ret := ret, callString := cs } = some r from hr]
    rfl

theorem setTarget_operand {j : Pcode.Jmp} {v : Pcode.Var} (hm : j.mnemonic.indirect = true)
    (hv : jmpOperand j = some v) (w : Pcode.Var) :
    (setTarget w j).mnemonic = j.mnemonic ∧ jmpOperand (setTarget w j) = some w := by
  obtain ⟨m, goto, call, cond, hints⟩ := j
  cases m <;> try cases hm
  · exact ⟨rfl, rfl⟩
  · rcases call with _ | ⟨_ | ⟨t | v'⟩, ret, cs⟩ <;> cases hv
    exact ⟨rfl, rfl⟩

theorem pcodeJmpSized_indirect {j : Pcode.Jmp} {v : Pcode.Var} (hm : j.mnemonic.indirect = true)
    (hv : jmpOperand j = some v) (ptr : Nat) : pcodeJmpSized ptr j = (v.size == ptr) := by
  obtain ⟨m, goto, call, cond, hints⟩ := j
  cases m <;> try cases hm
  · rcases goto with _ | ⟨t | v'⟩ <;> cases hv
    rfl
  · rcases call with _ | ⟨_ | ⟨t | v'⟩, ret, cs⟩ <;> cases hv
    rfl

theorem jmpOk_indirect {tbl : RegTable} {j : Pcode.Jmp} (h : jmpOk tbl j = true) (hm : j.mnemonic.indirect = true) :
    ∃ v, jmpOperand j = some v := by
  obtain ⟨m, goto, call, cond, hints⟩ := j
  cases m <;> try cases hm
  · rcases goto with _ | ⟨t | v⟩ <;> first | (cases h; done) | exact ⟨v, rfl⟩
  · rcases call with _ | ⟨_ | ⟨t | v⟩, ret, cs⟩ <;> first | (cases h; done) | exact ⟨v, rfl⟩

theorem JmpShape.indirect_cases {s : JmpShape} {v : Pcode.Var} (hm : s.mnemonic.indirect = true)
    (hv : s.operand = some v) : s = .branchInd v ∨ ∃ r, s = .callInd v r := by
  cases s <;> cases hm <;> cases hv
  · exact .inl rfl
  · exact .inr ⟨_, rfl⟩

theorem loadTempName0 : "$load_temp" ++ toString (0 : Nat) = "$load_temp0" := by decide

theorem addLoadsJmp_id {tbl : RegTable} {ptr i : Nat} {j : Term Pcode.Jmp} (h : jmpOk tbl j.term = true)
    (hnr : ∀ v, jmpOperand j.term = some v → v.isRam = false) : addLoadsJmp ptr i j = some ([], j) := by
  rw [addLoadsJmp_eq]
  split
  · next hm =>
    obtain ⟨v, hv⟩ := jmpOk_indirect h hm
    have hadr := address_isSome_eq_isRam (jmpOk_operand h hv).1
    rw [hnr v hv] at hadr
    rw [hv, Option.bind_some, Option.not_isSome_iff_eq_none.mp (Bool.eq_false_iff.mp hadr)]
  · rfl

theorem addLoadsJmps_plain {tbl : RegTable} {ptr : Nat} : ∀ (i : Nat) (js : List (Term Pcode.Jmp)),
    (∀ j ∈ js, jmpOk tbl j.term = true) → (∀ j ∈ js, ∀ v, jmpOperand j.term = some v → v.isRam = false) →
    addLoadsJmps ptr i js = some ([], js)
  | _, [], _, _ => rfl
  | i, j :: js, hok, hnr => by
    rw [addLoadsJmps, addLoadsJmp_id (hok j List.mem_cons_self) (hnr j List.mem_cons_self),
      addLoadsJmps_plain (i + 1) js (fun x hx => hok x (List.mem_cons_of_mem _ hx))
        (fun x hx => hnr x (List.mem_cons_of_mem _ hx))]
    rfl

theorem jmpsShapeOk_cases {js : List (Term Pcode.Jmp)} (h : jmpsShapeOk js = true) :
    js = [] ∨ (∃ j, js = [j] ∧ j.term.mnemonic ≠ .CBRANCH) ∨
      ∃ c b, js = [c, b] ∧ c.term.mnemonic = .CBRANCH ∧ b.term.mnemonic = .BRANCH :=
  match js, h with
  | [], _ => .inl rfl
  | [j], h => .inr (.inl ⟨j, rfl, of_decide_eq_true h⟩)
  | [c, b], h => .inr (.inr ⟨c, b, rfl, by simpa only [jmpsShapeOk, Bool.and_eq_true, decide_eq_true_eq] using h⟩)
  | _ :: _ :: _ :: _, h => nomatch h

theorem ramJmp_cases {tbl : RegTable} {js : List (Term Pcode.Jmp)} (hok : ∀ j ∈ js, jmpOk tbl j.term = true)
    (hshape : jmpsShapeOk js = true) :
    (∀ j ∈ js, ∀ v, jmpOperand j.term = some v → v.isRam = false) ∨
      ∃ j v, js = [j] ∧ jmpOperand j.term = some v ∧ v.isRam = true := by
  rcases jmpsShapeOk_cases hshape with rfl | ⟨j, rfl, _⟩ | ⟨c, b, rfl, hc, hb⟩
  · exact .inl fun _ h => nomatch h
  · cases ho : jmpOperand j.term with
    | none => exact .inl fun j' hj' v hv => by cases List.mem_singleton.mp hj'; rw [ho] at hv; cases hv
    | some v =>
      cases hr : v.isRam with
      | true => exact .inr ⟨j, v, rfl, ho, hr⟩
      | false =>
        refine .inl fun j' hj' v' hv' => ?_
        cases List.mem_singleton.mp hj'
        cases ho.symm.trans hv'
        exact hr
  · refine .inl fun j hj v hv => Bool.eq_false_iff.mpr fun hr => ?_
    rcases List.mem_cons.mp hj with rfl | hj
    · rcases (jmpOk_operand (hok j hj) hv).2 hr with h | h <;> rw [hc] at h <;> cases h
    · cases List.mem_singleton.mp hj
      simp only [jmpOperand, hb] at hv
      cases hv

theorem pieceTogether_low (e : Expression) (bn : String) (B s : Nat) :
    pieceTogether e bn B 0 s = .BinOp .Piece (.Subpiece s (B - s) (.Var ⟨bn, B, false⟩)) e := rfl

theorem pieceTogether_top (e : Expression) (bn : String) {B l s : Nat} (hl : 0 < l) (h : l + s = B) :
    pieceTogether e bn B l s = .BinOp .Piece e (.Subpiece 0 l (.Var ⟨bn, B, false⟩)) := by
  simp [pieceTogether, hl, h]

theorem pieceTogether_mid (e : Expression) (bn : String) {B l s : Nat} (hl : 0 < l) (h : l + s ≠ B) :
    pieceTogether e bn B l s = .BinOp .Piece
      (.BinOp .Piece (.Subpiece (l + s) (B - (l + s)) (.Var ⟨bn, B, false⟩)) e) (.Subpiece 0 l (.Var ⟨bn, B, false⟩)) := by
  simp [pieceTogether, hl, h]

/-- what `is_next_def_cast_to_base_register` establishes -/
theorem fuse_facts {tbl : RegTable} {v : Variable} {next : Option (Term Def)}
    (h : isNextDefCastToBase tbl v next = true) :
    ∃ t w op sz reg ireg, next = some ⟨t, .Assign w (.Cast op sz (.Var v))⟩ ∧ regGet tbl w.name = some reg ∧
      regGet tbl v.name = some ireg ∧ ireg.register ≠ ireg.baseRegister ∧ ireg.baseRegister = reg.register ∧
      w.size = reg.size := by
  unfold isNextDefCastToBase at h
  split at h
  · rename_i t w op sz cv
    split at h
    · rename_i reg ireg hreg hireg
      simp only [Bool.and_eq_true, beq_iff_eq, bne_iff_ne, ne_eq] at h
      obtain ⟨⟨⟨hcv, hne⟩, hbase⟩, hsz⟩ := h
      subst hcv
      exact ⟨t, w, op, sz, reg, ireg, rfl, hreg, hireg, hne, hbase, hsz⟩
    · cases h
  · cases h

/-- the defs that write the value of `val` to the sub-register `v` of `b`: fused with the next def if that
casts `v` to `b`, a `pieceTogether` assignment otherwise (shared by the `Assign` and `Load` arms of `replaceStep`) -/
def subWriteDefs (tbl : RegTable) (v : Variable) (r b : Pcode.RegisterProperties) (val : Expression) (t' : Tid)
    (next : Option (Term Def)) : Option (List (Term Def) × Bool) :=
  if isNextDefCastToBase tbl v next then
    match next with
    | some ⟨t, .Assign w castExpr⟩ => some ([⟨t, .Assign w (castExpr.substVar v val)⟩], true)
    | _ => none
  else some ([⟨t', .Assign (baseVar b) (pieceTogether val b.register b.size r.lsb v.size)⟩], false)

theorem replaceStep_store {tbl : RegTable} {d : Term Def} {a e : Expression} (next : Option (Term Def))
    (h : replaceInputsDef tbl d.term = some (.Store a e)) :
    replaceStep tbl d next = some ([⟨d.tid, .Store a e⟩], false) := by
  unfold replaceStep; rw [h]; rfl

theorem replaceStep_assign {tbl : RegTable} {d : Term Def} {v : Variable} {e : Expression} (next : Option (Term Def))
    (h : replaceInputsDef tbl d.term = some (.Assign v e)) :
    replaceStep tbl d next = (outputSubregister tbl v).bind fun o =>
      match o with
      | some (r, b) => subWriteDefs tbl v r b e d.tid next
      | none => some ([⟨d.tid, .Assign v e⟩], false) := by
  unfold replaceStep; rw [h]; rfl

theorem replaceStep_load {tbl : RegTable} {d : Term Def} {v : Variable} {a : Expression} (next : Option (Term Def))
    (h : replaceInputsDef tbl d.term = some (.Load v a)) :
    replaceStep tbl d next = (outputSubregister tbl v).bind fun o =>
      match o with
      | some (r, b) =>
        (subWriteDefs tbl v r b (.Var ⟨"loaded_value", v.size, true⟩) (d.tid.withIdSuffix "_cast_to_base") next).map
          fun p => (⟨d.tid, .Load ⟨"loaded_value", v.size, true⟩ a⟩ :: p.1, p.2)
      | none => some ([⟨d.tid, .Load v a⟩], false) := by
  unfold replaceStep; rw [h]
  simp only [Option.bind_eq_bind, Option.bind_some]
  congr 1; funext o
  cases o with
  | none => rfl
  | some p =>
    simp only [subWriteDefs]
    split
    · rcases next with _ | ⟨t, _ | _ | _⟩ <;> rfl
    · rfl

theorem replaceDefs_nil (tbl : RegTable) : replaceDefs tbl [] = some [] := by
  unfold replaceDefs; rfl

theorem replaceDefs_cons (tbl : RegTable) (d : Term Def) (rest : List (Term Def)) :
    replaceDefs tbl (d :: rest) = (do
      let (out, consumed) ← replaceStep tbl d rest.head?
      let tail ← replaceDefs tbl (if consumed then rest.tail else rest)
      some (out ++ tail)) := by
  rw [replaceDefs]

/-- `into_ir_blk` on the defs -/
def rawDefs (ptr : Nat) (ds : List (Term Pcode.Def)) : Option (List (Term Def)) :=
  mapOpt (fun d : Term Pcode.Def => do some (⟨d.tid, ← defToIr ptr d.term⟩ : Term Def)) ds

/-- `into_ir_blk` and `replace_subregister_in_block` on one jump -/
def liftJmp (tbl : RegTable) (j : Term Pcode.Jmp) : Option (Term Jmp) := do
  some ⟨j.tid, ← replaceSubregisterInJump tbl (← jmpToIr j.term)⟩

theorem liftJmp_of_shape {tbl : RegTable} {j : Term Pcode.Jmp} {s : JmpShape} {ij : Jmp} (hs : jmpShape j.term = some s)
    (h : s.toIr.bind (replaceSubregisterInJump tbl) = some ij) : liftJmp tbl j = some ⟨j.tid, ij⟩ := by
  rw [liftJmp, jmpToIr_eq hs]
  obtain ⟨a, ha, hb⟩ := Option.bind_eq_some_iff.mp h
  simp only [ha, hb, Option.bind_eq_bind, Option.bind_some]

theorem mapOpt_liftJmp (tbl : RegTable) (js : List (Term Pcode.Jmp)) :
    mapOpt (liftJmp tbl) js =
      (mapOpt (fun j : Term Pcode.Jmp => do some (⟨j.tid, ← jmpToIr j.term⟩ : Term Jmp)) js).bind
        (mapOpt fun j : Term Jmp => do some (⟨j.tid, ← replaceSubregisterInJump tbl j.term⟩ : Term Jmp)) := by
  refine ((mapOpt_bind _ _ js).trans (congrArg (mapOpt · js) (funext fun j => ?_))).symm
  simp only [liftJmp, Option.bind_eq_bind, Option.bind_assoc, Option.bind_some]

/-- the lifting of a block, pass by pass: explicit loads for the instructions and for the jump, `into_ir_def` on all
of them, the sub-register replacement on the defs, and on the lifted jumps -/
theorem liftBlk_eq_some {tbl : RegTable} {ptr : Nat} {b : Pcode.Blk} {ib : Blk} :
    liftBlk tbl ptr b = some ib ↔ ∃ nss ls js raw final ijs,
      mapOpt (addLoadsDef ptr) b.defs = some nss ∧ addLoadsJmps ptr 0 b.jmps = some (ls, js) ∧
      rawDefs ptr (nss.flatten ++ ls) = some raw ∧ replaceDefs tbl raw = some final ∧
      mapOpt (liftJmp tbl) js = some ijs ∧
      ib = { defs := final, jmps := ijs,
             indirectJmpTargets := ((js.findSome? (fun j => j.term.targetHints)).getD []).map blkIdAtAddress } := by
  constructor
  · intro h
    obtain ⟨nb, hal, h⟩ := Option.bind_eq_some_iff.mp h
    obtain ⟨rb, hir, h⟩ := Option.bind_eq_some_iff.mp h
    obtain ⟨nss, hm, hal⟩ := Option.bind_eq_some_iff.mp hal
    obtain ⟨⟨ls, js⟩, hj, hal⟩ := Option.bind_eq_some_iff.mp hal
    cases hal
    obtain ⟨raw, hrd, hir⟩ := Option.bind_eq_some_iff.mp hir
    obtain ⟨mid, hrj, hir⟩ := Option.bind_eq_some_iff.mp hir
    cases hir
    obtain ⟨ijs, hij, h⟩ := Option.bind_eq_some_iff.mp h
    obtain ⟨final, hf, h⟩ := Option.bind_eq_some_iff.mp h
    cases h
    exact ⟨nss, ls, js, raw, final, ijs, hm, hj, hrd, hf, by rw [mapOpt_liftJmp, hrj]; exact hij, rfl⟩
  · rintro ⟨nss, ls, js, raw, final, ijs, hm, hj, hrd, hf, hij, rfl⟩
    rw [mapOpt_liftJmp] at hij
    obtain ⟨mid, hrj, hij⟩ := Option.bind_eq_some_iff.mp hij
    simp only [rawDefs, Option.bind_eq_bind] at hrd hrj hij
    simp only [liftBlk, addLoadDefs, hm, hj, blkToIr, hrd, hrj, replaceSubregisterInBlock, hij, hf, Option.bind_eq_bind,
      Option.bind_some]

theorem liftBlocks_compose {tbl : RegTable} {ptr : Nat} (pbs : List (Term Pcode.Blk)) {nbs : List (Term Pcode.Blk)}
    {rbs fbs : List (Term Blk)}
    (h1 : mapOpt (fun b : Term Pcode.Blk => (addLoadDefs ptr b.term).bind fun r => some (⟨b.tid, r⟩ : Term Pcode.Blk)) pbs = some nbs)
    (h2 : mapOpt (fun b : Term Pcode.Blk => (blkToIr ptr b.term).bind fun r => some (⟨b.tid, r⟩ : Term Blk)) nbs = some rbs)
    (h3 : mapOpt (fun b : Term Blk => (replaceSubregisterInBlock tbl b.term).bind fun r => some (⟨b.tid, r⟩ : Term Blk)) rbs = some fbs) :
    liftBlocks tbl ptr pbs = some fbs := by
  have h12 := (mapOpt_bind _ _ pbs).symm.trans ((congrArg (Option.bind · _) h1).trans h2)
  rw [← (mapOpt_bind _ _ pbs).symm.trans ((congrArg (Option.bind · _) h12).trans h3)]
  refine congrArg (mapOpt · pbs) (funext fun b => ?_)
  simp only [liftBlk, Option.bind_eq_bind, Option.bind_assoc, Option.bind_some]

theorem mem_btreeInsert {m : List (Term Sub)} {s x : Term Sub} (h : x ∈ btreeInsert m s) : x = s ∨ x ∈ m := by
  induction m with
  | nil => simp [btreeInsert] at h; exact Or.inl h
  | cons y ys ih =>
    simp only [btreeInsert] at h
    split at h
    · rcases List.mem_cons.mp h with h | h
      · exact Or.inl h
      · exact Or.inr (by simp [h])
    · split at h
      · rcases List.mem_cons.mp h with h | h
        · exact Or.inl h
        · exact Or.inr h
      · rcases List.mem_cons.mp h with h | h
        · exact Or.inr (by simp [h])
        · rcases ih h with h | h
          · exact Or.inl h
          · exact Or.inr (by simp [h])

theorem mem_foldl_btreeInsert {l acc : List (Term Sub)} {x : Term Sub} (h : x ∈ l.foldl btreeInsert acc) :
    x ∈ acc ∨ x ∈ l := by
  induction l generalizing acc with
  | nil => exact Or.inl h
  | cons s l ih =>
    simp only [List.foldl_cons] at h
    rcases ih h with h | h
    · rcases mem_btreeInsert h with h | h
      · exact Or.inr (by simp [h])
      · exact Or.inl h
    · exact Or.inr (by simp [h])

theorem mem_swapToFront {α} {l : List α} {i : Nat} {x : α} (h : x ∈ swapToFront l i) : x ∈ l := by
  unfold swapToFront at h
  split at h
  · rename_i a rest b hb
    rcases List.mem_or_eq_of_mem_set h with h | h
    · rcases List.mem_or_eq_of_mem_set h with h | h
      · exact h
      · rw [h]; simp
    · rw [h]; exact List.mem_of_getElem? hb
  · exact h

/-- **C11-program (functions).** Every function of the program produced by `parse_pcode_project_to_ir_project`
is `liftBlocks` of a list of blocks of the P-Code function with the same term identifier (its blocks with the
entry block moved to the front, or none if no block starts at the function's address) — the setting of
`liftSub_sim`. -/
theorem liftProject_subs {p : Pcode.Project} {prog : Program} (h : liftProject p = some prog) :
    ∀ s ∈ prog.subs, ∃ ps ∈ p.program.subs, ps.tid = s.tid ∧ ps.term.name = s.term.name ∧
      ∃ pbs, (∀ b ∈ pbs, b ∈ ps.term.blocks) ∧
        liftBlocks p.registerProperties p.pointerSize pbs = some s.term.blocks := by
  intro s hs
  obtain ⟨nsubs, h1, h⟩ := Option.bind_eq_some_iff.mp h
  obtain ⟨irsubs, h2, h⟩ := Option.bind_eq_some_iff.mp h
  obtain ⟨fsubs, h3, h⟩ := Option.bind_eq_some_iff.mp h
  cases h
  have hs' : s ∈ fsubs := (mem_foldl_btreeInsert hs).resolve_left fun h => nomatch h
  -- back through the three passes over the functions
  obtain ⟨s1, hs1, hf1⟩ := (mapOpt_some _ _ _ h3).2 s hs'
  obtain ⟨fblocks, hb1, hf1⟩ := Option.bind_eq_some_iff.mp hf1
  cases hf1
  obtain ⟨s2, hs2, hf2⟩ := (mapOpt_some _ _ _ h2).2 s1 hs1
  obtain ⟨blocks, hblk, hf2⟩ := Option.bind_eq_some_iff.mp hf2
  obtain ⟨irBlocks, hir, hf2⟩ := Option.bind_eq_some_iff.mp hf2
  cases hf2
  have hsub : ∀ b ∈ blocks, b ∈ s2.term.blocks := by
    intro b2 hb2m
    unfold entryFirst at hblk
    split at hblk
    · cases hblk; cases hb2m
    · split at hblk
      · split at hblk <;> cases hblk
        exact mem_swapToFront hb2m
      · cases hblk; exact hb2m
  obtain ⟨s3, hs3, hf3⟩ := (mapOpt_some _ _ _ h1).2 s2 hs2
  obtain ⟨nblocks, hnb, hf3⟩ := Option.bind_eq_some_iff.mp hf3
  cases hf3
  have hpre : ∀ y ∈ blocks, ∃ a ∈ s3.term.blocks,
      (fun b : Term Pcode.Blk => (addLoadDefs p.pointerSize b.term).bind fun r => some (⟨b.tid, r⟩ : Term Pcode.Blk)) a = some y := by
    intro y hy
    have hy' := hsub y hy
    simp only at hy'
    split at hy'
    · cases hy'
    · exact (mapOpt_some _ _ _ hnb).2 y hy'
  obtain ⟨pbs, hp1, hp2⟩ := mapOpt_preimage _ s3.term.blocks blocks hpre
  exact ⟨s3, hs3, rfl, rfl, pbs, hp2, liftBlocks_compose pbs hp1 hir hb1⟩

/-- **C11-program.** Every block of the program produced by `parse_pcode_project_to_ir_project`
(`normalize` + `into_ir_project`) is the lifting `liftBlk` — the subject of `liftBlk_sim` — of the P-Code
block with the same term identifier, in the function with the same term identifier. -/
theorem liftProject_blocks {p : Pcode.Project} {prog : Program} (h : liftProject p = some prog) :
    ∀ s ∈ prog.subs, ∀ ib ∈ s.term.blocks,
      ∃ ps ∈ p.program.subs, ps.tid = s.tid ∧ ∃ pb ∈ ps.term.blocks, pb.tid = ib.tid ∧
        liftBlk p.registerProperties p.pointerSize pb.term = some ib.term := by
  intro s hs ib hib
  obtain ⟨ps, hps, htid, _, pbs, hsub, hl⟩ := liftProject_subs h s hs
  obtain ⟨pb, hpb, hf⟩ := (mapOpt_some _ _ _ hl).2 ib hib
  simp only [Option.bind_eq_bind, Option.bind_eq_some_iff, Option.some.injEq] at hf
  obtain ⟨b', hb', rfl⟩ := hf
  exact ⟨ps, hps, htid, pb, hsub pb hpb, rfl, hb'⟩

end CweModel.C11
