/-
C11 — expression layer: raw lifted IR is read with register variables denoting bytes of their base register
(`evalA`, `execDefA`); `replace_input_subregister` turns that reading into plain IR evaluation over base
registers (`Sem.eval`).
-/
import CweModel.C11.PropsState

namespace CweModel.C11
open CweModel CweModel.IR CweModel.Sem CweModel.Gen.PcodeOps CweModel.C11.Lift

/-- one step followed by the rest of a list, with accumulated events -/
theorem bind_pair_iff {α β γ : Type} {x : Option (α × List γ)} {f : α → Option (β × List γ)} {b : β} {ev : List γ} :
    (x.bind fun p => (f p.1).bind fun q => some (q.1, p.2 ++ q.2)) = some (b, ev) ↔
      ∃ a e₁ e₂, x = some (a, e₁) ∧ f a = some (b, e₂) ∧ ev = e₁ ++ e₂ := by
  constructor
  · intro h
    obtain ⟨⟨a, e₁⟩, h₁, h⟩ := Option.bind_eq_some_iff.mp h
    obtain ⟨⟨b', e₂⟩, h₂, h⟩ := Option.bind_eq_some_iff.mp h
    cases h
    exact ⟨a, e₁, e₂, h₁, h₂, rfl⟩
  · rintro ⟨a, e₁, e₂, h₁, h₂, rfl⟩
    rw [h₁, Option.bind_some, h₂, Option.bind_some]

/-- read a register variable of raw IR like the P-Code varnode it came from -/
def readVarA (tbl : RegTable) (σ : State) (v : Variable) : Option Bv :=
  if v.isTemp then some (σ.getReg v) else (regLoc tbl v.name v.size).map (readLoc σ)

/-- `Sem.eval`, but register variables denote bytes of their base register -/
abbrev evalA (tbl : RegTable) (σ : State) (e : Expression) : Option Bv := evalWith (readVarA tbl σ) σ.seed e

def writeVarA (tbl : RegTable) (σ : State) (v : Variable) (x : Bv) : Option State :=
  if x.w != 8 * v.size then none
  else if v.isTemp then some (σ.setReg v x)
  else (regLoc tbl v.name v.size).map (fun l => writeLoc σ l x)

def execDefA (tbl : RegTable) (σ : State) : Def → Option (State × List Event)
  | .Assign v e => do
    let x ← evalA tbl σ e
    let σ' ← writeVarA tbl σ v x
    some (σ', [])
  | .Load v a => do
    let addr ← evalA tbl σ a
    let val := σ.readMem addr.toNat v.size
    let σ' ← writeVarA tbl σ v (Bv.ofBytes v.size val)
    some (σ', [.load addr.toNat v.size val])
  | .Store a e => do
    let addr ← evalA tbl σ a
    let x ← evalA tbl σ e
    some (σ.writeMem addr.toNat x.bytes x.toNat, [.store addr.toNat x.bytes x.toNat])

def execDefsA (tbl : RegTable) (σ : State) : List (Term Def) → Option (State × List Event)
  | [] => some (σ, [])
  | d :: ds => do
    let (σ₁, e₁) ← execDefA tbl σ d.term
    let (σ₂, e₂) ← execDefsA tbl σ₁ ds
    some (σ₂, e₁ ++ e₂)

theorem execDefsA_cons_iff {tbl : RegTable} {σ σ' : State} {d : Term Def} {ds : List (Term Def)} {ev : List Event} :
    execDefsA tbl σ (d :: ds) = some (σ', ev) ↔ ∃ σ₁ e₁ e₂, execDefA tbl σ d.term = some (σ₁, e₁) ∧
      execDefsA tbl σ₁ ds = some (σ', e₂) ∧ ev = e₁ ++ e₂ :=
  bind_pair_iff (x := execDefA tbl σ d.term) (f := fun s => execDefsA tbl s ds)

theorem execDefA_assign {tbl : RegTable} {σ σ' : State} {v : Variable} {e : Expression} {ev : List Event} :
    execDefA tbl σ (.Assign v e) = some (σ', ev) ↔
      ∃ x, evalA tbl σ e = some x ∧ writeVarA tbl σ v x = some σ' ∧ ev = [] := by
  simp only [execDefA, Option.bind_eq_bind, Option.bind_eq_some_iff, Option.some.injEq, Prod.mk.injEq]
  exact ⟨fun ⟨x, hx, s, hs, h, he⟩ => ⟨x, hx, h ▸ hs, he.symm⟩, fun ⟨x, hx, hs, he⟩ => ⟨x, hx, σ', hs, rfl, he.symm⟩⟩

theorem execDefA_load {tbl : RegTable} {σ σ' : State} {v : Variable} {a : Expression} {ev : List Event} :
    execDefA tbl σ (.Load v a) = some (σ', ev) ↔
      ∃ addr, evalA tbl σ a = some addr ∧
        writeVarA tbl σ v (Bv.ofBytes v.size (σ.readMem addr.toNat v.size)) = some σ' ∧
        ev = [.load addr.toNat v.size (σ.readMem addr.toNat v.size)] := by
  simp only [execDefA, Option.bind_eq_bind, Option.bind_eq_some_iff, Option.some.injEq, Prod.mk.injEq]
  exact ⟨fun ⟨x, hx, s, hs, h, he⟩ => ⟨x, hx, h ▸ hs, he.symm⟩, fun ⟨x, hx, hs, he⟩ => ⟨x, hx, σ', hs, rfl, he.symm⟩⟩

theorem execDefA_store {tbl : RegTable} {σ σ' : State} {a e : Expression} {ev : List Event} :
    execDefA tbl σ (.Store a e) = some (σ', ev) ↔
      ∃ addr x, evalA tbl σ a = some addr ∧ evalA tbl σ e = some x ∧
        σ' = σ.writeMem addr.toNat x.bytes x.toNat ∧ ev = [.store addr.toNat x.bytes x.toNat] := by
  simp only [execDefA, Option.bind_eq_bind, Option.bind_eq_some_iff, Option.some.injEq, Prod.mk.injEq]
  exact ⟨fun ⟨a, ha, x, hx, h, he⟩ => ⟨a, x, ha, hx, h.symm, he.symm⟩,
    fun ⟨a, x, ha, hx, h, he⟩ => ⟨a, ha, x, hx, h.symm, he.symm⟩⟩

def ExprOk (tbl : RegTable) (e : Expression) : Prop :=
  ∀ v ∈ e.inputVars, 0 < v.size ∧ (v.isTemp = true → regGet tbl v.name = none)

/-- variables of raw IR as the lifting of in-domain P-Code produces them -/
structure VarOkA (tbl : RegTable) (v : Variable) : Prop where
  size_pos : 0 < v.size
  temp_fresh : v.isTemp = true → regGet tbl v.name = none
  not_lift : ¬ IsLoadedValue v
  fits : ∀ r, v.isTemp = false → regGet tbl v.name = some r → v.size ≤ r.size

def ExprOkA (tbl : RegTable) (e : Expression) : Prop := ∀ v ∈ e.inputVars, VarOkA tbl v

def DefOkA (tbl : RegTable) : Def → Prop
  | .Assign v e => VarOkA tbl v ∧ ExprOkA tbl e
  | .Load v a => VarOkA tbl v ∧ ExprOkA tbl a
  | .Store a e => ExprOkA tbl a ∧ ExprOkA tbl e

theorem ExprOkA.exprOk {tbl : RegTable} {e : Expression} (h : ExprOkA tbl e) : ExprOk tbl e :=
  fun v hv => ⟨(h v hv).size_pos, (h v hv).temp_fresh⟩

variable {T : Variable → Prop}

theorem readVarA_congr (hT : ∀ u, T u → u.isTemp = true) {tbl : RegTable} {σ ρ : State} (h : Agree T σ ρ)
    {v : Variable} (hv : ¬ T v) : readVarA tbl σ v = readVarA tbl ρ v := by
  simp only [readVarA, h.regs v hv]
  cases hl : regLoc tbl v.name v.size with
  | none => simp only [Option.map_none]
  | some l => simp only [Option.map_some, readLoc, h.regs l.base (not_of_nontemp hT (regLoc_base_nontemp hl))]

theorem evalA_congr (hT : ∀ u, T u → u.isTemp = true) {tbl : RegTable} {σ ρ : State} (h : Agree T σ ρ)
    (e : Expression) (he : ∀ v ∈ e.inputVars, ¬ T v) : evalA tbl σ e = evalA tbl ρ e := by
  rw [evalA, h.seed]
  exact evalWith_congr _ e fun v hv => readVarA_congr hT h (he v hv)

/-- **C11-subpiece.** What reading a variable under aliasing amounts to, by the replacement
`replace_input_subregister` has for it: a variable that is not replaced is read as it stands (a temporary, a register
unknown to the table, a full base register); a replaced one is `create_subpiece_from_sub_register` of its base register,
which reads exactly the bytes `[lsb, lsb+size)`, and base registers are never replaced. -/
theorem replacement_sound {tbl : RegTable} (ht : tableOk tbl = true) {σ : State} (hσ : WellTyped σ)
    (v : Variable) (hv : 0 < v.size) (hvt : v.isTemp = true → regGet tbl v.name = none) {x : Bv}
    (h : readVarA tbl σ v = some x) :
    (replacementFor tbl v = some none ∧ σ.getReg v = x) ∨
    ∃ r, replacementFor tbl v = some (some (v, r)) ∧ eval σ r = some x ∧
      ∀ u ∈ r.inputVars, replacementFor tbl u = some none := by
  unfold readVarA at h
  by_cases htmp : v.isTemp = true
  · -- temporaries are left alone
    rw [if_pos htmp] at h
    exact .inl ⟨by simp only [replacementFor, hvt htmp], Option.some.inj h⟩
  · rw [if_neg htmp] at h
    obtain ⟨l, hl, rfl⟩ := Option.map_eq_some_iff.mp h
    rcases subregister_cases ht v with ⟨hrep, _, hloc⟩ | ⟨r, b, hs⟩
    · -- a register of its own
      cases hloc l hl
      rw [readLoc, show (⟨v.name, v.size, false⟩ : Variable) = v by rw [← Bool.eq_false_iff.mpr htmp],
        extractBytes_full _ _ (hσ v)]
      exact .inl ⟨hrep, rfl⟩
    · -- replaced by a SUBPIECE of the base register
      rw [hs.loc] at hl
      split at hl
      · next hin =>
        cases hl
        refine .inr ⟨_, hs.input, ?_, fun u hu => List.mem_singleton.mp hu ▸ hs.base⟩
        simp only [eval, Option.bind_eq_bind, Option.bind_some]
        rw [subpieceOp_bytes (hσ _) hin hv]
        rfl
      · cases hl

def ExprReads (tbl : RegTable) (σ : State) (vs : List Variable) : Prop :=
  ∀ v ∈ vs, 0 < v.size ∧ (v.isTemp = true → regGet tbl v.name = none) ∧ (readVarA tbl σ v).isSome = true

/-- **C11-substitution.** `replace_input_subregister` (collect the replacement pairs of the input variables, then
substitute them one after the other): by the substitution lemma each step moves the replacement into the reading of
its variable; a replacement only mentions a base register, which no step changes, so it keeps its value. -/
theorem foldl_substStep_eval {tbl : RegTable} (ht : tableOk tbl = true) {σ : State} (hσ : WellTyped σ) :
    ∀ (vs : List Variable), ExprReads tbl σ vs →
      ∃ pairs, mapOpt (replacementFor tbl) vs = some pairs ∧ ∀ e : Expression, ∃ rd : Variable → Option Bv,
        (∀ w, replacementFor tbl w = some none → rd w = some (σ.getReg w)) ∧
        (∀ v ∈ vs, rd v = readVarA tbl σ v) ∧ eval σ (pairs.foldl substStep e) = evalWith rd σ.seed e := by
  intro vs
  induction vs with
  | nil => exact fun _ => ⟨[], rfl, fun e => ⟨_, fun _ _ => rfl, fun _ h => (nomatch h), eval_eq_evalWith σ e⟩⟩
  | cons v vs ih =>
    intro hvs
    obtain ⟨⟨hv, hvt, hrd⟩, hvs'⟩ := List.forall_mem_cons.mp hvs
    obtain ⟨ps, hps, hfold⟩ := ih hvs'
    obtain ⟨x, hx⟩ := Option.isSome_iff_exists.mp hrd
    rcases replacement_sound ht hσ v hv hvt hx with ⟨hrep, hreg⟩ | ⟨r, hrep, hr, hfix⟩
    · refine ⟨none :: ps, mapOpt_cons_iff.mpr ⟨_, _, hrep, hps, rfl⟩, fun e => ?_⟩
      obtain ⟨rd, h1, h2, h3⟩ := hfold e
      exact ⟨rd, h1, List.forall_mem_cons.mpr ⟨by rw [h1 v hrep, hreg, hx], h2⟩, h3⟩
    · refine ⟨some (v, r) :: ps, mapOpt_cons_iff.mpr ⟨_, _, hrep, hps, rfl⟩, fun e => ?_⟩
      obtain ⟨rd, h1, h2, h3⟩ := hfold (e.substVar v r)
      have hrv : evalWith rd σ.seed r = some x := by
        rw [evalWith_congr _ r fun u hu => h1 u (hfix u hu), ← eval_eq_evalWith, hr]
      refine ⟨_, fun w hw => ?_, List.forall_mem_cons.mpr ⟨?_, fun u hu => ?_⟩,
        h3.trans (evalWith_substVar rd σ.seed v r e)⟩
      · rw [if_neg fun e => by rw [e, hrep] at hw; cases hw]; exact h1 w hw
      · rw [if_pos rfl, hrv, hx]
      · split
        · next e => rw [e, hrv, hx]
        · exact h2 u hu

/-- after `replace_input_subregister` an expression evaluates over BASE registers to the value it has when every
register variable denotes the bytes `[lsb, lsb+size)` of its base register -/
theorem replaceInput_sound {tbl : RegTable} (ht : tableOk tbl = true) {σ : State} (hσ : WellTyped σ)
    {e : Expression} (hok : ExprOk tbl e) {x : Bv} (h : evalA tbl σ e = some x) :
    ∃ e', replaceInputSubregister tbl e = some e' ∧ eval σ e' = some x := by
  obtain ⟨pairs, hp, hfold⟩ := foldl_substStep_eval ht hσ e.inputVars fun v hv =>
    ⟨(hok v hv).1, (hok v hv).2, evalWith_reads h v hv⟩
  obtain ⟨rd, _, h2, h3⟩ := hfold e
  exact ⟨_, by simp only [replaceInputSubregister, hp, Option.bind_eq_bind, Option.bind_some],
    h3.trans ((evalWith_congr _ e h2).trans h)⟩

/-- **C11-input.** `replace_input_subregister` preserves the value of an expression: evaluated over
base registers (in any state that agrees up to the temporary `loaded_value`) it yields the value the raw
expression has under register aliasing. -/
theorem input_sound {tbl : RegTable} (ht : tableOk tbl = true) {σ ρ : State} (hag : Agree IsLoadedValue σ ρ) (hρ : WellTyped ρ)
    {e : Expression} (hok : ExprOkA tbl e) {x : Bv} (h : evalA tbl σ e = some x) :
    ∃ e', replaceInputSubregister tbl e = some e' ∧ eval ρ e' = some x :=
  replaceInput_sound ht hρ hok.exprOk
    (evalA_congr (fun _ h => h.1) hag e (fun v hv => (hok v hv).not_lift) ▸ h)

end CweModel.C11
