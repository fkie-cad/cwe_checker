/-
C11 — instruction lists through the layers `normalize` and `into_ir_def` (`normDefs_sim`, `rawDefs_sim`), and the jumps of a
block: the P-Code jump is taken over to the IR state (`JmpShape.exec_congr`) and translated there (`shape_lift`).
-/
import CweModel.C11.PropsNorm
import CweModel.C11.PropsJmp
import CweModel.C11.PropsDef
set_option linter.unusedVariables false
namespace CweModel.C11
open CweModel CweModel.IR CweModel.Sem CweModel.Gen.PcodeOps CweModel.C11.Lift

variable {T : Variable → Prop}

/-- **C11-normalize (instruction lists).** -/
theorem normDefs_sim {tbl : RegTable} (ht : tableOk tbl = true) {ptr : Nat} (hp0 : 0 < ptr) :
    ∀ (ds : List (Term Pcode.Def)) {σ τ σ' : State} {ev : List Event},
      (∀ d ∈ ds, defOk tbl d.term = true) → Agree IsLoadTemp σ τ → σ.ptrBytes = ptr →
      execDefs tbl σ ds = some (σ', ev) →
      ∃ nss τ', mapOpt (addLoadsDef ptr) ds = some nss ∧ execDefs tbl τ nss.flatten = some (τ', ev) ∧
        Agree IsLoadTemp σ' τ' ∧ (∀ d' ∈ nss.flatten, defOkN tbl d'.term = true) ∧ σ'.ptrBytes = ptr := by
  intro ds
  induction ds with
  | nil => intro σ τ σ' ev _ hag hptr hx; cases hx; exact ⟨[], τ, rfl, rfl, hag, fun _ h => (List.not_mem_nil h).elim, hptr⟩
  | cons d ds ih =>
    intro σ τ σ' ev hok hag hptr hx
    obtain ⟨σ₁, e₁, e₂, hd, hr, rfl⟩ := execDefs_cons_iff.mp hx
    obtain ⟨ns, τ₁, h1, h2, h3, h4⟩ := addLoads_sim ht hp0 hptr hag d (hok d List.mem_cons_self) hd
    obtain ⟨nss, τ₂, g1, g2, g3, g4, g5⟩ :=
      ih (fun d' hd' => hok d' (List.mem_cons_of_mem _ hd')) h3 ((execDef_ptr hd).trans hptr) hr
    refine ⟨ns :: nss, τ₂, mapOpt_cons_iff.mpr ⟨ns, nss, h1, g1, rfl⟩, execDefs_append h2 g2, g3, ?_, g5⟩
    intro d' hd'
    rcases List.mem_append.mp hd' with hd' | hd'
    · exact h4 d' hd'
    · exact g4 d' hd'

/-- **C11-def (instruction lists).** -/
theorem rawDefs_sim {tbl : RegTable} {ptr : Nat} :
    ∀ (nds : List (Term Pcode.Def)) {τ τ' : State} {ev : List Event},
      (∀ d ∈ nds, defOkN tbl d.term = true) → τ.ptrBytes = ptr → execDefs tbl τ nds = some (τ', ev) →
      ∃ raw, rawDefs ptr nds = some raw ∧ execDefsA tbl τ raw = some (τ', ev) ∧ ∀ r ∈ raw, DefOkA tbl r.term := by
  intro nds
  induction nds with
  | nil => intro τ τ' ev _ _ hx; cases hx; exact ⟨[], rfl, rfl, fun _ h => (List.not_mem_nil h).elim⟩
  | cons d ds ih =>
    intro τ τ' ev hok hptr hx
    obtain ⟨τ₁, e₁, e₂, hd, hr, rfl⟩ := execDefs_cons_iff.mp hx
    obtain ⟨d', h1, h2, h3⟩ := defToIr_sim ptr hptr (hok d List.mem_cons_self) hd
    obtain ⟨raw, g1, g2, g3⟩ :=
      ih (fun d' hd' => hok d' (List.mem_cons_of_mem _ hd')) ((execDef_ptr hd).trans hptr) hr
    refine ⟨⟨d.tid, d'⟩ :: raw, mapOpt_cons_iff.mpr ⟨_, raw, by rw [h1]; rfl, g1, rfl⟩,
      execDefsA_cons_iff.mpr ⟨τ₁, e₁, e₂, h2, g2, rfl⟩, ?_⟩
    intro r hr'
    rcases List.mem_cons.mp hr' with rfl | hr'
    · exact h3
    · exact g3 r hr'

/-- **C11-operand.** A register / temporary / constant operand of a jump (or instruction): the lifted and
sub-register-substituted expression evaluates, over base registers, to the value of the varnode. -/
theorem operand_sound {tbl : RegTable} (ht : tableOk tbl = true) {ρ : State} (hρ : WellTyped ρ) {v : Pcode.Var}
    (hok : varOkN tbl v = true) (hnr : v.isRam = false) {x : Bv} {e : List Event}
    (h : readVar tbl ρ v = some (x, e)) :
    e = [] ∧ ∃ ex ex', varToIrExpr v = some ex ∧ replaceInputSubregister tbl ex = some ex' ∧ eval ρ ex' = some x := by
  obtain ⟨he, ex, h1, h2, h3⟩ := readVar_A hok hnr h
  obtain ⟨ex', g1, g2⟩ := replaceInput_sound ht hρ h3.exprOk h2
  exact ⟨he, ex, ex', h1, g1, g2⟩

def JmpOkN (tbl : RegTable) (T : Variable → Prop) (j : Pcode.Jmp) : Prop :=
  ∀ v, jmpOperand j = some v → varOkN tbl v = true ∧ v.isRam = false ∧ VarAvoids T v

theorem sem_call (env : Env) (ρ : State) (c : Nat) (tid t : Tid) (r : Option Tid) (irest : List (Term Jmp)) :
    Sem.execJmps env ρ c (⟨tid, .Call t r⟩ :: irest)
      = afterCall env ρ c tid.id (.call tid.id t.id (ρ.snapshot env.physRegs)) r := by
  cases r <;> rfl

theorem sem_callOther (env : Env) (ρ : State) (c : Nat) (tid : Tid) (d : String) (r : Option Tid)
    (irest : List (Term Jmp)) :
    Sem.execJmps env ρ c (⟨tid, .CallOther d r⟩ :: irest)
      = afterCall env ρ c tid.id (.callOther tid.id d (ρ.snapshot env.physRegs)) r := by
  cases r <;> rfl

theorem sem_callInd (env : Env) {ρ : State} (c : Nat) (tid : Tid) {e : Expression} {x : Bv} (h : eval ρ e = some x)
    (r : Option Tid) (irest : List (Term Jmp)) :
    Sem.execJmps env ρ c (⟨tid, .CallInd e r⟩ :: irest)
      = afterCall env ρ c tid.id (.callInd tid.id x.toNat (ρ.snapshot env.physRegs)) r := by
  rw [Sem.execJmps]
  simp only [h]
  cases r <;> rfl

/-- the translation of one jump, in front of already lifted ones: run from the SAME state, the IR interpreter on the
lifted jump yields what the P-Code interpreter yields on the jump -/
theorem shape_lift {tbl : RegTable} (ht : tableOk tbl = true) (env : Env) {ρ : State} (hρ : WellTyped ρ)
    (c : Nat) (tid : Tid) (s : JmpShape) (hok : ∀ v, s.operand = some v → varOkN tbl v = true ∧ v.isRam = false)
    (irest : List (Term Jmp)) {p : List Event × Next}
    (hx : s.exec tbl env ρ c tid (some (Sem.execJmps env ρ c irest)) = some p) :
    ∃ ij, s.toIr.bind (replaceSubregisterInJump tbl) = some ij ∧ Sem.execJmps env ρ c (⟨tid, ij⟩ :: irest) = p := by
  -- a shape that reads its operand `v`
  have hread : ∀ v, s.operand = some v → ∀ {x e}, readVar tbl ρ v = some (x, e) →
      e = [] ∧ ∃ ex ex', varToIrExpr v = some ex ∧ replaceInputSubregister tbl ex = some ex' ∧ eval ρ ex' = some x :=
    fun v hv _ _ hr => operand_sound ht hρ (hok v hv).1 (hok v hv).2 hr
  cases s with
  | branch t => cases hx; exact ⟨.Branch t, rfl, rfl⟩
  | call t r => cases hx; exact ⟨.Call t r, rfl, sem_call env ρ c tid t r irest⟩
  | callOther d r => cases hx; exact ⟨.CallOther d r, rfl, sem_callOther env ρ c tid d r irest⟩
  | cbranch t v =>
    simp only [JmpShape.exec, Option.bind_eq_bind, Option.bind_eq_some_iff] at hx
    obtain ⟨⟨x, e⟩, hr, hx⟩ := hx
    obtain ⟨rfl, ex, ex', g1, g2, g3⟩ := hread v rfl hr
    refine ⟨.CBranch t ex', by simp only [JmpShape.toIr, g1, replaceSubregisterInJump, g2, Option.bind_eq_bind,
      Option.bind_some], ?_⟩
    simp only [Sem.execJmps, g3]
    split at hx
    · next hc => cases hx; rw [if_pos hc]
    · next hc => cases hx; rw [if_neg hc]; rfl
  | branchInd v =>
    simp only [JmpShape.exec, Option.bind_eq_bind, Option.bind_eq_some_iff] at hx
    obtain ⟨⟨x, e⟩, hr, hx⟩ := hx
    cases hx
    obtain ⟨rfl, ex, ex', g1, g2, g3⟩ := hread v rfl hr
    exact ⟨.BranchInd ex', by simp only [JmpShape.toIr, g1, replaceSubregisterInJump, g2, Option.bind_eq_bind,
      Option.bind_some], by simp only [Sem.execJmps, g3, List.nil_append]⟩
  | ret v =>
    simp only [JmpShape.exec, Option.bind_eq_bind, Option.bind_eq_some_iff] at hx
    obtain ⟨⟨x, e⟩, hr, hx⟩ := hx
    cases hx
    obtain ⟨rfl, ex, ex', g1, g2, g3⟩ := hread v rfl hr
    exact ⟨.Return ex', by simp only [JmpShape.toIr, g1, replaceSubregisterInJump, g2, Option.bind_eq_bind,
      Option.bind_some], by simp only [Sem.execJmps, g3, List.nil_append]⟩
  | callInd v r =>
    simp only [JmpShape.exec, Option.bind_eq_bind, Option.bind_eq_some_iff] at hx
    obtain ⟨⟨x, e⟩, hr, hx⟩ := hx
    cases hx
    obtain ⟨rfl, ex, ex', g1, g2, g3⟩ := hread v rfl hr
    exact ⟨.CallInd ex' r, by simp only [JmpShape.toIr, g1, replaceSubregisterInJump, g2, Option.bind_eq_bind,
      Option.bind_some], by rw [sem_callInd env c tid g3]; rfl⟩

/-- one lifted jump in front of already lifted ones: the IR interpreter decides like the P-Code interpreter. The
P-Code jump is moved to the IR state (`JmpShape.exec_congr`) and translated there (`shape_lift`). -/
theorem shape_sim {tbl : RegTable} (ht : tableOk tbl = true) (hT : ∀ u, T u → u.isTemp = true)
    (env : Env) (hphys : ∀ v ∈ env.physRegs, ¬ T v) {σ ρ : State} (hag : Agree T σ ρ) (hρ : WellTyped ρ)
    (c : Nat) (tid : Tid) (s : JmpShape)
    (hok : ∀ v, s.operand = some v → varOkN tbl v = true ∧ v.isRam = false ∧ VarAvoids T v)
    {rest : Option (List Event × Next)} {irest : List (Term Jmp)}
    (hrest : ResAgree T rest (some (Sem.execJmps env ρ c irest)))
    {p : List Event × Next} (hx : s.exec tbl env σ c tid rest = some p) :
    ∃ ij n', s.toIr.bind (replaceSubregisterInJump tbl) = some ij ∧
      Sem.execJmps env ρ c (⟨tid, ij⟩ :: irest) = (p.1, n') ∧ NextAgree T p.2 n' := by
  obtain ⟨n', h1, h2⟩ := s.exec_congr hT env hphys hag c tid hrest (fun v hv => (hok v hv).2.2) p hx
  obtain ⟨ij, g1, g2⟩ := shape_lift ht env hρ c tid s (fun v hv => ⟨(hok v hv).1, (hok v hv).2.1⟩) irest h1
  exact ⟨ij, n', g1, g2, h2⟩

/-- behind the last jump both interpreters report a dead end -/
theorem nil_sim {tbl : RegTable} (env : Env) (hphys : ∀ v ∈ env.physRegs, ¬ T v) {σ ρ : State} (hag : Agree T σ ρ)
    (c : Nat) : ResAgree T (execJmps tbl env σ c []) (some (Sem.execJmps env ρ c [])) := by
  intro p hx
  cases hx
  exact ⟨.stop, by simp only [Sem.execJmps, snapshot_agree hag env.physRegs hphys], .stop⟩

/-- an indirect jump or call through a RAM varnode `v` whose value has been loaded into `w` beforehand (state `τ`):
the lifted jump through `w` decides like the P-Code jump through `v` -/
theorem ram_shape_sim {tbl : RegTable} (ht : tableOk tbl = true) (env : Env)
    (hphys : ∀ v ∈ env.physRegs, v.isTemp = false) {σ τ ρ : State} (hag : Agree IsLoadTemp σ τ)
    (hagρ : Agree IsLoadedValue τ ρ) (hρ : WellTyped ρ) (c : Nat) (tid : Tid) {s : JmpShape} {v w : Pcode.Var}
    (hs : s = .branchInd v ∨ ∃ r, s = .callInd v r) {x : Bv} {e : List Event}
    (hr : readVar tbl σ v = some (x, e)) (hw : readVar tbl τ w = some (x, []))
    (hwok : varOkN tbl w = true ∧ w.isRam = false ∧ VarAvoids IsLoadedValue w)
    {p : List Event × Next} (hx : s.exec tbl env σ c tid (execJmps tbl env σ c []) = some p) :
    ∃ ij ev' n', (s.setOperand w).toIr.bind (replaceSubregisterInJump tbl) = some ij ∧
      Sem.execJmps env ρ c [⟨tid, ij⟩] = (ev', n') ∧ e ++ ev' = p.1 ∧
      NextAgree (fun u => IsLoadTemp u ∨ IsLoadedValue u) p.2 n' := by
  have hphysL : ∀ u ∈ env.physRegs, ¬ IsLoadTemp u := fun u hu => not_of_nontemp (fun _ h => h.1) (hphys u hu)
  have hphysV : ∀ u ∈ env.physRegs, ¬ IsLoadedValue u := fun u hu => not_of_nontemp (fun _ h => h.1) (hphys u hu)
  have hsn := snapshot_agree hag env.physRegs hphysL
  -- the jump through `w`, from `τ` to `ρ`
  have key : ∀ {s' : JmpShape} {q : List Event × Next}, s'.operand = some w →
      s'.exec tbl env τ c tid (execJmps tbl env τ c []) = some q →
      ∃ ij n', s'.toIr.bind (replaceSubregisterInJump tbl) = some ij ∧
        Sem.execJmps env ρ c [⟨tid, ij⟩] = (q.1, n') ∧ NextAgree IsLoadedValue q.2 n' :=
    fun hop hq => shape_sim ht (fun _ h => h.1) env hphysV hagρ hρ c tid _
      (fun u hu => Option.some.inj (hop.symm.trans hu) ▸ hwok) (nil_sim env hphysV hagρ c) hq
  rcases hs with rfl | ⟨r, rfl⟩
  · simp only [JmpShape.exec, hr, Option.bind_eq_bind, Option.bind_some, Option.some.injEq] at hx
    subst hx
    obtain ⟨ij, n', h1, h2, h3⟩ := key (s' := .branchInd w)
      (q := ([.jumpInd tid.id x.toNat (τ.snapshot env.physRegs)], .stop)) rfl
      (by simp only [JmpShape.exec, hw, Option.bind_eq_bind, Option.bind_some]; rfl)
    exact ⟨ij, _, n', h1, h2, by rw [hsn], h3.mono fun _ => Or.inr⟩
  · simp only [JmpShape.exec, hr, Option.bind_eq_bind, Option.bind_some, Option.some.injEq] at hx
    subst hx
    obtain ⟨n'', ha1, ha2⟩ :=
      afterCall_agree env hphysL hag c tid.id (.callInd tid.id x.toNat (σ.snapshot env.physRegs)) r
    obtain ⟨ij, n', h1, h2, h3⟩ := key (s' := .callInd w r)
      (q := ((afterCall env σ c tid.id (.callInd tid.id x.toNat (σ.snapshot env.physRegs)) r).1, n'')) rfl
      (by simp only [JmpShape.exec, hw, Option.bind_eq_bind, Option.bind_some, ← hsn, ha1]; rfl)
    exact ⟨ij, _, n', h1, h2, rfl, ha2.trans h3⟩

/-- the jump `j` of P-Code in front of `rest`, whose lifting `irest` decides like `rest` -/
theorem step_sim {tbl : RegTable} (ht : tableOk tbl = true) (hT : ∀ u, T u → u.isTemp = true)
    (env : Env) (hphys : ∀ v ∈ env.physRegs, ¬ T v) {σ ρ : State} (hag : Agree T σ ρ) (hρ : WellTyped ρ)
    (j : Term Pcode.Jmp) (hok : JmpOkN tbl T j.term) (c : Nat) {rest : List (Term Pcode.Jmp)} {irest : List (Term Jmp)}
    (hrest : ResAgree T (execJmps tbl env σ c rest) (some (Sem.execJmps env ρ c irest)))
    {ev : List Event} {n : Next} (hx : execJmps tbl env σ c (j :: rest) = some (ev, n)) :
    ∃ ij n', liftJmp tbl j = some ij ∧ Sem.execJmps env ρ c (ij :: irest) = (ev, n') ∧ NextAgree T n n' := by
  rw [execJmps_cons] at hx
  obtain ⟨s, hs, hx⟩ := Option.bind_eq_some_iff.mp hx
  obtain ⟨ij, n', h1, h2, h3⟩ := shape_sim ht hT env hphys hag hρ c j.tid s (jmpOperand_eq hs ▸ hok) hrest hx
  exact ⟨⟨j.tid, ij⟩, n', liftJmp_of_shape hs h1, h2, h3⟩

theorem single_sim {tbl : RegTable} (ht : tableOk tbl = true) (hT : ∀ u, T u → u.isTemp = true)
    (env : Env) (hphys : ∀ v ∈ env.physRegs, ¬ T v) {σ ρ : State} (hag : Agree T σ ρ) (hρ : WellTyped ρ)
    (j : Term Pcode.Jmp) (hnc : j.term.mnemonic ≠ .CBRANCH) (hok : JmpOkN tbl T j.term) (c : Nat)
    {ev : List Event} {n : Next} (hx : execJmps tbl env σ c [j] = some (ev, n)) :
    ∃ ij n', liftJmp tbl j = some ij ∧ Sem.execJmps env ρ c [ij] = (ev, n') ∧ NextAgree T n n' :=
  step_sim ht hT env hphys hag hρ j hok c (nil_sim env hphys hag c) hx

/-- a conditional branch followed by the fall-through branch the plugin adds -/
theorem cbranch_sim {tbl : RegTable} (ht : tableOk tbl = true) (hT : ∀ u, T u → u.isTemp = true)
    (env : Env) (hphys : ∀ v ∈ env.physRegs, ¬ T v) {σ ρ : State} (hag : Agree T σ ρ) (hρ : WellTyped ρ)
    (cj bj : Term Pcode.Jmp) (hmc : cj.term.mnemonic = .CBRANCH) (hmb : bj.term.mnemonic = .BRANCH)
    {t₂ : Tid} (hbg : bj.term.goto = some (.Direct t₂))
    (hok : JmpOkN tbl T cj.term) (c : Nat)
    {ev : List Event} {n : Next} (hx : execJmps tbl env σ c [cj, bj] = some (ev, n)) :
    ∃ ic ib n', liftJmp tbl cj = some ic ∧ liftJmp tbl bj = some ib ∧
      Sem.execJmps env ρ c [ic, ib] = (ev, n') ∧ NextAgree T n n' := by
  have hlb : liftJmp tbl bj = some ⟨bj.tid, .Branch t₂⟩ := by
    simp [liftJmp, jmpToIr, hmb, hbg, labelDirect, replaceSubregisterInJump]
  have hb : ResAgree T (execJmps tbl env σ c [bj]) (some (Sem.execJmps env ρ c [⟨bj.tid, .Branch t₂⟩])) := by
    intro p hp
    obtain ⟨ib, n', h1, h2, h3⟩ := step_sim ht hT env hphys hag hρ bj
      (fun v hv => by simp [jmpOperand, hmb] at hv) c (nil_sim env hphys hag c) (ev := p.1) (n := p.2) hp
    cases hlb.symm.trans h1
    exact ⟨n', congrArg some h2, h3⟩
  obtain ⟨ic, n', h1, h2, h3⟩ := step_sim ht hT env hphys hag hρ cj hok c hb hx
  exact ⟨ic, _, n', h1, hlb, h2, h3⟩

end CweModel.C11
