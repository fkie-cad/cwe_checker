/-
C11 — layer `into_ir_def`: normalized P-Code instructions (no RAM inputs) and their lifted raw IR defs
have exactly the same effect (`defToIr_sim`).
-/
import CweModel.C11.PropsExpr
import CweModel.C11.PropsTables

namespace CweModel.C11
open CweModel CweModel.IR CweModel.Sem CweModel.Gen.PcodeOps CweModel.C11.Lift

theorem readOpt_some_iff {tbl : RegTable} {σ : State} {v : Pcode.Var} {a : Option Bv} {e : List Event} :
    readOpt tbl σ (some v) = some (a, e) ↔ ∃ x, readVar tbl σ v = some (x, e) ∧ a = some x := by
  simp only [readOpt, Option.bind_eq_bind, Option.bind_eq_some_iff, Option.some.injEq, Prod.mk.injEq, Prod.exists]
  exact ⟨fun ⟨x, e', h, ha, he⟩ => ⟨x, he ▸ h, ha.symm⟩, fun ⟨x, h, ha⟩ => ⟨x, e, h, ha.symm, rfl⟩⟩

theorem execDef_eq (tbl : RegTable) (σ : State) (d : Pcode.Def) :
    execDef tbl σ d = (readOpt tbl σ d.rhs.input0).bind fun p₀ => (readOpt tbl σ d.rhs.input1).bind fun p₁ =>
      (readOpt tbl σ d.rhs.input2).bind fun p₂ => (compute d p₀.1 p₁.1 p₂.1).bind fun act =>
      (perform tbl σ act).bind fun q => some (q.1, p₀.2 ++ p₁.2 ++ p₂.2 ++ q.2) := rfl

theorem execDef_iff {tbl : RegTable} {σ σ' : State} {d : Pcode.Def} {ev : List Event} :
    execDef tbl σ d = some (σ', ev) ↔ ∃ a₀ e₀ a₁ e₁ a₂ e₂ act e,
      readOpt tbl σ d.rhs.input0 = some (a₀, e₀) ∧ readOpt tbl σ d.rhs.input1 = some (a₁, e₁) ∧
      readOpt tbl σ d.rhs.input2 = some (a₂, e₂) ∧ compute d a₀ a₁ a₂ = some act ∧
      perform tbl σ act = some (σ', e) ∧ ev = e₀ ++ e₁ ++ e₂ ++ e := by
  rw [execDef_eq]
  constructor
  · intro h
    obtain ⟨⟨a₀, e₀⟩, h₀, h⟩ := Option.bind_eq_some_iff.mp h
    obtain ⟨⟨a₁, e₁⟩, h₁, h⟩ := Option.bind_eq_some_iff.mp h
    obtain ⟨⟨a₂, e₂⟩, h₂, h⟩ := Option.bind_eq_some_iff.mp h
    obtain ⟨act, hc, h⟩ := Option.bind_eq_some_iff.mp h
    obtain ⟨⟨s, e⟩, hp, h⟩ := Option.bind_eq_some_iff.mp h
    cases h
    exact ⟨a₀, e₀, a₁, e₁, a₂, e₂, act, e, h₀, h₁, h₂, hc, hp, rfl⟩
  · rintro ⟨a₀, e₀, a₁, e₁, a₂, e₂, act, e, h₀, h₁, h₂, hc, hp, rfl⟩
    rw [h₀, Option.bind_some, h₁, Option.bind_some, h₂, Option.bind_some, hc, Option.bind_some, hp, Option.bind_some]

theorem execDefs_cons_iff {tbl : RegTable} {σ σ' : State} {d : Term Pcode.Def} {ds : List (Term Pcode.Def)}
    {ev : List Event} :
    execDefs tbl σ (d :: ds) = some (σ', ev) ↔ ∃ σ₁ e₁ e₂, execDef tbl σ d.term = some (σ₁, e₁) ∧
      execDefs tbl σ₁ ds = some (σ', e₂) ∧ ev = e₁ ++ e₂ :=
  bind_pair_iff (x := execDef tbl σ d.term) (f := fun s => execDefs tbl s ds)

theorem execDefs_one {tbl : RegTable} {τ τ' : State} {d : Term Pcode.Def} {e : List Event}
    (h : execDef tbl τ d.term = some (τ', e)) : execDefs tbl τ [d] = some (τ', e) :=
  execDefs_cons_iff.mpr ⟨τ', e, [], h, rfl, (List.append_nil e).symm⟩

theorem execDefs_append {tbl : RegTable} {τ₁ τ₂ : State} {b : List (Term Pcode.Def)} {e₂ : List Event} :
    ∀ {a : List (Term Pcode.Def)} {τ : State} {e₁ : List Event}, execDefs tbl τ a = some (τ₁, e₁) →
      execDefs tbl τ₁ b = some (τ₂, e₂) → execDefs tbl τ (a ++ b) = some (τ₂, e₁ ++ e₂)
  | [], _, _, h₁, h₂ => by cases h₁; exact h₂
  | d :: ds, _, _, h₁, h₂ => by
    obtain ⟨τa, ea, eb, hd, hds, rfl⟩ := execDefs_cons_iff.mp h₁
    exact execDefs_cons_iff.mpr ⟨τa, ea, eb ++ e₂, hd, execDefs_append hds h₂, List.append_assoc _ _ _⟩

theorem writeVar_cases {tbl : RegTable} {σ σ' : State} {out : Pcode.Var} {x : Bv} {ev : List Event}
    (h : writeVar tbl σ out x = some (σ', ev)) :
    x.w = 8 * out.size ∧
    ((∃ n l, out.kind = .reg n ∧ regLoc tbl n out.size = some l ∧ σ' = writeLoc σ l x ∧ ev = []) ∨
     (∃ n, out.kind = .tmp n ∧ σ' = σ.setReg ⟨n, out.size, true⟩ x ∧ ev = []) ∨
     (∃ a, out.kind = .ram a ∧ σ' = σ.writeMem (σ.wrapAddr a) out.size x.toNat ∧
        ev = [.store (σ.wrapAddr a) out.size x.toNat])) := by
  unfold writeVar at h
  split at h
  · cases h
  next hw =>
  refine ⟨by simpa using hw, ?_⟩
  split at h
  · simp only [Option.bind_eq_bind, Option.bind_eq_some_iff, Option.some.injEq, Prod.mk.injEq] at h
    obtain ⟨l, hl, rfl, rfl⟩ := h
    exact .inl ⟨_, l, ‹_›, hl, rfl, rfl⟩
  · cases h; exact .inr (.inl ⟨_, ‹_›, rfl, rfl⟩)
  · cases h; exact .inr (.inr ⟨_, ‹_›, rfl, rfl⟩)
  · cases h
  · cases h

theorem writeVar_ptr {tbl : RegTable} {σ σ' : State} {out : Pcode.Var} {x : Bv} {ev : List Event}
    (h : writeVar tbl σ out x = some (σ', ev)) : σ'.ptrBytes = σ.ptrBytes := by
  obtain ⟨_, ⟨_, _, _, _, rfl, _⟩ | ⟨_, _, rfl, _⟩ | ⟨_, _, rfl, _⟩⟩ := writeVar_cases h
  · rfl
  · rfl
  · exact ptrBytes_writeMem _ _ _ _

theorem execDef_ptr {tbl : RegTable} {σ σ' : State} {d : Pcode.Def} {ev : List Event}
    (h : execDef tbl σ d = some (σ', ev)) : σ'.ptrBytes = σ.ptrBytes := by
  obtain ⟨_, _, _, _, _, _, act, e, _, _, _, _, hp, _⟩ := execDef_iff.mp h
  cases act with
  | write out x => exact writeVar_ptr hp
  | store addr x => cases hp; exact ptrBytes_writeMem _ _ _ _
  | load out addr =>
    simp only [perform, Option.bind_eq_bind, Option.bind_eq_some_iff, Option.some.injEq, Prod.mk.injEq,
      Prod.exists] at hp
    obtain ⟨σw, ew, hw, rfl, _⟩ := hp
    exact writeVar_ptr hw

/-- a varnode of NORMALIZED P-Code (after `add_load_defs_for_implicit_ram_access`): like `varOk`, but
the `$load_temp` temporaries may occur -/
def varOkN (tbl : RegTable) (v : Pcode.Var) : Bool :=
  decide (0 < v.size) &&
  match v.kind with
  | .bad => false
  | .reg n => (regLoc tbl n v.size).isSome &&
              (match regGet tbl n with | some r => decide (v.size ≤ r.size) | none => true)
  | .tmp n => n != "loaded_value" && (regGet tbl n).isNone
  | .const _ => true
  | .ram _ => true

theorem varOk_varOkN {tbl : RegTable} {v : Pcode.Var} (h : varOk tbl v = true) : varOkN tbl v = true := by
  unfold varOk at h
  unfold varOkN
  cases hk : v.kind <;> simp [hk] at h ⊢
  · exact ⟨h.1, h.2.1.2, h.2.2⟩
  · refine ⟨h.1, ?_, h.2.2⟩
    intro e; apply h.2.1; rw [e]; simp [liftTempNames]
  · exact h
  · exact h

def inOkN (tbl : RegTable) (v : Option Pcode.Var) : Bool :=
  match v with
  | some v => varOkN tbl v && !v.isRam
  | none => true

/-- the operands the mnemonic needs are present (as in `defOk`) -/
def kindOkN (tbl : RegTable) (d : Pcode.Def) : Bool :=
  match opKind d.rhs.mnemonic with
  | .load => (match d.lhs with | some o => varOkN tbl o && !o.isRam | none => false) && d.rhs.input1.isSome
  | .store => d.rhs.input1.isSome && d.rhs.input2.isSome
  | k =>
    (match d.lhs with | some o => varOkN tbl o | none => false) && d.rhs.input0.isSome &&
    (match k with
     | .bin _ => d.rhs.input1.isSome
     | .subpiece => (match d.rhs.input1 with | some c => subpieceOffsetOk c | none => false)
     | _ => true)

/-- an instruction of normalized P-Code: no RAM inputs any more -/
def defOkN (tbl : RegTable) (d : Pcode.Def) : Bool :=
  inOkN tbl d.rhs.input0 && inOkN tbl d.rhs.input1 && inOkN tbl d.rhs.input2 && kindOkN tbl d

theorem varOkN_reg {tbl : RegTable} {v : Pcode.Var} {n : String} (hok : varOkN tbl v = true) (hk : v.kind = .reg n) :
    VarOkA tbl ⟨n, v.size, false⟩ := by
  simp only [varOkN, hk, Bool.and_eq_true, decide_eq_true_eq] at hok
  refine ⟨hok.1, fun h => Bool.noConfusion h, fun h => Bool.noConfusion h.1, fun r _ hr => ?_⟩
  have := hok.2.2
  rw [show regGet tbl n = some r from hr] at this
  exact of_decide_eq_true this

theorem varOkN_tmp {tbl : RegTable} {v : Pcode.Var} {n : String} (hok : varOkN tbl v = true) (hk : v.kind = .tmp n) :
    VarOkA tbl ⟨n, v.size, true⟩ := by
  simp only [varOkN, hk, Bool.and_eq_true, decide_eq_true_eq, bne_iff_ne, ne_eq, Option.isNone_iff_eq_none] at hok
  exact ⟨hok.1, fun _ => hok.2.2, fun hl => hok.2.1 hl.2, fun r hr => Bool.noConfusion hr⟩

theorem ofBytes_mod (s x : Nat) : Bv.ofBytes s (x % 2 ^ (8 * s)) = Bv.ofBytes s x :=
  Bv.ext_nat rfl (by rw [Bv.ofBytes_toNat, Bv.ofBytes_toNat, Nat.mod_mod])

theorem readVar_A {tbl : RegTable} {σ : State} {v : Pcode.Var} (hok : varOkN tbl v = true) (hnr : v.isRam = false)
    {x : Bv} {ev : List Event} (h : readVar tbl σ v = some (x, ev)) :
    ev = [] ∧ ∃ e, varToIrExpr v = some e ∧ evalA tbl σ e = some x ∧ ExprOkA tbl e := by
  unfold readVar at h
  cases hk : v.kind with
  | bad => simp [hk] at h
  | ram a => simp [Pcode.Var.isRam, hk] at hnr
  | reg n =>
    simp only [hk, Option.bind_eq_bind, Option.bind_eq_some_iff, Option.some.injEq, Prod.mk.injEq] at h
    obtain ⟨l, hl, rfl, rfl⟩ := h
    refine ⟨rfl, _, varToIrExpr_reg hk, ?_, fun u hu => List.mem_singleton.mp hu ▸ varOkN_reg hok hk⟩
    simp only [evalA, evalWith, readVarA, Bool.false_eq_true, if_false, hl, Option.map_some]
  | tmp n =>
    simp only [hk, Option.some.injEq, Prod.mk.injEq] at h
    obtain ⟨rfl, rfl⟩ := h
    exact ⟨rfl, _, varToIrExpr_tmp hk, rfl, fun u hu => List.mem_singleton.mp hu ▸ varOkN_tmp hok hk⟩
  | const c =>
    simp only [hk, Option.some.injEq, Prod.mk.injEq] at h
    obtain ⟨rfl, rfl⟩ := h
    exact ⟨rfl, _, varToIrExpr_const hk, congrArg some (ofBytes_mod _ _), fun u hu => (List.not_mem_nil hu).elim⟩

theorem writeVar_A {tbl : RegTable} {σ : State} {out : Pcode.Var} (hok : varOkN tbl out = true)
    (hnr : out.isRam = false) {x : Bv} {σ' : State} {ev : List Event}
    (h : writeVar tbl σ out x = some (σ', ev)) :
    ev = [] ∧ out.address = none ∧ ∃ v, varToIrVar out = some v ∧ writeVarA tbl σ v x = some σ' ∧ VarOkA tbl v := by
  obtain ⟨hw, ⟨n, l, hk, hl, rfl, rfl⟩ | ⟨n, hk, rfl, rfl⟩ | ⟨a, hk, _⟩⟩ := writeVar_cases h
  · refine ⟨rfl, (kind_reg hk).2.2.1, _, varToIrVar_reg hk, ?_, varOkN_reg hok hk⟩
    simp only [writeVarA, hw, bne_self_eq_false, Bool.false_eq_true, if_false, hl, Option.map_some]
  · refine ⟨rfl, (kind_tmp hk).2.2.1, _, varToIrVar_tmp hk, ?_, varOkN_tmp hok hk⟩
    simp only [writeVarA, hw, bne_self_eq_false, Bool.false_eq_true, if_false, if_true]
  · simp [Pcode.Var.isRam, hk] at hnr

/-- the common tail of `Def::into_ir_def`: assign the value expression to the target variable, or store it
at the constant address of a RAM target -/
theorem finish_def {tbl : RegTable} {σ : State} (ptr : Nat) (hptr : σ.ptrBytes = ptr) {out : Pcode.Var}
    (hok : varOkN tbl out = true) {ve : Expression} {r : Bv} (hve : evalA tbl σ ve = some r)
    (hvok : ExprOkA tbl ve) {σ' : State} {ev : List Event} (h : writeVar tbl σ out r = some (σ', ev)) :
    ∃ d', (if out.address.isSome then (do some (Def.Store (← parseAddress out ptr) ve))
            else (do some (Def.Assign (← varToIrVar out) ve))) = some d' ∧
      execDefA tbl σ d' = some (σ', ev) ∧ DefOkA tbl d' := by
  by_cases hr : out.isRam = true
  · -- RAM target: a store at the constant address
    obtain ⟨hw, ⟨_, _, hk, _⟩ | ⟨_, hk, _⟩ | ⟨a, hk, rfl, rfl⟩⟩ := writeVar_cases h
    · simp [Pcode.Var.isRam, hk] at hr
    · simp [Pcode.Var.isRam, hk] at hr
    obtain ⟨_, _, s, h3, hs⟩ := kind_ram hk
    refine ⟨.Store (.Const ptr (a % 2 ^ (8 * ptr))) ve, by simp [h3, parseAddress, hs],
      execDefA_store.mpr ⟨_, r, rfl, hve, ?_, ?_⟩, And.intro (fun u hu => (List.not_mem_nil hu).elim) hvok⟩ <;>
    · rw [Bv.ofBytes_toNat, Nat.mod_mod, Bv.bytes_of_w hw]
      simp only [State.wrapAddr, hptr]
  · obtain ⟨rfl, hadr, v, hv1, hv2, hv3⟩ := writeVar_A hok (Bool.eq_false_iff.mpr hr) h
    exact ⟨.Assign v ve, by simp [hadr, hv1], execDefA_assign.mpr ⟨r, hve, hv2, rfl⟩, hv3, hvok⟩

theorem exists_of_match_some {o : Option Pcode.Var} {p : Pcode.Var → Bool}
    (h : (match o with | some o => p o | none => false) = true) : ∃ v, o = some v ∧ p v = true := by
  cases o with
  | none => cases h
  | some v => exact ⟨v, rfl, h⟩

theorem readOpt_A {tbl : RegTable} {σ : State} {v : Pcode.Var} (h : inOkN tbl (some v) = true)
    {a : Option Bv} {ev : List Event} (hr : readOpt tbl σ (some v) = some (a, ev)) :
    ev = [] ∧ ∃ x e, a = some x ∧ varToIrExpr v = some e ∧ evalA tbl σ e = some x ∧ ExprOkA tbl e := by
  simp only [inOkN, Bool.and_eq_true, Bool.not_eq_true'] at h
  obtain ⟨x, hrv, rfl⟩ := readOpt_some_iff.mp hr
  obtain ⟨he, ex, h1, h2, h3⟩ := readVar_A h.1 h.2 hrv
  exact ⟨he, x, ex, rfl, h1, h2, h3⟩

theorem readOpt_events {tbl : RegTable} {σ : State} {o : Option Pcode.Var} (h : inOkN tbl o = true)
    {a : Option Bv} {ev : List Event} (hr : readOpt tbl σ o = some (a, ev)) : ev = [] := by
  cases o with
  | none => cases hr; rfl
  | some v => exact (readOpt_A h hr).1

/-- the value-producing instructions (COPY, SUBPIECE, the operation tables): the value `compute` writes is the
value of the expression `Def::into_ir_def` builds from the lifted operands -/
theorem value_sim {tbl : RegTable} {σ : State} {d : Pcode.Def} {a₀ a₁ a₂ : Option Bv} {act : Action}
    (hi₀ : ∀ v, d.rhs.input0 = some v →
      ∃ x e, a₀ = some x ∧ varToIrExpr v = some e ∧ evalA tbl σ e = some x ∧ ExprOkA tbl e)
    (hi₁ : ∀ v, d.rhs.input1 = some v →
      ∃ x e, a₁ = some x ∧ varToIrExpr v = some e ∧ evalA tbl σ e = some x ∧ ExprOkA tbl e)
    (hnl : opKind d.rhs.mnemonic ≠ .load) (hns : opKind d.rhs.mnemonic ≠ .store)
    (hkind : kindOkN tbl d = true)
    (hc : compute d a₀ a₁ a₂ = some act) (ptr : Nat) :
    ∃ out r ve, d.lhs = some out ∧ varOkN tbl out = true ∧ act = .write out r ∧ evalA tbl σ ve = some r ∧
      ExprOkA tbl ve ∧
      defToIr ptr d = (if out.address.isSome then (do some (Def.Store (← parseAddress out ptr) ve))
        else (do some (Def.Assign (← varToIrVar out) ve))) := by
  unfold compute at hc
  unfold kindOkN at hkind
  cases hk : opKind d.rhs.mnemonic with
  | load => exact absurd hk hnl
  | store => exact absurd hk hns
  | copy =>
    simp only [hk, Bool.and_eq_true] at hkind hc
    obtain ⟨out, hout, hoo⟩ := exists_of_match_some hkind.1.1
    obtain ⟨i₀, hi0⟩ := Option.isSome_iff_exists.mp hkind.1.2
    obtain ⟨a, ea, rfl, hea1, hea2, hea3⟩ := hi₀ i₀ hi0
    simp only [hout, Option.bind_eq_bind, Option.bind_some, Option.some.injEq] at hc
    obtain ⟨h1, h2⟩ := arms_copy hk
    exact ⟨out, a, ea, hout, hoo, hc.symm, hea2, hea3, by
      simp only [defToIr, h1, hout, Option.bind_eq_bind, Option.bind_some, exprToIr, h2, hi0, hea1]⟩
  | subpiece =>
    simp only [hk, Bool.and_eq_true] at hkind hc
    obtain ⟨out, hout, hoo⟩ := exists_of_match_some hkind.1.1
    obtain ⟨i₀, hi0⟩ := Option.isSome_iff_exists.mp hkind.1.2
    obtain ⟨c, hcc, hcok⟩ := exists_of_match_some hkind.2
    obtain ⟨a, ea, rfl, hea1, hea2, hea3⟩ := hi₀ i₀ hi0
    simp only [hout, hcc, Option.bind_eq_bind, Option.bind_some, Option.bind_eq_some_iff, Option.some.injEq] at hc
    obtain ⟨low, hlow, r, hres, rfl⟩ := hc
    exact ⟨out, r, .Subpiece low out.size ea, hout, hoo, rfl,
      by simp only [evalA, evalWith, hea2, Option.bind_eq_bind, Option.bind_some, hres], hea3, by
      simp only [defToIr, arms_subpiece hk, hout, Option.bind_eq_bind, Option.bind_some, hcc, hi0,
        subpiece_offset hcok hlow, hea1]⟩
  | bin op =>
    simp only [hk, Bool.and_eq_true] at hkind hc
    obtain ⟨out, hout, hoo⟩ := exists_of_match_some hkind.1.1
    obtain ⟨i₀, hi0⟩ := Option.isSome_iff_exists.mp hkind.1.2
    obtain ⟨i₁, hi1⟩ := Option.isSome_iff_exists.mp hkind.2
    obtain ⟨a, ea, rfl, hea1, hea2, hea3⟩ := hi₀ i₀ hi0
    obtain ⟨b, eb, rfl, heb1, heb2, heb3⟩ := hi₁ i₁ hi1
    simp only [hout, Option.bind_eq_bind, Option.bind_some, Option.bind_eq_some_iff, Option.some.injEq] at hc
    obtain ⟨r, hres, rfl⟩ := hc
    obtain ⟨h1, h2, h3⟩ := arms_bin hk
    exact ⟨out, r, .BinOp op ea eb, hout, hoo, rfl,
      by simp only [evalA, evalWith, hea2, heb2, Option.bind_eq_bind, Option.bind_some, hres],
      fun u hu => (List.mem_append.mp hu).elim (hea3 u) (heb3 u), by
      simp only [defToIr, h1, hout, Option.bind_eq_bind, Option.bind_some, exprToIr, h2, h3, hi0, hi1, hea1, heb1]⟩
  | un op =>
    simp only [hk, Bool.and_eq_true] at hkind hc
    obtain ⟨out, hout, hoo⟩ := exists_of_match_some hkind.1.1
    obtain ⟨i₀, hi0⟩ := Option.isSome_iff_exists.mp hkind.1.2
    obtain ⟨a, ea, rfl, hea1, hea2, hea3⟩ := hi₀ i₀ hi0
    simp only [hout, Option.bind_eq_bind, Option.bind_some, Option.bind_eq_some_iff, Option.some.injEq] at hc
    obtain ⟨r, hres, rfl⟩ := hc
    obtain ⟨h1, h2, h3⟩ := arms_un hk
    exact ⟨out, r, .UnOp op ea, hout, hoo, rfl,
      by simp only [evalA, evalWith, hea2, Option.bind_eq_bind, Option.bind_some, hres], hea3, by
      simp only [defToIr, h1, hout, Option.bind_eq_bind, Option.bind_some, exprToIr, h2, h3, hi0, hea1]⟩
  | cast op =>
    simp only [hk, Bool.and_eq_true] at hkind hc
    obtain ⟨out, hout, hoo⟩ := exists_of_match_some hkind.1.1
    obtain ⟨i₀, hi0⟩ := Option.isSome_iff_exists.mp hkind.1.2
    obtain ⟨a, ea, rfl, hea1, hea2, hea3⟩ := hi₀ i₀ hi0
    simp only [hout, Option.bind_eq_bind, Option.bind_some, Option.bind_eq_some_iff, Option.some.injEq] at hc
    obtain ⟨r, hres, rfl⟩ := hc
    obtain ⟨h1, h2⟩ := arms_cast hk
    exact ⟨out, r, .Cast op out.size ea, hout, hoo, rfl,
      by simp only [evalA, evalWith, hea2, Option.bind_eq_bind, Option.bind_some, hres], hea3, by
      simp only [defToIr, h1, hout, Option.bind_eq_bind, Option.bind_some, h2, hi0, hea1]⟩

/-- **C11-def (layer `into_ir_def`).** One instruction of normalized P-Code (no RAM inputs) and its lifted
raw IR def (register variables still aliasing) have exactly the same effect. -/
theorem defToIr_sim {tbl : RegTable} {σ : State} (ptr : Nat) (hptr : σ.ptrBytes = ptr) {d : Pcode.Def}
    (hok : defOkN tbl d = true) {σ' : State} {ev : List Event} (hx : execDef tbl σ d = some (σ', ev)) :
    ∃ d', defToIr ptr d = some d' ∧ execDefA tbl σ d' = some (σ', ev) ∧ DefOkA tbl d' := by
  unfold defOkN at hok
  simp only [Bool.and_eq_true] at hok
  obtain ⟨⟨⟨hi₀, hi₁⟩, hi₂⟩, hkind⟩ := hok
  obtain ⟨a₀, e₀, a₁, e₁, a₂, e₂, act, ep, hr₀, hr₁, hr₂, hc, hp, rfl⟩ := execDef_iff.mp hx
  cases readOpt_events hi₀ hr₀
  cases readOpt_events hi₁ hr₁
  cases readOpt_events hi₂ hr₂
  have hA₀ := fun v (hv : d.rhs.input0 = some v) => (readOpt_A (hv ▸ hi₀) (hv ▸ hr₀)).2
  have hA₁ := fun v (hv : d.rhs.input1 = some v) => (readOpt_A (hv ▸ hi₁) (hv ▸ hr₁)).2
  have hA₂ := fun v (hv : d.rhs.input2 = some v) => (readOpt_A (hv ▸ hi₂) (hv ▸ hr₂)).2
  simp only [List.append_nil, List.nil_append]
  cases hk : opKind d.rhs.mnemonic with
  | load =>
    simp only [kindOkN, hk, Bool.and_eq_true] at hkind
    obtain ⟨out, hout, hoo⟩ := exists_of_match_some hkind.1
    obtain ⟨p, hp1⟩ := Option.isSome_iff_exists.mp hkind.2
    obtain ⟨addr, ea, rfl, hea1, hea2, hea3⟩ := hA₁ p hp1
    simp only [compute, hk, hout, Option.bind_eq_bind, Option.bind_some, Option.some.injEq] at hc
    subst hc
    simp only [Bool.and_eq_true, Bool.not_eq_true'] at hoo
    simp only [perform, Option.bind_eq_bind, Option.bind_eq_some_iff, Option.some.injEq, Prod.mk.injEq,
      Prod.exists] at hp
    obtain ⟨σw, ew, hw, rfl, rfl⟩ := hp
    obtain ⟨rfl, _, v, hv1, hv2, hv3⟩ := writeVar_A hoo.1 hoo.2 hw
    refine ⟨.Load v ea, by simp only [defToIr, arms_load hk, hout, hp1, hv1, hea1, Option.bind_eq_bind,
      Option.bind_some], execDefA_load.mpr ⟨addr, hea2, ?_, ?_⟩, hv3, hea3⟩ <;> rw [varToIrVar_size hv1]
    exact hv2
  | store =>
    simp only [kindOkN, hk, Bool.and_eq_true] at hkind
    obtain ⟨p, hp1⟩ := Option.isSome_iff_exists.mp hkind.1
    obtain ⟨vv, hvv⟩ := Option.isSome_iff_exists.mp hkind.2
    obtain ⟨addr, ea, rfl, hea1, hea2, hea3⟩ := hA₁ p hp1
    obtain ⟨x, ex, rfl, hex1, hex2, hex3⟩ := hA₂ vv hvv
    simp only [compute, hk, Option.bind_eq_bind, Option.bind_some, Option.some.injEq] at hc
    subst hc
    simp only [perform, Option.some.injEq, Prod.mk.injEq] at hp
    obtain ⟨rfl, rfl⟩ := hp
    exact ⟨.Store ea ex, by simp only [defToIr, arms_store hk, hp1, hvv, hea1, hex1, Option.bind_eq_bind,
      Option.bind_some], execDefA_store.mpr ⟨addr, x, hea2, hex2, rfl, rfl⟩, hea3, hex3⟩
  | copy | subpiece | bin _ | un _ | cast _ =>
    obtain ⟨out, r, ve, _, hoo, rfl, hve, hvok, hd⟩ :=
      value_sim hA₀ hA₁ (by rw [hk]; exact fun h => nomatch h) (by rw [hk]; exact fun h => nomatch h) hkind hc ptr
    rw [hd]
    exact finish_def ptr hptr hoo hve hvok hp

end CweModel.C11
