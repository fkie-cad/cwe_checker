/-
C11 — the jumps of a block under the P-Code interpreter. With the jump taken apart into the fields its mnemonic uses
(`jmpShape`, LiftCases.lean) the interpreter is a function of the shape (`execJmps_cons`), and every statement about the
execution of jumps is proved by cases on the seven shapes.
-/
import CweModel.C11.PropsNorm

namespace CweModel.C11
open CweModel CweModel.IR CweModel.Sem CweModel.Gen.PcodeOps CweModel.C11.Lift

variable {T : Variable → Prop}

/-- events and decision of a call: without a return target the trace ends -/
def afterCall (env : Env) (σ : State) (calls : Nat) (site : String) (ev : Event) : Option Tid → List Event × Next
  | none => ([ev, .deadEnd (σ.snapshot env.physRegs)], .stop)
  | some rt => ([ev], .goto rt (havoc σ env.physRegs env.sp site calls) (calls + 1))

/-- one jump of the P-Code interpreter; `rest` is the outcome of the jumps behind it -/
def JmpShape.exec (tbl : RegTable) (env : Env) (σ : State) (calls : Nat) (tid : Tid)
    (rest : Option (List Event × Next)) : JmpShape → Option (List Event × Next)
  | .branch t => some ([], .goto t σ calls)
  | .cbranch t v => do
    let (c, e) ← readVar tbl σ v
    if c.toNat != 0 then some (e, .goto t σ calls)
    else do
      let (e', n) ← rest
      some (e ++ e', n)
  | .branchInd v => do
    let (x, e) ← readVar tbl σ v
    some (e ++ [.jumpInd tid.id x.toNat (σ.snapshot env.physRegs)], .stop)
  | .call t r => some (afterCall env σ calls tid.id (.call tid.id t.id (σ.snapshot env.physRegs)) r)
  | .callInd v r => do
    let (x, e) ← readVar tbl σ v
    let (e', n) := afterCall env σ calls tid.id (.callInd tid.id x.toNat (σ.snapshot env.physRegs)) r
    some (e ++ e', n)
  | .callOther d r => some (afterCall env σ calls tid.id (.callOther tid.id d (σ.snapshot env.physRegs)) r)
  | .ret v => do
    let (x, e) ← readVar tbl σ v
    some (e ++ [.ret x.toNat (σ.snapshot env.physRegs)], .stop)

/-- With every field the mnemonic uses taken apart, both sides compute to the same term. -/
theorem execJmps_cons (tbl : RegTable) (env : Env) (σ : State) (c : Nat) (j : Term Pcode.Jmp)
    (rest : List (Term Pcode.Jmp)) :
    execJmps tbl env σ c (j :: rest) =
      (jmpShape j.term).bind (JmpShape.exec tbl env σ c j.tid (execJmps tbl env σ c rest)) := by
  rw [execJmps]
  generalize execJmps tbl env σ c rest = R
  obtain ⟨tid, ⟨m, goto, call, cond, hints⟩⟩ := j
  cases m
  · rcases goto with _ | ⟨t | w⟩ <;> rfl
  · rcases goto with _ | ⟨t | w⟩ <;> rcases cond with _ | v <;> rfl
  · rcases goto with _ | ⟨t | v⟩ <;> rfl
  · rcases call with _ | ⟨_ | ⟨t | v⟩, _ | ⟨r | w⟩, cs⟩ <;> rfl
  · rcases call with _ | ⟨_ | ⟨t | v⟩, _ | ⟨r | w⟩, cs⟩ <;>
      first | rfl | exact (show (readVar tbl σ v).bind _ = none by cases readVar tbl σ v <;> rfl)
  · rcases call with _ | ⟨tg, _ | ⟨r | w⟩, _ | cs⟩ <;> rfl
  · rcases goto with _ | ⟨t | v⟩ <;> rfl

/-! ### P-Code jumps only depend on the registers they mention -/

def ResAgree (T : Variable → Prop) (r r' : Option (List Event × Next)) : Prop :=
  ∀ p, r = some p → ∃ n', r' = some (p.1, n') ∧ NextAgree T p.2 n'

theorem afterCall_agree (env : Env) (hphys : ∀ v ∈ env.physRegs, ¬ T v) {σ ρ : State} (h : Agree T σ ρ)
    (c : Nat) (site : String) (ev : Event) (r : Option Tid) :
    ∃ n', afterCall env ρ c site ev r = ((afterCall env σ c site ev r).1, n') ∧
      NextAgree T (afterCall env σ c site ev r).2 n' := by
  cases r with
  | none => exact ⟨.stop, by simp only [afterCall, snapshot_agree h _ hphys], .stop⟩
  | some rt => exact ⟨_, rfl, .goto (havoc_agree h _ _ _ _)⟩

theorem JmpShape.exec_congr (hT : ∀ u, T u → u.isTemp = true) {tbl : RegTable} (env : Env)
    (hphys : ∀ v ∈ env.physRegs, ¬ T v) {σ ρ : State} (h : Agree T σ ρ) (c : Nat) (tid : Tid)
    {rest rest' : Option (List Event × Next)} (hrest : ResAgree T rest rest') (s : JmpShape)
    (hs : OptAvoids T s.operand) :
    ResAgree T (s.exec tbl env σ c tid rest) (s.exec tbl env ρ c tid rest') := by
  intro p hx
  have hsnap := snapshot_agree h env.physRegs hphys
  cases s with
  | branch t => cases hx; exact ⟨_, rfl, .goto h⟩
  | call t r =>
    cases hx
    obtain ⟨n', h1, h2⟩ := afterCall_agree env hphys h c tid.id (.call tid.id t.id (σ.snapshot env.physRegs)) r
    rw [JmpShape.exec, ← hsnap]
    exact ⟨n', congrArg some h1, h2⟩
  | callOther d r =>
    cases hx
    obtain ⟨n', h1, h2⟩ := afterCall_agree env hphys h c tid.id (.callOther tid.id d (σ.snapshot env.physRegs)) r
    rw [JmpShape.exec, ← hsnap]
    exact ⟨n', congrArg some h1, h2⟩
  | cbranch t v =>
    simp only [JmpShape.exec, Option.bind_eq_bind, Option.bind_eq_some_iff] at hx
    obtain ⟨⟨x, e⟩, hr, hx⟩ := hx
    rw [JmpShape.exec, ← readVar_congr hT h (hs v rfl), hr]
    simp only [Option.bind_eq_bind, Option.bind_some] at hx ⊢
    split at hx
    · next hc => cases hx; exact ⟨_, if_pos hc, .goto h⟩
    · next hc =>
      simp only [Option.bind_eq_some_iff] at hx
      obtain ⟨⟨e', n₀⟩, hr', hx⟩ := hx
      cases hx
      obtain ⟨n', h1, h2⟩ := hrest _ hr'
      exact ⟨n', by rw [if_neg hc, h1]; rfl, h2⟩
  | branchInd v | ret v =>
    simp only [JmpShape.exec, Option.bind_eq_bind, Option.bind_eq_some_iff] at hx
    obtain ⟨⟨x, e⟩, hr, hx⟩ := hx
    cases hx
    rw [JmpShape.exec, ← readVar_congr hT h (hs v rfl), hr, ← hsnap]
    exact ⟨_, rfl, .stop⟩
  | callInd v r =>
    simp only [JmpShape.exec, Option.bind_eq_bind, Option.bind_eq_some_iff] at hx
    obtain ⟨⟨x, e⟩, hr, hx⟩ := hx
    cases hx
    obtain ⟨n', h1, h2⟩ := afterCall_agree env hphys h c tid.id (.callInd tid.id x.toNat (σ.snapshot env.physRegs)) r
    rw [JmpShape.exec, ← readVar_congr hT h (hs v rfl), hr, ← hsnap]
    exact ⟨n', by simp only [Option.bind_eq_bind, Option.bind_some, h1], h2⟩

def JmpAvoids (T : Variable → Prop) (j : Pcode.Jmp) : Prop := ∀ v, jmpOperand j = some v → VarAvoids T v

theorem execJmps_congr (hT : ∀ u, T u → u.isTemp = true) {tbl : RegTable} (env : Env)
    (hphys : ∀ v ∈ env.physRegs, ¬ T v) {σ ρ : State} (h : Agree T σ ρ) :
    ∀ (js : List (Term Pcode.Jmp)) (c : Nat) {ev : List Event} {n : Next}, (∀ j ∈ js, JmpAvoids T j.term) →
      execJmps tbl env σ c js = some (ev, n) →
      ∃ n', execJmps tbl env ρ c js = some (ev, n') ∧ NextAgree T n n' := by
  intro js c ev n hav hx
  suffices ∀ js : List (Term Pcode.Jmp), (∀ j ∈ js, JmpAvoids T j.term) →
      ResAgree T (execJmps tbl env σ c js) (execJmps tbl env ρ c js) from this js hav (ev, n) hx
  clear hav hx
  intro js
  induction js with
  | nil =>
    intro _ p hx
    cases hx
    exact ⟨.stop, by simp only [execJmps, snapshot_agree h _ hphys], .stop⟩
  | cons j rest ih =>
    intro hav
    rw [execJmps_cons, execJmps_cons]
    cases hs : jmpShape j.term with
    | none => exact fun _ hx => nomatch hx
    | some s =>
      exact s.exec_congr hT env hphys h c j.tid (ih fun j' hj' => hav j' (List.mem_cons_of_mem _ hj'))
        (jmpOperand_eq hs ▸ hav j List.mem_cons_self)

end CweModel.C11
