/-
C11 — the generated mnemonic tables (`Gen.PcodeOps`, extracted from pcode/expressions.rs and pcode/term.rs)
are total and agree with the P-Code reference meaning of every mnemonic.
-/
import CweModel.C11.Lift

namespace CweModel.C11
open CweModel CweModel.IR CweModel.Sem CweModel.Gen.PcodeOps CweModel.C11.Lift

/-- what the lifting code does with a mnemonic, read off the GENERATED tables: the arm of
`Def::into_ir_def`, then the arm of `From<Expression>`, then the operation table; `none` = panic -/
def liftedKind (m : ExpressionType) : Option OpKind :=
  match defArm m with
  | .load => some .load
  | .store => some .store
  | .subpiece => some .subpiece
  | .cast => (castMap m).map .cast
  | .panic => none
  | .expr =>
    match exprArm m with
    | .copy => some .copy
    | .binOp => (binOpMap m).map .bin
    | .unOp => (unOpMap m).map .un
    | .panic => none

/-- the one sweep over the generated enum: what the tables do with a mnemonic is what the P-Code manual says it
means, and only mnemonics that `Def::into_ir_def` hands to `From<Expression>` have an arm there -/
theorem tables_sweep (m : ExpressionType) :
    liftedKind m = some (opKind m) ∧ (exprArm m = .panic ∨ defArm m = .expr) := by
  cases m <;> exact ⟨rfl, by decide⟩

/-- **C11-tables.** The mnemonic → IR-operation tables extracted from `pcode/expressions.rs` and
`pcode/term.rs` are TOTAL (no mnemonic reaches a `panic!()` arm) and SEMANTICS-PRESERVING: every mnemonic is
lifted to the IR operation that the P-Code reference semantics (`opKind`, PcodeSem.lean) gives it.
Complete case distinction over the generated enum, re-checked whenever the tables change. -/
theorem liftedKind_eq_opKind (m : ExpressionType) : liftedKind m = some (opKind m) := (tables_sweep m).1

/-- **C11-tables (totality, spelled out).** -/
theorem binOpMap_total (m : ExpressionType) (h : exprArm m = .binOp) : (binOpMap m).isSome := by
  have hd : defArm m = .expr := (tables_sweep m).2.resolve_left (by rw [h]; exact fun e => nomatch e)
  have := liftedKind_eq_opKind m
  simp only [liftedKind, hd, h] at this
  exact Option.isSome_map ▸ Option.isSome_of_eq_some this
theorem unOpMap_total (m : ExpressionType) (h : exprArm m = .unOp) : (unOpMap m).isSome := by
  have hd : defArm m = .expr := (tables_sweep m).2.resolve_left (by rw [h]; exact fun e => nomatch e)
  have := liftedKind_eq_opKind m
  simp only [liftedKind, hd, h] at this
  exact Option.isSome_map ▸ Option.isSome_of_eq_some this
theorem castMap_total (m : ExpressionType) (h : defArm m = .cast) : (castMap m).isSome := by
  have := liftedKind_eq_opKind m
  simp only [liftedKind, h] at this
  exact Option.isSome_map ▸ Option.isSome_of_eq_some this

/-- non-vacuity: the arithmetic right shift is lifted to `IntSRight` -/
example : liftedKind .INT_SRIGHT = some (.bin .IntSRight) := rfl

/-- the arms and the table entry behind a value of `liftedKind` -/
theorem liftedKind_eq_some {m : ExpressionType} {k : OpKind} (h : liftedKind m = some k) :
    match (generalizing := false) k with
    | .load => defArm m = .load
    | .store => defArm m = .store
    | .subpiece => defArm m = .subpiece
    | .cast op => defArm m = .cast ∧ castMap m = some op
    | .copy => defArm m = .expr ∧ exprArm m = .copy
    | .bin op => defArm m = .expr ∧ exprArm m = .binOp ∧ binOpMap m = some op
    | .un op => defArm m = .expr ∧ exprArm m = .unOp ∧ unOpMap m = some op := by
  cases hd : defArm m <;>
    simp only [liftedKind, hd, Option.map_eq_some_iff, Option.some.injEq, reduceCtorEq] at h
  case load | store | subpiece => subst h; rfl
  case cast => obtain ⟨op, hop, rfl⟩ := h; exact ⟨rfl, hop⟩
  case expr =>
    cases he : exprArm m <;> simp only [he, Option.map_eq_some_iff, Option.some.injEq, reduceCtorEq] at h
    case copy => subst h; exact ⟨rfl, rfl⟩
    case binOp | unOp => obtain ⟨op, hop, rfl⟩ := h; exact ⟨rfl, rfl, hop⟩

/-! the arms taken by a mnemonic of a given meaning: `liftedKind_eq_opKind` read backwards -/

theorem arms_load {m : ExpressionType} (h : opKind m = .load) : defArm m = .load :=
  liftedKind_eq_some (h ▸ liftedKind_eq_opKind m)

theorem arms_store {m : ExpressionType} (h : opKind m = .store) : defArm m = .store :=
  liftedKind_eq_some (h ▸ liftedKind_eq_opKind m)

theorem arms_subpiece {m : ExpressionType} (h : opKind m = .subpiece) : defArm m = .subpiece :=
  liftedKind_eq_some (h ▸ liftedKind_eq_opKind m)

theorem arms_cast {m : ExpressionType} {op : CastOpType} (h : opKind m = .cast op) :
    defArm m = .cast ∧ castMap m = some op :=
  liftedKind_eq_some (h ▸ liftedKind_eq_opKind m)

theorem arms_copy {m : ExpressionType} (h : opKind m = .copy) : defArm m = .expr ∧ exprArm m = .copy :=
  liftedKind_eq_some (h ▸ liftedKind_eq_opKind m)

theorem arms_bin {m : ExpressionType} {op : BinOpType} (h : opKind m = .bin op) :
    defArm m = .expr ∧ exprArm m = .binOp ∧ binOpMap m = some op :=
  liftedKind_eq_some (h ▸ liftedKind_eq_opKind m)

theorem arms_un {m : ExpressionType} {op : UnOpType} (h : opKind m = .un op) :
    defArm m = .expr ∧ exprArm m = .unOp ∧ unOpMap m = some op :=
  liftedKind_eq_some (h ▸ liftedKind_eq_opKind m)

end CweModel.C11
