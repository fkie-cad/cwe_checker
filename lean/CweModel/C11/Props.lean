/-
C11 — the block theorem: lifting P-Code to the IR preserves the behaviour of every block (`liftBlk_sim`, and
`liftBlk_sim_gen` for chaining blocks). The instructions go through the three layers one after the other; the jumps
either have no RAM operand (`jmpPhase_plain`) or are a single indirect jump or call whose target is loaded into
`$load_temp0` first (`jmpPhase_ram`). At the end a concrete block that meets the hypotheses.
-/
import CweModel.C11.PropsBlock

namespace CweModel.C11
open CweModel CweModel.IR CweModel.Sem CweModel.Gen.PcodeOps CweModel.C11.Lift

/-- the temporaries the whole lifting may leave behind -/
def IsBothTemp (v : Variable) : Prop := IsLoadTemp v ∨ IsLoadedValue v

theorem isBothTemp_temp : ∀ u, IsBothTemp u → u.isTemp = true := fun _ h => h.elim (fun h => h.1) (fun h => h.1)

theorem isBothTemp_lift {v : Variable} (h : IsBothTemp v) : IsLiftTemp v :=
  h.elim IsLoadTemp.lift IsLoadedValue.lift

theorem jmpOk_JmpOkN {tbl : RegTable} {j : Pcode.Jmp} (h : jmpOk tbl j = true)
    (hnr : ∀ v, jmpOperand j = some v → v.isRam = false) : JmpOkN tbl IsBothTemp j :=
  fun v hv => ⟨varOk_varOkN (jmpOk_operand h hv).1, hnr v hv,
    (varOk_avoids_lift (jmpOk_operand h hv).1).mono fun _ => isBothTemp_lift⟩

theorem jmpPhase_plain {tbl : RegTable} (ht : tableOk tbl = true) (env : Env)
    (hphys : ∀ v ∈ env.physRegs, v.isTemp = false) (js : List (Term Pcode.Jmp))
    (hok : ∀ j ∈ js, jmpOk tbl j.term = true) (hshape : jmpsShapeOk js = true)
    (hnr : ∀ j ∈ js, ∀ v, jmpOperand j.term = some v → v.isRam = false)
    {σ₁ ρ₂ : State} (hag : Agree IsBothTemp σ₁ ρ₂) (hρ : WellTyped ρ₂)
    (c : Nat) {e₂ : List Event} {n : Next} (hx : execJmps tbl env σ₁ c js = some (e₂, n)) :
    ∃ ijs n', mapOpt (liftJmp tbl) js = some ijs ∧ Sem.execJmps env ρ₂ c ijs = (e₂, n') ∧ NextAgree IsBothTemp n n' := by
  have hphys' : ∀ v ∈ env.physRegs, ¬ IsBothTemp v := fun v hv => not_of_nontemp isBothTemp_temp (hphys v hv)
  rcases jmpsShapeOk_cases hshape with rfl | ⟨j, rfl, hnc⟩ | ⟨cj, bj, rfl, hmc, hmb⟩
  · cases hx
    exact ⟨[], .stop, rfl, by simp only [Sem.execJmps, snapshot_agree hag _ hphys'], .stop⟩
  · obtain ⟨ij, n', h1, h2, h3⟩ := single_sim ht isBothTemp_temp env hphys' hag hρ j hnc
      (jmpOk_JmpOkN (hok j List.mem_cons_self) (hnr j List.mem_cons_self)) c hx
    exact ⟨[ij], n', by simp only [mapOpt, h1, Option.bind_eq_bind, Option.bind_some], h2, h3⟩
  · have hbj := hok bj (List.mem_cons_of_mem _ List.mem_cons_self)
    obtain ⟨t₂, hbg⟩ : ∃ t₂, bj.term.goto = some (.Direct t₂) := by
      unfold jmpOk at hbj
      rw [hmb] at hbj
      cases hg : bj.term.goto with
      | none => rw [hg] at hbj; cases hbj
      | some l => cases l with
        | Direct t => exact ⟨t, rfl⟩
        | Indirect w => rw [hg] at hbj; cases hbj
    obtain ⟨ic, ib, n', h1, h2, h3, h4⟩ := cbranch_sim ht isBothTemp_temp env hphys' hag hρ cj bj hmc hmb hbg
      (jmpOk_JmpOkN (hok cj List.mem_cons_self) (hnr cj List.mem_cons_self)) c hx
    exact ⟨[ic, ib], n', by simp only [mapOpt, h1, h2, Option.bind_eq_bind, Option.bind_some], h3, h4⟩

/-- an indirect jump or call through a RAM varnode: the target is loaded into `$load_temp0` first -/
theorem jmpPhase_ram {tbl : RegTable} (ht : tableOk tbl = true) {ptr : Nat} (hp0 : 0 < ptr) (env : Env)
    (hphys : ∀ v ∈ env.physRegs, v.isTemp = false) (j : Term Pcode.Jmp) (hok : jmpOk tbl j.term = true)
    {v : Pcode.Var} (hop : jmpOperand j.term = some v) (hram : v.isRam = true)
    {σ₁ τ₁ : State} (hptr : σ₁.ptrBytes = ptr) (hag : Agree IsLoadTemp σ₁ τ₁)
    (c : Nat) {e₂ : List Event} {n : Next} (hx : execJmps tbl env σ₁ c [j] = some (e₂, n)) :
    ∃ ls j' τ₂ el, addLoadsJmps ptr 0 [j] = some (ls, [j']) ∧ execDefs tbl τ₁ ls = some (τ₂, el) ∧
      (∀ d ∈ ls, defOkN tbl d.term = true) ∧ Agree IsLoadTemp σ₁ τ₂ ∧
      ∀ ρ₂, Agree IsLoadedValue τ₂ ρ₂ → WellTyped ρ₂ →
        ∃ ij ev' n', liftJmp tbl j' = some ij ∧ Sem.execJmps env ρ₂ c [ij] = (ev', n') ∧ el ++ ev' = e₂ ∧
          NextAgree IsBothTemp n n' := by
  obtain ⟨hvok, hmn⟩ := jmpOk_operand hok hop
  have hm : j.term.mnemonic.indirect = true := by rcases hmn hram with h | h <;> rw [h] <;> rfl
  have hadr : v.address.isSome = true := (address_isSome_eq_isRam hvok).trans hram
  obtain ⟨a, hadr⟩ := Option.isSome_iff_exists.mp hadr
  -- the shape of the jump, and the value of its target
  rw [execJmps_cons] at hx
  obtain ⟨sh, hsh, hx⟩ := Option.bind_eq_some_iff.mp hx
  have hcases := JmpShape.indirect_cases ((jmpShape_spec hsh).2.2.1 ▸ hm) (jmpOperand_eq hsh ▸ hop)
  obtain ⟨x, e, hr⟩ : ∃ x e, readVar tbl σ₁ v = some (x, e) := by
    rcases hcases with rfl | ⟨r, rfl⟩ <;>
      simp only [JmpShape.exec, Option.bind_eq_bind, Option.bind_eq_some_iff] at hx <;>
      exact ⟨_, _, hx.choose_spec.1⟩
  -- its load
  obtain ⟨l, o', τ₂, hl, hxl, hag₂, hin, hdok, _, _, hpers, _⟩ :=
    slot_sim ht hp0 hptr hag (o := some v) hvok (by rw [readOpt, hr]; rfl) j.tid "$load_temp0" "_load"
      (by simp)
  simp only [loadFor, hadr, Option.isSome_some, if_true, toLoadDef_eq, Option.map_some, Option.bind_eq_bind,
    Option.bind_some, Option.some.injEq, Prod.mk.injEq] at hl
  obtain ⟨rfl, rfl⟩ := hl
  obtain ⟨_, hrt, hxy⟩ := readOpt_some_iff.mp (hpers τ₂ hag₂ (fun _ => rfl))
  cases hxy
  simp only [loadDef, inOkN, Bool.and_eq_true, Bool.not_eq_true'] at hin
  refine ⟨_, ⟨j.tid, setTarget (loadTemp "$load_temp0" v.size) j.term⟩, τ₂, e, ?_, hxl, hdok, hag₂, fun ρ₂ hagρ hρ => ?_⟩
  · simp only [addLoadsJmps, addLoadsJmp_eq, hm, hop, hadr, loadTempName0, if_true, Option.bind_eq_bind,
      Option.bind_some, List.append_nil]
  · obtain ⟨ij, ev', n', h1, h2, h3, h4⟩ :=
      ram_shape_sim ht env hphys hag₂ hagρ hρ c j.tid hcases hr hrt
        ⟨hin.1, hin.2, fun n hk hT => by cases hk; exact absurd hT.2 (show "$load_temp0" ≠ "loaded_value" by decide)⟩ hx
    exact ⟨⟨j.tid, ij⟩, ev', n', liftJmp_of_shape (j := ⟨j.tid, _⟩) (setTarget_spec hsh hm _) h1, h2, h3, h4⟩

/-- `liftBlk_sim` for an arbitrary number of calls executed so far; additionally the IR state after the
defs is well typed and keeps the pointer size (needed to chain blocks) -/
theorem liftBlk_sim_gen {tbl : RegTable} (ht : tableOk tbl = true) {ptr : Nat} (hp0 : 0 < ptr) (env : Env)
    (hphys : ∀ v ∈ env.physRegs, v.isTemp = false) (b : Pcode.Blk) (hb : blkOk tbl b = true)
    {σ : State} (hσ : WellTyped σ) (hptr : σ.ptrBytes = ptr)
    (c : Nat) {eff : BlkEffect} (hx : execBlk tbl env σ b c = some eff) :
    ∃ ib ρ₁ ev₁ ev₂ n', liftBlk tbl ptr b = some ib ∧ Sem.execDefs σ ib.defs = some (ρ₁, ev₁) ∧
      Sem.execJmps env ρ₁ c ib.jmps = (ev₂, n') ∧ ev₁ ++ ev₂ = eff.events ++ eff.jmpEvents ∧
      Agree IsLiftTemp eff.after ρ₁ ∧ NextAgree IsLiftTemp eff.next n' ∧ WellTyped ρ₁ ∧ ρ₁.ptrBytes = ptr := by
  unfold blkOk at hb
  simp only [Bool.and_eq_true, List.all_eq_true] at hb
  obtain ⟨⟨hdefs, hjmps⟩, hshape⟩ := hb
  simp only [execBlk, Option.bind_eq_bind] at hx
  cases hd : execDefs tbl σ b.defs with
  | none => simp [hd] at hx
  | some p =>
  obtain ⟨σ₁, e₁⟩ := p
  cases hj : execJmps tbl env σ₁ c b.jmps with
  | none => simp [hd, hj] at hx
  | some q =>
  obtain ⟨e₂, n⟩ := q
  simp only [hd, hj, Option.bind_some, Option.some.injEq] at hx
  subst hx
  simp only
  obtain ⟨nss, τ₁, hmap, hxn, hag₁, hokn, hptr₁⟩ := normDefs_sim ht hp0 b.defs hdefs (Agree.refl σ) hptr hd
  -- the jump phase, in a common form
  have hJ : ∃ ls js' τ₂ el, addLoadsJmps ptr 0 b.jmps = some (ls, js') ∧ execDefs tbl τ₁ ls = some (τ₂, el) ∧
      (∀ d ∈ ls, defOkN tbl d.term = true) ∧ Agree IsLoadTemp σ₁ τ₂ ∧
      ∀ ρ₂, Agree IsLoadedValue τ₂ ρ₂ → WellTyped ρ₂ →
        ∃ ijs ev' n', mapOpt (liftJmp tbl) js' = some ijs ∧ Sem.execJmps env ρ₂ c ijs = (ev', n') ∧
          el ++ ev' = e₂ ∧ NextAgree IsBothTemp n n' := by
    rcases ramJmp_cases hjmps hshape with hnr | ⟨j, v, hjs, hop, hr⟩
    · refine ⟨[], b.jmps, τ₁, [], addLoadsJmps_plain 0 b.jmps hjmps hnr, rfl, fun _ h => (nomatch h), hag₁,
        fun ρ₂ hagρ hρ => ?_⟩
      obtain ⟨ijs, n', g1, g2, g3⟩ := jmpPhase_plain ht env hphys b.jmps hjmps hshape hnr (hag₁.trans hagρ) hρ c hj
      exact ⟨ijs, e₂, n', g1, g2, rfl, g3⟩
    · rw [hjs] at hj hjmps ⊢
      obtain ⟨ls, j', τ₂, el, h1, h2, h3, h4, h5⟩ :=
        jmpPhase_ram ht hp0 env hphys j (hjmps j List.mem_cons_self) hop hr hptr₁ hag₁ c hj
      refine ⟨ls, [j'], τ₂, el, h1, h2, h3, h4, fun ρ₂ hagρ hρ => ?_⟩
      obtain ⟨ij, ev', n', g1, g2, g3, g4⟩ := h5 ρ₂ hagρ hρ
      exact ⟨[ij], ev', n', by simp only [mapOpt, g1, Option.bind_eq_bind, Option.bind_some], g2, g3, g4⟩
  obtain ⟨ls, js', τ₂, el, hlj, hxl, hokl, hag₂, hK⟩ := hJ
  -- all normalized instructions, incl. the load of a jump target
  have hxND : execDefs tbl σ (nss.flatten ++ ls) = some (τ₂, e₁ ++ el) := execDefs_append hxn hxl
  have hokND : ∀ d ∈ nss.flatten ++ ls, defOkN tbl d.term = true := by
    intro d hd'
    rcases List.mem_append.mp hd' with h | h
    · exact hokn d h
    · exact hokl d h
  obtain ⟨raw, hraw, hxraw, hokraw⟩ := rawDefs_sim (nss.flatten ++ ls) hokND hptr hxND
  obtain ⟨final, ρ₂, hfin, hxfin, hagρ, _, hρ₂⟩ :=
    replaceDefs_sim ht raw.length raw (Nat.le_refl _) hokraw (Agree.refl σ) hσ hσ hxraw
  obtain ⟨ijs, ev', n', hlift, hxj, hev, hnext⟩ := hK ρ₂ hagρ hρ₂
  refine ⟨_, ρ₂, e₁ ++ el, ev', n', liftBlk_eq_some.mpr ⟨nss, ls, js', raw, final, ijs, hmap, hlj, hraw, hfin, hlift, rfl⟩,
    hxfin, hxj, ?_, ?_, hnext.mono (fun _ h => isBothTemp_lift h), hρ₂, ?_⟩
  · rw [List.append_assoc, hev]
  · exact (hag₂.trans hagρ).mono (fun _ h => isBothTemp_lift h)
  · rw [← (hag₂.trans hagρ).ptr]; exact hptr₁

/-- **C11-block (the property).** For every block of in-domain P-Code, every well-typed initial state and
every execution of the block under the P-Code reference semantics, the block produced by the lifting
(`normalize`, `into_ir_blk`, `replace_subregister_in_block`) exists and, run from the SAME state by the IR
reference interpreter, has

* the same memory accesses (loads and stores: address, size, value) in the same order — implicit accesses
  through RAM varnodes have become explicit ones —,
* a final state that agrees on memory and on every register except the temporaries introduced by the
  lifting (`loaded_value`, `$load_temp0..2`), in particular on all BASE registers,
* the same branch decision: same jump events (with equal snapshots of base registers and memory), same
  successor block, agreeing states after a call. -/
theorem liftBlk_sim {tbl : RegTable} (ht : tableOk tbl = true) {ptr : Nat} (hp0 : 0 < ptr) (env : Env)
    (hphys : ∀ v ∈ env.physRegs, v.isTemp = false) (b : Pcode.Blk) (hb : blkOk tbl b = true)
    {σ : State} (hσ : WellTyped σ) (hptr : σ.ptrBytes = ptr)
    {eff : BlkEffect} (hx : execBlk tbl env σ b = some eff) :
    ∃ ib ρ₁ ev₁ ev₂ n', liftBlk tbl ptr b = some ib ∧ Sem.execDefs σ ib.defs = some (ρ₁, ev₁) ∧
      Sem.execJmps env ρ₁ 0 ib.jmps = (ev₂, n') ∧ ev₁ ++ ev₂ = eff.events ++ eff.jmpEvents ∧
      Agree IsLiftTemp eff.after ρ₁ ∧ NextAgree IsLiftTemp eff.next n' := by
  obtain ⟨ib, ρ₁, ev₁, ev₂, n', h1, h2, h3, h4, h5, h6, _⟩ := liftBlk_sim_gen ht hp0 env hphys b hb hσ hptr 0 hx
  exact ⟨ib, ρ₁, ev₁, ev₂, n', h1, h2, h3, h4, h5, h6⟩

theorem baseRegs_nontemp (tbl : RegTable) : ∀ v ∈ baseRegs tbl, v.isTemp = false := by
  intro v hv
  simp only [baseRegs, List.mem_map] at hv
  obtain ⟨r, _, rfl⟩ := hv
  rfl

/-- **C11-block, in the setting of the correspondence run**: initial states without register overrides,
observed registers = base registers of the table. -/
theorem liftBlk_sim_driver {tbl : RegTable} (ht : tableOk tbl = true) {ptr : Nat} (hp0 : 0 < ptr) (sp : Variable)
    (b : Pcode.Blk) (hb : blkOk tbl b = true) (seed : Nat)
    {eff : BlkEffect} (hx : execBlk tbl ⟨baseRegs tbl, sp⟩ { seed := seed, ptrBytes := ptr } b = some eff) :
    ∃ ib ρ₁ ev₁ ev₂ n', liftBlk tbl ptr b = some ib ∧
      Sem.execDefs { seed := seed, ptrBytes := ptr } ib.defs = some (ρ₁, ev₁) ∧
      Sem.execJmps ⟨baseRegs tbl, sp⟩ ρ₁ 0 ib.jmps = (ev₂, n') ∧ ev₁ ++ ev₂ = eff.events ++ eff.jmpEvents ∧
      eff.after.snapshot (baseRegs tbl) = ρ₁.snapshot (baseRegs tbl) ∧ NextAgree IsLiftTemp eff.next n' := by
  obtain ⟨ib, ρ₁, ev₁, ev₂, n', h1, h2, h3, h4, h5, h6⟩ :=
    liftBlk_sim ht hp0 ⟨baseRegs tbl, sp⟩ (baseRegs_nontemp tbl) b hb
      (WellTyped.initial { seed := seed, ptrBytes := ptr } rfl) rfl hx
  refine ⟨ib, ρ₁, ev₁, ev₂, n', h1, h2, h3, h4, ?_, h6⟩
  exact snapshot_agree h5 _ fun v hv => not_of_nontemp (fun _ h => h.1) (baseRegs_nontemp tbl v hv)

/-! ### non-vacuity: the hypotheses of `liftBlk_sim` hold for a concrete block with a sub-register write in
the middle of the base register, a cast-to-base idiom, an implicit RAM load and an indirect jump through RAM -/

def exTbl : RegTable :=
  [⟨"RAX", "RAX", 0, 8⟩, ⟨"EAX", "RAX", 0, 4⟩, ⟨"AH", "RAX", 1, 1⟩, ⟨"AL", "RAX", 0, 1⟩, ⟨"RSP", "RSP", 0, 8⟩]

def rv (n : String) (s : Nat) : Pcode.Var := { name := some n, size := s }
def cv (h : String) (s : Nat) : Pcode.Var := { value := some h, size := s }
def mv (a : String) (s : Nat) : Pcode.Var := { address := some a, size := s }
def ins (t : String) (out : Pcode.Var) (m : ExpressionType) (i0 : Pcode.Var) (i1 : Option Pcode.Var) : Term Pcode.Def :=
  ⟨⟨t, "1000"⟩, { lhs := some out, rhs := { mnemonic := m, input0 := some i0, input1 := i1 } }⟩

def exBlk : Pcode.Blk :=
  { defs := [ins "i0" (rv "AH" 1) .INT_ADD (rv "AL" 1) (some (mv "00404000" 1)),
             ins "i1" (rv "EAX" 4) .INT_SRIGHT (rv "EAX" 4) (some (cv "3" 4)),
             ins "i2" (rv "RAX" 8) .INT_ZEXT (rv "EAX" 4) none],
    jmps := [⟨⟨"i3", "1000"⟩, { mnemonic := .BRANCHIND, goto := some (.Indirect (mv "2000" 8)) }⟩] }

def exEnv : Env := { physRegs := baseRegs exTbl, sp := ⟨"RSP", 8, false⟩ }
def exState : State := { seed := 42 }

theorem exTbl_ok : tableOk exTbl = true := by decide +kernel
theorem exBlk_ok : blkOk exTbl exBlk = true := by decide +kernel
theorem exExec : (execBlk exTbl exEnv exState exBlk).isSome = true := by decide +kernel

example : ∃ ib ρ₁ ev₁ ev₂ n', liftBlk exTbl 8 exBlk = some ib ∧ Sem.execDefs exState ib.defs = some (ρ₁, ev₁) ∧
    Sem.execJmps exEnv ρ₁ 0 ib.jmps = (ev₂, n') := by
  obtain ⟨eff, h⟩ := Option.isSome_iff_exists.mp exExec
  obtain ⟨ib, ρ₁, ev₁, ev₂, n', h1, h2, h3, _⟩ :=
    liftBlk_sim exTbl_ok (by decide : 0 < 8) exEnv (baseRegs_nontemp exTbl) exBlk exBlk_ok (WellTyped.initial exState rfl) rfl h
  exact ⟨ib, ρ₁, ev₁, ev₂, n', h1, h2, h3⟩

end CweModel.C11
