/-
C11 — byte-level lemmas: SUBPIECE extracts bytes; "base with bytes [lsb, lsb+size) replaced" is the
concatenation of the bytes above, the new bytes and the bytes below; the three PIECE shapes built by
`piece_base_register_assignment_expression_together` are that concatenation.
-/
import CweModel.C11.LiftCases
namespace CweModel.C11
open CweModel CweModel.IR CweModel.Sem CweModel.Gen.PcodeOps CweModel.C11.Lift

theorem _root_.CweModel.Bv.toNat_lt_bytes {b : Bv} {B : Nat} (h : b.w = 8 * B) : b.toNat < 2 ^ (8 * B) :=
  h ▸ b.toNat_lt

attribute [simp] Bv.ofNat_w Bv.ofNat_toNat Bv.ofBytes_w Bv.ofBytes_toNat

theorem _root_.CweModel.Bv.ext_nat {a b : Bv} (hw : a.w = b.w) (hv : a.toNat = b.toNat) : a = b := Bv.ext' hw hv

theorem extractBytes_w (b : Bv) (l s : Nat) : (extractBytes b l s).w = 8 * s := rfl
theorem extractBytes_toNat (b : Bv) (l s : Nat) :
    (extractBytes b l s).toNat = b.toNat / 2 ^ (8 * l) % 2 ^ (8 * s) := Bv.ofBytes_toNat _ _
theorem replaceBytes_w (b : Bv) (l s x : Nat) : (replaceBytes b l s x).w = b.w := rfl

theorem subpieceOp_extract (a : Bv) (l s : Nat) (h₁ : 8 * l < a.w) (h₂ : 8 * s ≤ a.w) :
    Ref.subpieceOp l s a = .val (extractBytes a l s) := by
  simp only [Ref.subpieceOp, h₁, h₂, and_self, if_true]
  rfl

theorem subpieceOp_bytes {a : Bv} {B l s : Nat} (ha : a.w = 8 * B) (h : l + s ≤ B) (hs : 0 < s) :
    Ref.subpieceOp l s a = .val (extractBytes a l s) :=
  subpieceOp_extract a l s
    (ha ▸ Nat.mul_lt_mul_of_pos_left (Nat.lt_of_lt_of_le (Nat.lt_add_of_pos_right hs) h) (by decide))
    (ha ▸ Nat.mul_le_mul_left 8 (Nat.le_trans (Nat.le_add_left s l) h))

theorem pow8_add (a b : Nat) : 2 ^ (8 * (a + b)) = 2 ^ (8 * a) * 2 ^ (8 * b) := by
  rw [Nat.mul_add, Nat.pow_add]

theorem pow8_pos (a : Nat) : 0 < 2 ^ (8 * a) := Nat.pow_pos (by omega)

theorem cat_lt {q x K S : Nat} (hq : q < K) (hx : x < S) : q * S + x < K * S := by
  have : (q + 1) * S ≤ K * S := Nat.mul_le_mul_right _ hq
  rw [Nat.add_mul, Nat.one_mul] at this
  omega

/-- PIECE of the reference semantics: concatenation, first operand most significant -/
def _root_.CweModel.Bv.cat (a b : Bv) : Bv := Bv.ofNat (a.w + b.w) (a.toNat * 2 ^ b.w + b.toNat)

theorem piece_val (a b : Bv) :
    Ref.binOp .Piece a b = .val ⟨a.w + b.w, BitVec.ofNat (a.w + b.w) (a.toNat * 2 ^ b.w + b.toNat)⟩ := rfl

theorem cat_w (a b : Bv) : (a.cat b).w = a.w + b.w := rfl

theorem cat_toNat (a b : Bv) : (a.cat b).toNat = a.toNat * 2 ^ b.w + b.toNat := by
  rw [Bv.cat, Bv.ofNat_toNat, Nat.mod_eq_of_lt]
  rw [Nat.pow_add]
  exact cat_lt a.toNat_lt b.toNat_lt

theorem extractBytes_high {b : Bv} {B m : Nat} (hb : b.w = 8 * B) (hm : m ≤ B) :
    (extractBytes b m (B - m)).toNat = b.toNat / 2 ^ (8 * m) := by
  rw [extractBytes_toNat, Nat.mod_eq_of_lt]
  apply Nat.div_lt_of_lt_mul
  rw [← pow8_add, Nat.add_sub_cancel' hm]
  exact Bv.toNat_lt_bytes hb

theorem extractBytes_low (b : Bv) (l : Nat) : (extractBytes b 0 l).toNat = b.toNat % 2 ^ (8 * l) := by
  rw [extractBytes_toNat, Nat.mul_zero, Nat.pow_zero, Nat.div_one]

theorem extractBytes_full (b : Bv) (s : Nat) (h : b.w = 8 * s) : extractBytes b 0 s = b :=
  Bv.ext_nat h.symm (by rw [extractBytes_low, Nat.mod_eq_of_lt (Bv.toNat_lt_bytes h)])

/-- the number denoted by "b with bytes [l, l+s) replaced by x": the bytes of `b` from `l + s` upwards, the
low `s` bytes of `x`, the low `l` bytes of `b` -/
def replaceVal (b l s x : Nat) : Nat :=
  (b / 2 ^ (8 * (l + s)) * 2 ^ (8 * s) + x % 2 ^ (8 * s)) * 2 ^ (8 * l) + b % 2 ^ (8 * l)

theorem replaceVal_lt (b l s x B : Nat) (hb : b < 2 ^ (8 * B)) (h : l + s ≤ B) :
    replaceVal b l s x < 2 ^ (8 * B) := by
  obtain ⟨k, rfl⟩ : ∃ k, B = k + s + l := ⟨B - (l + s), by omega⟩
  have hq : b / 2 ^ (8 * (l + s)) < 2 ^ (8 * k) := by
    apply Nat.div_lt_of_lt_mul
    rw [← pow8_add, Nat.add_comm (l + s), Nat.add_comm l, ← Nat.add_assoc]
    exact hb
  rw [pow8_add, pow8_add]
  exact cat_lt (cat_lt hq (Nat.mod_lt _ (pow8_pos s))) (Nat.mod_lt _ (pow8_pos l))

theorem replaceBytes_eq (b : Bv) (l s x : Nat) :
    replaceBytes b l s x = Bv.ofNat b.w (replaceVal b.toNat l s x) := by
  unfold replaceBytes replaceVal
  congr 1
  rw [pow8_add, Nat.add_mul, Nat.mul_assoc, Nat.mul_comm (2 ^ (8 * s))]
  omega

/-- inside a `B`-byte register nothing wraps around -/
theorem replaceBytes_toNat {b : Bv} {B : Nat} (l s x : Nat) (hb : b.w = 8 * B) (h : l + s ≤ B) :
    (replaceBytes b l s x).toNat = replaceVal b.toNat l s x := by
  rw [replaceBytes_eq, Bv.ofNat_toNat, hb, Nat.mod_eq_of_lt (replaceVal_lt _ _ _ _ _ (Bv.toNat_lt_bytes hb) h)]

theorem replaceBytes_full (b : Bv) (s : Nat) (x : Bv) (hb : b.w = 8 * s) (hx : x.w = 8 * s) :
    replaceBytes b 0 s x.toNat = x := by
  refine Bv.ext_nat (a := replaceBytes b 0 s x.toNat) (hb.trans hx.symm) ?_
  rw [replaceBytes_toNat 0 s _ hb (by omega), replaceVal, Nat.zero_add,
    Nat.div_eq_of_lt (Bv.toNat_lt_bytes hb), Nat.mod_eq_of_lt (Bv.toNat_lt_bytes hx)]
  simp [Nat.mod_one]

theorem extract_replace (b : Bv) (B l s : Nat) (x : Bv) (hb : b.w = 8 * B) (hx : x.w = 8 * s) (h : l + s ≤ B) :
    extractBytes (replaceBytes b l s x.toNat) l s = x := by
  apply Bv.ext_nat hx.symm
  rw [extractBytes_toNat, replaceBytes_toNat l s _ hb h, replaceVal, Nat.add_comm,
    Nat.add_mul_div_right _ _ (pow8_pos l), Nat.div_eq_of_lt (Nat.mod_lt _ (pow8_pos l)), Nat.zero_add,
    Nat.mul_add_mod_self_right, Nat.mod_mod, Nat.mod_eq_of_lt (Bv.toNat_lt_bytes hx)]

/-- shape `lsb = 0`: PIECE(SUBPIECE(base, s, B-s), x) -/
theorem piece_low (b x : Bv) (B s : Nat) (hb : b.w = 8 * B) (hx : x.w = 8 * s) (hs : s < B) :
    (do let hi ← resToOpt (Ref.subpieceOp s (B - s) b); resToOpt (Ref.binOp .Piece hi x))
      = some (replaceBytes b 0 s x.toNat) := by
  have h0 : 0 + s ≤ B := (Nat.zero_add s).symm ▸ Nat.le_of_lt hs
  rw [subpieceOp_bytes hb (Nat.le_of_eq (Nat.add_sub_cancel' (Nat.le_of_lt hs))) (Nat.sub_pos_of_lt hs)]
  refine congrArg some (Bv.ext_nat (b := replaceBytes b 0 s x.toNat) (a := (extractBytes b s (B - s)).cat x) ?_ ?_)
  · rw [cat_w, extractBytes_w, replaceBytes_w, hx, hb, ← Nat.mul_add, Nat.sub_add_cancel (Nat.le_of_lt hs)]
  · rw [cat_toNat, extractBytes_high hb (Nat.le_of_lt hs), replaceBytes_toNat 0 s _ hb h0, replaceVal, hx,
      Nat.mod_eq_of_lt (Bv.toNat_lt_bytes hx), Nat.zero_add, Nat.mul_zero, Nat.pow_zero, Nat.mul_one, Nat.mod_one, Nat.add_zero]

/-- shape `lsb > 0`, `lsb + size = base size`: PIECE(x, SUBPIECE(base, 0, l)) -/
theorem piece_top (b x : Bv) (B l s : Nat) (hb : b.w = 8 * B) (hx : x.w = 8 * s) (hl : 0 < l) (hB : l + s = B) :
    (do let lo ← resToOpt (Ref.subpieceOp 0 l b); resToOpt (Ref.binOp .Piece x lo))
      = some (replaceBytes b l s x.toNat) := by
  rw [subpieceOp_bytes hb ((Nat.zero_add l).symm ▸ hB ▸ Nat.le_add_right l s) hl]
  refine congrArg some (Bv.ext_nat (b := replaceBytes b l s x.toNat) (a := x.cat (extractBytes b 0 l)) ?_ ?_)
  · rw [cat_w, extractBytes_w, replaceBytes_w, hx, hb, ← Nat.mul_add, Nat.add_comm, hB]
  · rw [cat_toNat, extractBytes_low, extractBytes_w, replaceBytes_toNat l s _ hb (Nat.le_of_eq hB), replaceVal, hB,
      Nat.div_eq_of_lt (Bv.toNat_lt_bytes hb), Nat.mod_eq_of_lt (Bv.toNat_lt_bytes hx), Nat.zero_mul, Nat.zero_add]

/-- shape `lsb > 0`, `lsb + size < base size`: PIECE(PIECE(SUBPIECE(base, l+s, B-(l+s)), x), SUBPIECE(base, 0, l)) -/
theorem piece_mid (b x : Bv) (B l s : Nat) (hb : b.w = 8 * B) (hx : x.w = 8 * s) (hl : 0 < l) (hB : l + s < B) :
    (do let hi ← resToOpt (Ref.subpieceOp (l + s) (B - (l + s)) b)
        let hx ← resToOpt (Ref.binOp .Piece hi x)
        let lo ← resToOpt (Ref.subpieceOp 0 l b)
        resToOpt (Ref.binOp .Piece hx lo))
      = some (replaceBytes b l s x.toNat) := by
  have hB' := Nat.le_of_lt hB
  rw [subpieceOp_bytes hb (Nat.le_of_eq (Nat.add_sub_cancel' hB')) (Nat.sub_pos_of_lt hB),
    subpieceOp_bytes hb ((Nat.zero_add l).symm ▸ Nat.le_trans (Nat.le_add_right l s) hB') hl]
  refine congrArg some (Bv.ext_nat (b := replaceBytes b l s x.toNat)
    (a := ((extractBytes b (l + s) (B - (l + s))).cat x).cat (extractBytes b 0 l)) ?_ ?_)
  · rw [cat_w, cat_w, extractBytes_w, extractBytes_w, replaceBytes_w, hx, hb, ← Nat.mul_add, ← Nat.mul_add,
      Nat.add_assoc, Nat.add_comm s l, Nat.sub_add_cancel hB']
  · rw [cat_toNat, cat_toNat, extractBytes_high hb hB', extractBytes_low, extractBytes_w,
      replaceBytes_toNat l s _ hb hB', replaceVal, hx, Nat.mod_eq_of_lt (Bv.toNat_lt_bytes hx)]

end CweModel.C11
