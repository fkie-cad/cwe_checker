/-
C11 — whole functions: the per-block theorem chained over the blocks of a function
(`runBlocks_sim`, `liftSub_sim`): P-Code execution is insensitive to lifting temporaries, block lookup by
term identifier, induction on the fuel.
-/
import CweModel.C11.Props

namespace CweModel.C11
open CweModel CweModel.IR CweModel.Sem CweModel.Gen.PcodeOps CweModel.C11.Lift

variable {T : Variable → Prop}

def DefAvoids (T : Variable → Prop) (d : Pcode.Def) : Prop :=
  OptAvoids T d.rhs.input0 ∧ OptAvoids T d.rhs.input1 ∧ OptAvoids T d.rhs.input2

theorem execDef_congr (hT : ∀ u, T u → u.isTemp = true) {tbl : RegTable} {σ ρ : State} (h : Agree T σ ρ)
    {d : Pcode.Def} (hd : DefAvoids T d) {σ' : State} {ev : List Event} (hx : execDef tbl σ d = some (σ', ev)) :
    ∃ ρ', execDef tbl ρ d = some (ρ', ev) ∧ Agree T σ' ρ' := by
  obtain ⟨a₀, e₀, a₁, e₁, a₂, e₂, act, e, h₀, h₁, h₂, hc, hp, rfl⟩ := execDef_iff.mp hx
  obtain ⟨ρ', hρ, hag⟩ := perform_congr hT h hp
  exact ⟨ρ', execDef_iff.mpr ⟨a₀, e₀, a₁, e₁, a₂, e₂, act, e, readOpt_congr hT h hd.1 ▸ h₀,
    readOpt_congr hT h hd.2.1 ▸ h₁, readOpt_congr hT h hd.2.2 ▸ h₂, hc, hρ, rfl⟩, hag⟩

theorem execDefs_congr (hT : ∀ u, T u → u.isTemp = true) {tbl : RegTable} :
    ∀ (ds : List (Term Pcode.Def)) {σ ρ σ' : State} {ev : List Event}, Agree T σ ρ →
      (∀ d ∈ ds, DefAvoids T d.term) → execDefs tbl σ ds = some (σ', ev) →
      ∃ ρ', execDefs tbl ρ ds = some (ρ', ev) ∧ Agree T σ' ρ' := by
  intro ds
  induction ds with
  | nil => intro σ ρ σ' ev h _ hx; cases hx; exact ⟨ρ, rfl, h⟩
  | cons d ds ih =>
    intro σ ρ σ' ev h hav hx
    obtain ⟨σ₁, e₁, e₂, hd, hr, rfl⟩ := execDefs_cons_iff.mp hx
    obtain ⟨ρ₁, h1, hag₁⟩ := execDef_congr hT h (hav d List.mem_cons_self) hd
    obtain ⟨ρ₂, h2, hag₂⟩ := ih hag₁ (fun d' hd' => hav d' (List.mem_cons_of_mem _ hd')) hr
    exact ⟨ρ₂, execDefs_cons_iff.mpr ⟨ρ₁, e₁, e₂, h1, h2, rfl⟩, hag₂⟩

theorem isLiftTemp_temp : ∀ u, IsLiftTemp u → u.isTemp = true := fun _ h => h.1

theorem optVarOk_avoids_lift {tbl : RegTable} {o : Option Pcode.Var} (h : optVarOk? tbl o = true) :
    OptAvoids IsLiftTemp o := by
  intro v hv; subst hv; exact varOk_avoids_lift h

theorem defOk_avoids {tbl : RegTable} {d : Pcode.Def} (h : defOk tbl d = true) : DefAvoids IsLiftTemp d := by
  obtain ⟨h0, h1, h2⟩ := defOk_inputs h
  exact ⟨optVarOk_avoids_lift h0, optVarOk_avoids_lift h1, optVarOk_avoids_lift h2⟩

theorem jmpOk_avoids {tbl : RegTable} {j : Pcode.Jmp} (h : jmpOk tbl j = true) : JmpAvoids IsLiftTemp j :=
  fun _ hv => varOk_avoids_lift (jmpOk_operand h hv).1

/-- what is needed of an IR state to run a lifted block from it -/
def Ready (ptr : Nat) (ρ : State) : Prop := WellTyped ρ ∧ ρ.ptrBytes = ptr

theorem havoc_ready {ptr : Nat} {ρ : State} (h : Ready ptr ρ) (regs : List Variable) (sp : Variable) (site : String)
    (n : Nat) : Ready ptr (havoc ρ regs sp site n) :=
  havoc_inv (P := Ready ptr) (fun _ v x hx hs => ⟨hs.1.setReg v x hx, hs.2⟩) h regs sp site n

theorem find_liftBlocks {tbl : RegTable} {ptr : Nat} :
    ∀ (blocks : List (Term Pcode.Blk)) {iblocks : List (Term Blk)}, liftBlocks tbl ptr blocks = some iblocks →
      ∀ cur : Tid,
        (blocks.find? (fun b => b.tid == cur) = none ∧ iblocks.find? (fun b => b.tid == cur) = none) ∨
        (∃ b ib, blocks.find? (fun b => b.tid == cur) = some b ∧ b ∈ blocks ∧ liftBlk tbl ptr b.term = some ib ∧
          iblocks.find? (fun b => b.tid == cur) = some ⟨b.tid, ib⟩) := by
  intro blocks iblocks h cur
  have hf := mapOpt_find? (p := fun b : Term Pcode.Blk => b.tid == cur) (q := fun b : Term Blk => b.tid == cur)
    (fun a b hab => by obtain ⟨_, _, hb⟩ := Option.bind_eq_some_iff.mp hab; cases hb; rfl) h
  cases hb : blocks.find? (fun b => b.tid == cur) with
  | none => exact .inl ⟨rfl, by rw [hf, hb]; rfl⟩
  | some b =>
    have hmem := List.mem_of_find?_eq_some hb
    obtain ⟨y, _, hy⟩ := (mapOpt_some _ _ _ h).1 b hmem
    obtain ⟨ib, hib, hy'⟩ := Option.bind_eq_some_iff.mp hy
    exact .inr ⟨b, ib, rfl, hmem, hib, by rw [hf, hb, Option.bind_some, hy]; exact congrArg some (Option.some.inj hy').symm⟩

/-- **C11-function (blocks of a function, any entry, any fuel).** If the P-Code reference interpreter,
run over the in-domain blocks of a function from block `cur`, defines a trace, then `Sem.runBlocks` over the
lifted blocks produces EXACTLY that trace from every IR state that agrees with the P-Code state up to lifting
temporaries: same loads/stores, calls, indirect jumps, returns and dead ends with the same snapshots of base
registers and memory, same block sequence, same `stuck`/out-of-fuel endings. -/
theorem runBlocks_sim {tbl : RegTable} (ht : tableOk tbl = true) {ptr : Nat} (hp0 : 0 < ptr) (env : Env)
    (hphys : ∀ v ∈ env.physRegs, v.isTemp = false) (blocks : List (Term Pcode.Blk))
    (hok : ∀ b ∈ blocks, blkOk tbl b.term = true) {iblocks : List (Term Blk)}
    (hl : liftBlocks tbl ptr blocks = some iblocks) :
    ∀ (fuel : Nat) (cur : Tid) {σ ρ : State} (calls : Nat) {tr : List Event},
      Agree IsLiftTemp σ ρ → WellTyped ρ → ρ.ptrBytes = ptr →
      runBlocks tbl env blocks fuel cur σ calls = some tr →
      Sem.runBlocks env iblocks fuel cur ρ calls = tr := by
  have hphys' : ∀ v ∈ env.physRegs, ¬ IsLiftTemp v := fun v hv => not_of_nontemp isLiftTemp_temp (hphys v hv)
  intro fuel
  induction fuel with
  | zero =>
    intro cur σ ρ calls tr _ _ _ hx
    simp only [runBlocks, Option.some.injEq] at hx
    subst hx
    rfl
  | succ fuel ih =>
    intro cur σ ρ calls tr hag hρ hptr hx
    unfold runBlocks at hx
    rcases find_liftBlocks blocks hl cur with ⟨h1, h2⟩ | ⟨b, ib, h1, hmem, h3, h4⟩
    · simp only [h1, Option.some.injEq] at hx
      subst hx
      exact Sem.runBlocks_none h2
    · simp only [h1, Option.bind_eq_bind] at hx
      have hbok := hok b hmem
      cases hd : execDefs tbl σ b.term.defs with
      | none => simp [hd] at hx
      | some p =>
        obtain ⟨σ₁, evs⟩ := p
        cases hj : execJmps tbl env σ₁ calls b.term.jmps with
        | none => simp [hd, hj] at hx
        | some q =>
          obtain ⟨evs₂, n⟩ := q
          simp only [hd, hj, Option.bind_some] at hx
          -- the same block run from the IR state
          have hbok' := hbok
          unfold blkOk at hbok'
          simp only [Bool.and_eq_true, List.all_eq_true] at hbok'
          obtain ⟨ρa, hda, haga⟩ := execDefs_congr isLiftTemp_temp b.term.defs hag
            (fun d hd' => defOk_avoids (hbok'.1.1 d hd')) hd
          obtain ⟨na, hja, hna⟩ := execJmps_congr isLiftTemp_temp env hphys' haga b.term.jmps calls
            (fun j hj' => jmpOk_avoids (hbok'.1.2 j hj')) hj
          have hblk : execBlk tbl env ρ b.term calls = some ⟨evs, ρa, evs₂, na⟩ := by
            simp [execBlk, hda, hja]
          obtain ⟨ib', ρ₁, ev₁, ev₂, n', g1, g2, g3, g4, g5, g6, g7, g8⟩ :=
            liftBlk_sim_gen ht hp0 env hphys b.term hbok hρ hptr calls hblk
          cases h3.symm.trans g1
          cases n with
          | stop =>
            cases Option.some.inj hx
            cases hna
            cases g6
            rw [Sem.runBlocks_stop h4 g2 g3]
            exact g4
          | goto t σ₂ c₂ =>
            cases hrest : runBlocks tbl env blocks fuel t σ₂ c₂ with
            | none => simp [hrest] at hx
            | some rest =>
              simp only [hrest, Option.bind_some, Option.some.injEq] at hx
              subst hx
              cases hna with
              | goto hag₂a => cases g6 with
                | goto hag₂ =>
                  have hnext : Ready ptr _ := execJmps_goto_state (P := Ready ptr) ⟨g7, g8⟩
                    (fun _ => havoc_ready ⟨g7, g8⟩ _ _ _ _) g3
                  rw [Sem.runBlocks_goto h4 g2 g3,
                    ih t c₂ ((hag₂a.trans hag₂).mono fun _ h => h.elim id id) hnext.1 hnext.2 hrest]
                  exact congrArg (· ++ rest) g4

/-- **C11-function (the property at function level).** For every in-domain P-Code function (entry block
first, as `into_ir_sub_term` arranges it), every well-typed initial state with the project's pointer size and
every fuel: if the P-Code reference interpreter defines a trace, `Sem.runSub` over the lifted IR function
produces exactly the same trace. -/
theorem liftSub_sim {tbl : RegTable} (ht : tableOk tbl = true) {ptr : Nat} (hp0 : 0 < ptr) (env : Env)
    (hphys : ∀ v ∈ env.physRegs, v.isTemp = false) (blocks : List (Term Pcode.Blk))
    (hok : ∀ b ∈ blocks, blkOk tbl b.term = true) {iblocks : List (Term Blk)}
    (hl : liftBlocks tbl ptr blocks = some iblocks) (name : String) (cc : Option String)
    {σ : State} (hσ : WellTyped σ) (hptr : σ.ptrBytes = ptr) (fuel : Nat) {tr : List Event}
    (hx : runSub tbl env blocks σ fuel = some tr) :
    Sem.runSub env { name := name, blocks := iblocks, callingConvention := cc } σ fuel = tr := by
  unfold runSub at hx
  unfold Sem.runSub
  cases blocks with
  | nil =>
    simp [liftBlocks, mapOpt] at hl
    subst hl
    simp only [Option.some.injEq] at hx
    subst hx
    rfl
  | cons b bs =>
    obtain ⟨ib, ibs, hb, _, rfl⟩ := mapOpt_cons_iff.mp hl
    obtain ⟨_, _, hb⟩ := Option.bind_eq_some_iff.mp hb
    cases hb
    exact runBlocks_sim ht hp0 env hphys (b :: bs) hok hl fuel b.tid 0 (Agree.refl σ) hσ hptr hx

/-- the lifting of a function exists as soon as every block is in the domain and has SOME defined execution -/
theorem liftBlocks_exists {tbl : RegTable} (ht : tableOk tbl = true) {ptr : Nat} (hp0 : 0 < ptr) (env : Env)
    (hphys : ∀ v ∈ env.physRegs, v.isTemp = false) (blocks : List (Term Pcode.Blk))
    (hok : ∀ b ∈ blocks, blkOk tbl b.term = true)
    (hex : ∀ b ∈ blocks, ∃ σ, WellTyped σ ∧ σ.ptrBytes = ptr ∧ (execBlk tbl env σ b.term).isSome = true) :
    ∃ iblocks, liftBlocks tbl ptr blocks = some iblocks := by
  unfold liftBlocks
  apply mapOpt_isSome
  intro b hb
  obtain ⟨σ, hσ, hptr, hx⟩ := hex b hb
  obtain ⟨eff, heff⟩ := Option.isSome_iff_exists.mp hx
  obtain ⟨ib, _, _, _, _, h1, _⟩ := liftBlk_sim ht hp0 env hphys b.term (hok b hb) hσ hptr heff
  simp [h1]

/-! ### non-vacuity of `liftSub_sim`: a 2-block function with a conditional branch (loop back or fall to the
returning block), sub-register writes and an implicit RAM load -/

def exTbl2 : RegTable :=
  [⟨"RAX", "RAX", 0, 8⟩, ⟨"EAX", "RAX", 0, 4⟩, ⟨"AH", "RAX", 1, 1⟩, ⟨"AL", "RAX", 0, 1⟩, ⟨"RSP", "RSP", 0, 8⟩,
   ⟨"ZF", "ZF", 0, 1⟩]

def exFun : List (Term Pcode.Blk) :=
  [⟨⟨"blk_1000", "1000"⟩,
    { defs := [ins "i0" (rv "AH" 1) .INT_ADD (rv "AL" 1) (some (mv "00404000" 1)),
               ins "i1" (rv "ZF" 1) .INT_LESS (rv "AH" 1) (some (cv "80" 1))],
      jmps := [⟨⟨"i2", "1000"⟩, { mnemonic := .CBRANCH, goto := some (.Direct ⟨"blk_1010", "1010"⟩),
                                  condition := some (rv "ZF" 1) }⟩,
               ⟨⟨"i3", "1000"⟩, { mnemonic := .BRANCH, goto := some (.Direct ⟨"blk_1000", "1000"⟩) }⟩] }⟩,
   ⟨⟨"blk_1010", "1010"⟩,
    { defs := [ins "j0" (rv "EAX" 4) .INT_SRIGHT (rv "EAX" 4) (some (cv "3" 4)),
               ins "j1" (rv "RAX" 8) .INT_ZEXT (rv "EAX" 4) none],
      jmps := [⟨⟨"j2", "1010"⟩, { mnemonic := .RETURN, goto := some (.Indirect (rv "RSP" 8)) }⟩] }⟩]

def exEnv2 : Env := { physRegs := baseRegs exTbl2, sp := ⟨"RSP", 8, false⟩ }

theorem exFun_ok : ∀ b ∈ exFun, blkOk exTbl2 b.term = true := by decide +kernel
theorem exFun_runs : (runSub exTbl2 exEnv2 exFun exState 6).isSome = true := by decide +kernel
theorem exFun_blocks_run : ∀ b ∈ exFun, (execBlk exTbl2 exEnv2 exState b.term).isSome = true := by decide +kernel

example : ∃ iblocks tr, liftBlocks exTbl2 8 exFun = some iblocks ∧ runSub exTbl2 exEnv2 exFun exState 6 = some tr ∧
    Sem.runSub exEnv2 { name := "f", blocks := iblocks } exState 6 = tr := by
  have ht : tableOk exTbl2 = true := by decide +kernel
  obtain ⟨iblocks, hl⟩ := liftBlocks_exists ht (by decide : 0 < 8) exEnv2 (baseRegs_nontemp exTbl2) exFun
    exFun_ok (fun b hb => ⟨exState, WellTyped.initial exState rfl, rfl, exFun_blocks_run b hb⟩)
  obtain ⟨tr, hr⟩ := Option.isSome_iff_exists.mp exFun_runs
  exact ⟨iblocks, tr, hl, hr, liftSub_sim ht (by decide : 0 < 8) exEnv2 (baseRegs_nontemp exTbl2) exFun exFun_ok
    hl "f" none (WellTyped.initial exState rfl) rfl 6 hr⟩

end CweModel.C11
