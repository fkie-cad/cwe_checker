/-
C11 — def layer: `replace_subregister_in_block` on raw lifted defs. Raw IR with the byte-aliasing semantics
(`execDefA`) and the substituted IR with the plain semantics (`Sem.execDefs`) have the same effect.
-/
import CweModel.C11.PropsExpr

namespace CweModel.C11
open CweModel CweModel.IR CweModel.Sem CweModel.Gen.PcodeOps CweModel.C11.Lift

/-- a load, with the memory read in a state `σ` that has the same memory -/
theorem sem_execDef_load {T : Variable → Prop} {σ ρ : State} (hag : Agree T σ ρ) (v : Variable) {a : Expression} {addr : Bv}
    (ha : eval ρ a = some addr) :
    Sem.execDef ρ (.Load v a) = some (ρ.setReg v (Bv.ofBytes v.size (σ.readMem addr.toNat v.size)),
      [.load addr.toNat v.size (σ.readMem addr.toNat v.size)]) :=
  Sem.execDef_load.mpr ⟨addr, ha, by rw [hag.readMem]⟩

theorem execDefs_single (ρ : State) (d : Term Def) : Sem.execDefs ρ [d] = (Sem.execDef ρ d.term).map (fun p => (p.1, p.2 ++ [])) := by
  simp only [Sem.execDefs, Option.bind_eq_bind]
  cases h : Sem.execDef ρ d.term with
  | none => rfl
  | some p => obtain ⟨a, b⟩ := p; rfl

theorem sem_execDefs_one {ρ ρ₁ : State} {d : Term Def} {e : List Event} (h : Sem.execDef ρ d.term = some (ρ₁, e)) :
    Sem.execDefs ρ [d] = some (ρ₁, e) := by
  rw [execDefs_single, h, Option.map_some, List.append_nil]

theorem sem_execDefs_append {ρ ρ₁ ρ₂ : State} {e₁ e₂ : List Event} {b : List (Term Def)} :
    ∀ {a : List (Term Def)}, Sem.execDefs ρ a = some (ρ₁, e₁) → Sem.execDefs ρ₁ b = some (ρ₂, e₂) →
      Sem.execDefs ρ (a ++ b) = some (ρ₂, e₁ ++ e₂)
  | [], h₁, h₂ => by cases h₁; exact h₂
  | d :: ds, h₁, h₂ => by
    obtain ⟨ρa, ea, ρb, eb, hd, hds, h⟩ := execDefs_cons_some.mp h₁
    cases h
    exact execDefs_cons_some.mpr ⟨ρa, ea, ρ₂, eb ++ e₂, hd, sem_execDefs_append hds h₂, by rw [List.append_assoc]⟩

/-- the invariant of this layer, between the raw state `σ` (read with aliasing) and the state `ρ` of the
substituted code -/
structure SubstRel (σ ρ : State) : Prop where
  agree : Agree IsLoadedValue σ ρ
  left : WellTyped σ
  right : WellTyped ρ

theorem SubstRel.setReg {σ ρ : State} (h : SubstRel σ ρ) (v : Variable) {x : Bv} (hx : x.w = 8 * v.size) :
    SubstRel (σ.setReg v x) (ρ.setReg v x) :=
  ⟨h.agree.setReg v x, h.left.setReg v x hx, h.right.setReg v x hx⟩

theorem SubstRel.writeMem {σ ρ : State} (h : SubstRel σ ρ) (a n val : Nat) :
    SubstRel (σ.writeMem a n val) (ρ.writeMem a n val) :=
  ⟨h.agree.writeMem a n val, h.left.writeMem a n val, h.right.writeMem a n val⟩

/-- the substituted code may additionally set `loaded_value` -/
theorem SubstRel.loaded {σ ρ : State} (h : SubstRel σ ρ) (s : Nat) {x : Bv} (hx : x.w = 8 * s) :
    SubstRel σ (ρ.setReg ⟨"loaded_value", s, true⟩ x) :=
  ⟨h.agree.setTempRight _ ⟨rfl, rfl⟩ x, h.left, h.right.setReg _ x hx⟩

theorem SubstRel.getReg {σ ρ : State} (h : SubstRel σ ρ) {v : Variable} (hv : v.isTemp = false) :
    ρ.getReg v = σ.getReg v :=
  (h.agree.regs v (not_of_nontemp (fun _ h => h.1) hv)).symm

/-- `v` denotes the bytes `[r.lsb, r.lsb + v.size)` of the strictly larger base register `b` -/
structure SubReg (tbl : RegTable) (v : Variable) (r b : Pcode.RegisterProperties) : Prop where
  sub : IsSub tbl v r b
  nontemp : v.isTemp = false
  inside : r.lsb + v.size ≤ b.size
  proper : v.size < b.size

/-- what a write to a raw IR variable does, by the classification `outputSubregister` of the lifting -/
theorem writeVarA_cases {tbl : RegTable} (ht : tableOk tbl = true) {σ : State} (hσ : WellTyped σ)
    {v : Variable} (hv : VarOkA tbl v) {x : Bv} {σ' : State} (h : writeVarA tbl σ v x = some σ') :
    x.w = 8 * v.size ∧
    ((outputSubregister tbl v = some none ∧ σ' = σ.setReg v x) ∨
     (∃ r b, SubReg tbl v r b ∧
        σ' = σ.setReg (baseVar b) (replaceBytes (σ.getReg (baseVar b)) r.lsb v.size x.toNat))) := by
  unfold writeVarA at h
  split at h
  · cases h
  next hw =>
  have hw : x.w = 8 * v.size := by simpa using hw
  refine ⟨hw, ?_⟩
  by_cases htmp : v.isTemp = true
  · rw [if_pos htmp] at h
    exact .inl ⟨by simp only [outputSubregister, hv.temp_fresh htmp], (Option.some.inj h).symm⟩
  · rw [if_neg htmp] at h
    have hvf : v.isTemp = false := Bool.eq_false_iff.mpr htmp
    obtain ⟨l, hl, rfl⟩ := Option.map_eq_some_iff.mp h
    rcases subregister_cases ht v with ⟨_, hout, hloc⟩ | ⟨r, b, hs⟩
    · -- a register of its own
      cases hloc l hl
      rw [writeLoc, show (⟨v.name, v.size, false⟩ : Variable) = v by rw [← hvf], replaceBytes_full _ _ _ (hσ v) hw]
      exact .inl ⟨hout, rfl⟩
    · rw [hs.loc] at hl
      split at hl
      · next hin => cases hl; exact .inr ⟨r, b, ⟨hs, hvf, hin, hs.proper (hv.fits r hvf hs.get)⟩, rfl⟩
      · cases hl

/-- the second half of the cast-to-base idiom under the aliasing semantics: the cast reads back exactly the
value just written to the sub-register and overwrites the whole base register -/
theorem fuse_tail {tbl : RegTable} (ht : tableOk tbl = true) {σ : State} (hσ : WellTyped σ)
    {v : Variable} {x : Bv} (hw : x.w = 8 * v.size) {r b : Pcode.RegisterProperties} (hs : SubReg tbl v r b)
    {tn : Tid} {w : Variable} {op : CastOpType} {sz : Nat}
    (hnok : DefOkA tbl (.Assign w (.Cast op sz (.Var v))))
    (hf : isNextDefCastToBase tbl v (some ⟨tn, .Assign w (.Cast op sz (.Var v))⟩) = true)
    {σ₂ : State} {ev₂ : List Event}
    (hx₂ : execDefA tbl (σ.setReg (baseVar b) (replaceBytes (σ.getReg (baseVar b)) r.lsb v.size x.toNat))
        (.Assign w (.Cast op sz (.Var v))) = some (σ₂, ev₂)) :
    ∃ y, w = baseVar b ∧ resToOpt (Ref.cast op sz x) = some y ∧ y.w = 8 * b.size ∧ ev₂ = [] ∧
      σ₂ = (σ.setReg (baseVar b) (replaceBytes (σ.getReg (baseVar b)) r.lsb v.size x.toNat)).setReg (baseVar b) y := by
  obtain ⟨_, _, _, _, reg, ireg, hnext, hreg, hireg, hne, hbase, hwsz⟩ := fuse_facts hf
  cases hnext
  cases hs.sub.get.symm.trans hireg
  -- the target of the cast is the full base register of `v`
  have hb_reg : reg = b := by
    have := hs.sub.entry.base
    rw [hbase, regGet_name hreg, hreg] at this
    exact Option.some.inj this
  subst hb_reg
  have hwt : w.isTemp = false := by
    cases hwt : w.isTemp with
    | false => rfl
    | true => have := hnok.1.temp_fresh hwt; rw [hreg] at this; cases this
  have hw_eq : w = baseVar reg := by
    obtain ⟨n, s, t⟩ := w
    show _ = (⟨reg.register, reg.size, false⟩ : Variable)
    rw [regGet_name hreg, ← hwsz, ← hwt]
  subst hw_eq
  have hσ₁ := hσ.setReg (baseVar reg) (replaceBytes (σ.getReg (baseVar reg)) r.lsb v.size x.toNat) (hσ _)
  have hback : readVarA tbl (σ.setReg (baseVar reg) (replaceBytes (σ.getReg (baseVar reg)) r.lsb v.size x.toNat)) v
      = some x := by
    rw [readVarA, hs.nontemp, if_neg Bool.false_ne_true, hs.sub.loc, if_pos hs.inside,
      Option.map_some, readLoc, getReg_setReg, if_pos rfl, extract_replace _ reg.size _ _ _ (hσ _) hw hs.inside]
  obtain ⟨y', hy', hwr₂, rfl⟩ := execDefA_assign.mp hx₂
  simp only [evalA, evalWith, hback, Option.bind_eq_bind, Option.bind_some] at hy'
  obtain ⟨hyw, hcase₂⟩ := writeVarA_cases ht hσ₁ hnok.1 hwr₂
  rcases hcase₂ with ⟨_, rfl⟩ | ⟨r', b', hs', _⟩
  · exact ⟨y', rfl, hy', hyw, rfl, rfl⟩
  · -- the base register is not a sub-register of itself
    exfalso
    cases hreg.symm.trans hs'.sub.get
    have := hs'.sub.entry.base
    rw [hs.sub.entry.base_self, hreg] at this
    cases this
    exact Nat.lt_irrefl _ hs'.proper

/-- what one iteration of the loop of `compute_replacement_defs_for_block` has to achieve: the emitted defs take
`ρ` to a state related to the raw state `σ₁` reached after the first raw def(s), with the same events -/
def StepOk (tbl : RegTable) (step : Option (List (Term Def) × Bool)) (ρ : State) (rest : List (Term Def))
    (σ' : State) (ev : List Event) : Prop :=
  ∃ out consumed ρ₁ σ₁ e₁ e₂, step = some (out, consumed) ∧ Sem.execDefs ρ out = some (ρ₁, e₁) ∧ SubstRel σ₁ ρ₁ ∧
    execDefsA tbl σ₁ (if consumed then rest.tail else rest) = some (σ', e₂) ∧ ev = e₁ ++ e₂

/-- the raw write to a sub-register, possibly followed by the cast of it to the base register, and the def
`subWriteDefs` emits for it -/
theorem subWrite_sim {tbl : RegTable} (ht : tableOk tbl = true) {σ ρ σ' : State} (h : SubstRel σ ρ)
    {v : Variable} {r b : Pcode.RegisterProperties} (hs : SubReg tbl v r b) {x : Bv} (hw : x.w = 8 * v.size)
    {val : Expression} (hval : eval ρ val = some x) {rest : List (Term Def)} (hrest : ∀ d ∈ rest, DefOkA tbl d.term)
    {ev : List Event}
    (hr : execDefsA tbl (σ.setReg (baseVar b) (replaceBytes (σ.getReg (baseVar b)) r.lsb v.size x.toNat)) rest
      = some (σ', ev)) (t' : Tid) :
    StepOk tbl (subWriteDefs tbl v r b val t' rest.head?) ρ rest σ' ev := by
  have hz : (replaceBytes (σ.getReg (baseVar b)) r.lsb v.size x.toNat).w = 8 * (baseVar b).size := h.left _
  unfold subWriteDefs
  by_cases hf : isNextDefCastToBase tbl v rest.head? = true
  · -- `sub = …; BASE = CAST(sub)` is fused into `BASE = CAST(…)`
    obtain ⟨tn, w, op, sz, _, _, hnext, _⟩ := fuse_facts hf
    obtain ⟨_ | ⟨n, rest'⟩, rfl⟩ : ∃ l, rest = l := ⟨_, rfl⟩
    · cases hnext
    cases Option.some.inj hnext
    obtain ⟨σm, ea, eb, hnd, hrest', rfl⟩ := execDefsA_cons_iff.mp hr
    obtain ⟨y, rfl, hy, hyw, rfl, rfl⟩ := fuse_tail ht h.left hw hs (hrest _ List.mem_cons_self) hf hnd
    refine ⟨_, true, ρ.setReg (baseVar b) y, _, [], eb, by rw [if_pos hf]; rfl, ?_, ?_, hrest', rfl⟩
    · refine sem_execDefs_one (Sem.execDef_assign.mpr ⟨y, ?_, hyw, rfl⟩)
      simp only [Expression.substVar, if_true, eval, hval, Option.bind_eq_bind, Option.bind_some, hy]
    · refine ⟨⟨h.agree.seed, h.agree.ptr, h.agree.endian, h.agree.mem, fun u hu => ?_⟩,
        (h.left.setReg _ _ hz).setReg _ _ hyw, h.right.setReg _ _ hyw⟩
      rw [getReg_setReg, getReg_setReg, getReg_setReg]
      split
      · rfl
      · exact h.agree.regs u hu
  · rw [if_neg hf]
    have hp := h.getReg (v := baseVar b) rfl ▸
      eval_pieceTogether ρ val _ _ _ _ x hval (h.right _) hw hs.inside hs.proper
    exact ⟨_, false, _, _, [], ev, rfl, sem_execDefs_one (Sem.execDef_assign.mpr ⟨_, hp, hz, rfl⟩), h.setReg _ hz, hr, rfl⟩

/-- **one iteration of the loop**: `replace_subregister` + `replace_output_subregister` on the first raw def,
peeking at the second -/
theorem replaceStep_sim {tbl : RegTable} (ht : tableOk tbl = true) {σ ρ σ' : State} (h : SubstRel σ ρ)
    (d : Term Def) (rest : List (Term Def)) (hok : ∀ d' ∈ d :: rest, DefOkA tbl d'.term) {ev : List Event}
    (hx : execDefsA tbl σ (d :: rest) = some (σ', ev)) :
    StepOk tbl (replaceStep tbl d rest.head?) ρ rest σ' ev := by
  obtain ⟨σ₁, e₁, e₂, hd, hr, rfl⟩ := execDefsA_cons_iff.mp hx
  have hokd := hok d List.mem_cons_self
  have hokr : ∀ d' ∈ rest, DefOkA tbl d'.term := fun d' hd' => hok d' (List.mem_cons_of_mem _ hd')
  obtain ⟨t, dt⟩ := d
  cases dt with
  | Store a e =>
    obtain ⟨addr, x, hxa, hxe, rfl, rfl⟩ := execDefA_store.mp hd
    obtain ⟨a', ha1, ha2⟩ := input_sound ht h.agree h.right hokd.1 hxa
    obtain ⟨e', he1, he2⟩ := input_sound ht h.agree h.right hokd.2 hxe
    refine ⟨_, false, _, _, _, e₂, replaceStep_store (a := a') (e := e') _ ?_,
      sem_execDefs_one (Sem.execDef_store.mpr ⟨_, ha2, _, he2, rfl⟩), h.writeMem _ _ _, hr, rfl⟩
    simp only [replaceInputsDef, ha1, he1, Option.bind_eq_bind, Option.bind_some]
  | Assign v e =>
    obtain ⟨x, hxe, hwr, rfl⟩ := execDefA_assign.mp hd
    obtain ⟨e', he1, he2⟩ := input_sound ht h.agree h.right hokd.2 hxe
    obtain ⟨hw, hcase⟩ := writeVarA_cases ht h.left hokd.1 hwr
    rw [replaceStep_assign (v := v) (e := e') _ (by
      simp only [replaceInputsDef, he1, Option.bind_eq_bind, Option.bind_some])]
    rcases hcase with ⟨hout, rfl⟩ | ⟨r, b, hs, rfl⟩
    · rw [hout]
      exact ⟨_, false, _, _, [], e₂, rfl, sem_execDefs_one (Sem.execDef_assign.mpr ⟨_, he2, hw, rfl⟩), h.setReg v hw, hr, rfl⟩
    · rw [hs.sub.output]
      exact subWrite_sim ht h hs hw he2 hokr hr t
  | Load v a =>
    obtain ⟨addr, hxa, hwr, rfl⟩ := execDefA_load.mp hd
    obtain ⟨a', ha1, ha2⟩ := input_sound ht h.agree h.right hokd.2 hxa
    obtain ⟨hw, hcase⟩ := writeVarA_cases ht h.left hokd.1 hwr
    rw [replaceStep_load (v := v) (a := a') _ (by
      simp only [replaceInputsDef, ha1, Option.bind_eq_bind, Option.bind_some])]
    rcases hcase with ⟨hout, rfl⟩ | ⟨r, b, hs, rfl⟩
    · rw [hout]
      exact ⟨_, false, _, _, _, e₂, rfl, sem_execDefs_one (sem_execDef_load h.agree v ha2), h.setReg v hw, hr, rfl⟩
    · -- the value goes through `loaded_value`
      rw [hs.sub.output]
      obtain ⟨out, c, ρ₁, σ₂, e₁', e₂', hstep, hexec, hrel, hrest, rfl⟩ :=
        subWrite_sim ht (h.loaded v.size hw) hs hw (val := .Var ⟨"loaded_value", v.size, true⟩)
          (by simp only [eval, getReg_setReg, if_true]) hokr hr (Tid.withIdSuffix t "_cast_to_base")
      exact ⟨⟨t, .Load ⟨"loaded_value", v.size, true⟩ a'⟩ :: out, c, ρ₁, σ₂, _, e₂',
        by simp only [Option.bind_some, hstep, Option.map_some],
        execDefs_cons_some.mpr ⟨_, _, _, _, sem_execDef_load h.agree ⟨"loaded_value", v.size, true⟩ ha2, hexec, rfl⟩,
        hrel, hrest, (List.append_assoc _ _ _).symm⟩

/-- **C11-substitution of a block.** `replace_subregister_in_block` on the defs of a block: raw lifted defs
under the byte-aliasing semantics and the substituted defs under the plain IR semantics have the same
events and lead to states that agree on every register except the temporary `loaded_value`. -/
theorem replaceDefs_sim {tbl : RegTable} (ht : tableOk tbl = true) :
    ∀ (n : Nat) (ds : List (Term Def)), ds.length ≤ n → ∀ {σ ρ σ' : State} {ev : List Event},
      (∀ d ∈ ds, DefOkA tbl d.term) → Agree IsLoadedValue σ ρ → WellTyped σ → WellTyped ρ →
      execDefsA tbl σ ds = some (σ', ev) →
      ∃ ds' ρ', replaceDefs tbl ds = some ds' ∧ Sem.execDefs ρ ds' = some (ρ', ev) ∧ Agree IsLoadedValue σ' ρ' ∧
        WellTyped σ' ∧ WellTyped ρ' := by
  intro n
  induction n with
  | zero =>
    intro ds hlen σ ρ σ' ev _ hag hσ hρ hx
    cases List.eq_nil_of_length_eq_zero (Nat.le_zero.mp hlen)
    cases hx
    exact ⟨[], ρ, replaceDefs_nil tbl, rfl, hag, hσ, hρ⟩
  | succ n ih =>
    intro ds hlen σ ρ σ' ev hok hag hσ hρ hx
    cases ds with
    | nil => cases hx; exact ⟨[], ρ, replaceDefs_nil tbl, rfl, hag, hσ, hρ⟩
    | cons d rest =>
      obtain ⟨out, consumed, ρ₁, σ₁, e₁, e₂, hstep, hexec, hrel, hrest, rfl⟩ :=
        replaceStep_sim ht ⟨hag, hσ, hρ⟩ d rest hok hx
      -- the remaining raw defs are a suffix of `rest`
      have hsub : ∀ d' ∈ (if consumed then rest.tail else rest), d' ∈ rest := by
        split
        · exact fun _ => List.mem_of_mem_tail
        · exact fun _ h => h
      have hlen' : (if consumed then rest.tail else rest).length ≤ n := by
        have : rest.length ≤ n := Nat.le_of_succ_le_succ hlen
        split
        · rw [List.length_tail]; omega
        · exact this
      obtain ⟨ds', ρ', h1, h2, h3, h4, h5⟩ := ih _ hlen'
        (fun d' hd' => hok d' (List.mem_cons_of_mem _ (hsub d' hd'))) hrel.agree hrel.left hrel.right hrest
      exact ⟨out ++ ds', ρ', by simp only [replaceDefs_cons, hstep, h1, Option.bind_eq_bind, Option.bind_some],
        sem_execDefs_append hexec h2, h3, h4, h5⟩

end CweModel.C11
