/-
C15/Flow — "blocking distributive" dataflow problems: MFP versus MOP.

An edge transfer is given by three functions of the node value: `blk` (the flow is stopped: conditional
jump on a tainted condition, or a sink), `g` (the set transformer applied otherwise) and `warn` (evaluating
the edge on this value generates a warning). `g` distributes over joins and `blk`/`warn` are join-prime
(`Laws`): every element of a value is propagated, blocks and warns independently of the others. Such a
system is NOT monotone in the sense of `Base/Fix` (a larger value may be blocked where a smaller one
passes), so the worklist result is not a least fixpoint in general. What holds, for EVERY scheduler and
every step bound:
  * `sound_evolves`: every value the solver ever stores is a join of values of complete paths, hence a
    generated warning is justified by one path (`PathWarn`);
  * `complete_merged`: a path that is not blocked with respect to the final, merged node values
    contributes its value to the result, and its warning is generated;
  * `iff_of_noInterference`: if merging never blocks a path that would not be blocked on its own
    (`NoInterference`), the solver warns iff some path warns (MFP = MOP).
Warnings are modelled as edges into one extra node `W`.
-/
import CweModel.Base.Fix

namespace CweModel.C15.Flow
open CweModel

structure TEdge (V : Type) where
  src : Nat
  dst : Nat
  blk : V → Bool
  g : V → V
  warn : V → Bool

section
variable {V : Type} [DecidableEq V] (join : V → V → V) (bot : V)

def flow (e : TEdge V) (x : V) : Option V :=
  if e.blk x then none else if e.g x = bot then none else some (e.g x)

def wflow (e : TEdge V) (x : V) : Option V := if e.warn x then some x else none

def fEdges (W : Nat) (e : TEdge V) : List (Fix.Edge V) :=
  [⟨e.src, W, wflow e⟩, ⟨e.src, e.dst, flow bot e⟩]

def problem (es : List (TEdge V)) (W : Nat) : Fix.Problem V :=
  { edges := es.flatMap (fEdges bot W), join := join }

structure Laws (es : List (TEdge V)) : Prop where
  semi : Fix.IsSemilattice join
  bot_join : ∀ x, join bot x = x
  blk_join : ∀ e ∈ es, ∀ x y, e.blk (join x y) = (e.blk x || e.blk y)
  g_join : ∀ e ∈ es, ∀ x y, e.g (join x y) = join (e.g x) (e.g y)
  warn_join : ∀ e ∈ es, ∀ x y, e.warn (join x y) = (e.warn x || e.warn y)

inductive PathVal (es : List (TEdge V)) (n0 : Nat) (v0 : V) : Nat → V → Prop where
  | init : PathVal es n0 v0 n0 v0
  | step {n : Nat} {v v' : V} (e : TEdge V) : PathVal es n0 v0 n v → e ∈ es → e.src = n →
      flow bot e v = some v' → PathVal es n0 v0 e.dst v'

def PathWarn (es : List (TEdge V)) (n0 : Nat) (v0 : V) : Prop :=
  ∃ n v e, PathVal bot es n0 v0 n v ∧ e ∈ es ∧ e.src = n ∧ e.warn v = true

/-- finite joins of path values -/
inductive Gen (es : List (TEdge V)) (n0 : Nat) (v0 : V) : Nat → V → Prop where
  | base {n : Nat} {x : V} : PathVal bot es n0 v0 n x → Gen es n0 v0 n x
  | join {n : Nat} {x y : V} : Gen es n0 v0 n x → Gen es n0 v0 n y → Gen es n0 v0 n (join x y)

/-- paths that are not blocked with respect to the node values `S` -/
inductive PathValU (es : List (TEdge V)) (S : Fix.Assign V) (n0 : Nat) (v0 : V) : Nat → V → Prop where
  | init : PathValU es S n0 v0 n0 v0
  | step {n : Nat} {v v' : V} (e : TEdge V) : PathValU es S n0 v0 n v → e ∈ es → e.src = n →
      (∀ a, S n = some a → e.blk a = false) → flow bot e v = some v' → PathValU es S n0 v0 e.dst v'

/-- merging never blocks: an out-edge that blocks one path value at a node blocks all of them -/
def NoInterference (es : List (TEdge V)) (n0 : Nat) (v0 : V) : Prop :=
  ∀ n x y e, PathVal bot es n0 v0 n x → PathVal bot es n0 v0 n y → e ∈ es → e.src = n →
    e.blk y = true → e.blk x = true

variable {join bot}
variable {es : List (TEdge V)} {n0 : Nat} {v0 : V}

omit [DecidableEq V] in
theorem join_bot (hL : Laws join bot es) (x : V) : join x bot = x := by
  rw [hL.semi.comm, hL.bot_join]

theorem flow_some {e : TEdge V} {x z : V} (h : flow bot e x = some z) :
    e.blk x = false ∧ e.g x ≠ bot ∧ z = e.g x := by
  unfold flow at h
  by_cases hb : e.blk x = true
  · simp [hb] at h
  · by_cases hg : e.g x = bot
    · simp [hb, hg] at h
    · simp [hb, hg] at h
      exact ⟨by simpa using hb, hg, h.symm⟩

theorem flow_of {e : TEdge V} {x : V} (hb : e.blk x = false) (hg : e.g x ≠ bot) :
    flow bot e x = some (e.g x) := by
  rw [flow, hb, if_neg Bool.false_ne_true, if_neg hg]

theorem gen_flow (hL : Laws join bot es) {e : TEdge V} (he : e ∈ es) {v : V}
    (hg : Gen join bot es n0 v0 e.src v) : ∀ z, flow bot e v = some z → Gen join bot es n0 v0 e.dst z := by
  generalize hn : e.src = n at hg
  induction hg with
  | base hp =>
    intro z hz
    exact .base (.step e hp he hn hz)
  | @join x y _ _ ihx ihy =>
    -- neither part is blocked; a part whose image is `bot` drops out of the join of the images
    intro z hz
    obtain ⟨hb, hgz, rfl⟩ := flow_some hz
    obtain ⟨hbx, hby⟩ := Bool.or_eq_false_iff.mp ((hL.blk_join e he x y).symm.trans hb)
    rw [hL.g_join e he] at hgz ⊢
    by_cases hx : e.g x = bot
    · rw [hx, hL.bot_join] at hgz ⊢
      exact ihy _ (flow_of hby hgz)
    · by_cases hy : e.g y = bot
      · rw [hy, join_bot hL] at hgz ⊢
        exact ihx _ (flow_of hbx hgz)
      · exact .join (ihx _ (flow_of hbx hx)) (ihy _ (flow_of hby hy))

theorem gen_prime {t : V → Bool} (ht : ∀ x y, t (join x y) = (t x || t y)) {n : Nat} {v : V}
    (hg : Gen join bot es n0 v0 n v) (hv : t v = true) :
    ∃ x, PathVal bot es n0 v0 n x ∧ t x = true := by
  induction hg with
  | base hp => exact ⟨_, hp, hv⟩
  | join _ _ ihx ihy =>
    rw [ht, Bool.or_eq_true] at hv
    exact hv.elim ihx ihy

def SInv (join : V → V → V) (bot : V) (es : List (TEdge V)) (n0 : Nat) (v0 : V) (W : Nat)
    (s : Fix.State V) : Prop :=
  (∀ n v, n ≠ W → s.vals n = some v → Gen join bot es n0 v0 n v) ∧
  (∀ v, s.vals W = some v → PathWarn bot es n0 v0)

theorem mem_problem {W : Nat} {fe : Fix.Edge V} :
    fe ∈ (problem join bot es W).edges ↔
      ∃ e ∈ es, fe = ⟨e.src, W, wflow e⟩ ∨ fe = ⟨e.src, e.dst, flow bot e⟩ := by
  simp only [problem, List.mem_flatMap, fEdges, List.mem_cons, List.not_mem_nil, or_false]

theorem sinv_init {W : Nat} (hW : n0 ≠ W) :
    SInv join bot es n0 v0 W
      { vals := fun i => if i = n0 then some v0 else none, wl := fun i => decide (i = n0) } := by
  constructor
  · intro n v _ hv
    by_cases hn : n = n0
    · subst hn
      simp at hv
      subst hv
      exact .base .init
    · simp [hn] at hv
  · intro v hv
    simp [hW.symm] at hv

/-- **soundness**: whatever the scheduler does, bounded or not, after any number of steps. The joins of path values
(at `W`: "some path warns") are closed under `join` and the transfers, so the solver stays inside (`Fix.Evolves.within`). -/
theorem sound_evolves (hL : Laws join bot es) {W : Nat} (hW : ∀ e ∈ es, e.src ≠ W ∧ e.dst ≠ W)
    {s t : Fix.State V} (h0 : SInv join bot es n0 v0 W s) (r : Fix.Evolves (problem join bot es W) s t) :
    SInv join bot es n0 v0 W t := by
  have h := r.within hL.semi
    (fun n v => (n ≠ W → Gen join bot es n0 v0 n v) ∧ (n = W → PathWarn bot es n0 v0))
    (fun n x y hx hy => ⟨fun hn => .join (hx.1 hn) (hy.1 hn), hx.2⟩) ?_
    (fun n v hv => ⟨fun hn => h0.1 n v hn hv, fun hn => h0.2 v (hn ▸ hv)⟩)
  · exact ⟨fun n v hn hv => (h n v hv).1 hn, fun v hv => (h W v hv).2 rfl⟩
  intro fe hfe a x ha hf
  obtain ⟨e, he, rfl | rfl⟩ := mem_problem.mp hfe
  all_goals have hga : Gen join bot es n0 v0 e.src a := ha.1 (hW e he).1
  · -- warning edge: the value at the start node warns, hence one of the path values it joins does
    have hwa : e.warn a = true := by
      cases hw : e.warn a with
      | true => rfl
      | false => simp only [wflow, hw] at hf; cases hf
    obtain ⟨y, hy, hwy⟩ := gen_prime (hL.warn_join e he) hga hwa
    exact ⟨fun hn => absurd rfl hn, fun _ => ⟨_, y, e, hy, he, rfl, hwy⟩⟩
  · exact ⟨fun _ => gen_flow hL he hga x hf, fun hn => absurd hn (hW e he).2⟩

/-- **soundness, `compute_with_max_steps`** -/
theorem sound_brun (hL : Laws join bot es) {W : Nat} (hW : ∀ e ∈ es, e.src ≠ W ∧ e.dst ≠ W) {k : Nat}
    {b c : Fix.BState V} (h0 : SInv join bot es n0 v0 W b.st)
    (r : Fix.BRun (problem join bot es W) k b c) : SInv join bot es n0 v0 W c.st :=
  sound_evolves hL hW h0 r.evolves

theorem pathU_le (hL : Laws join bot es) {W : Nat} {S : Fix.Assign V}
    (hS : Fix.Closed (problem join bot es W) S) {a0 : V} (h0 : S n0 = some a0) (h0le : join v0 a0 = a0)
    {n : Nat} {x : V} (hp : PathValU bot es S n0 v0 n x) : ∃ a, S n = some a ∧ join x a = a := by
  induction hp with
  | init => exact ⟨a0, h0, h0le⟩
  | @step n v v' e _ he hsrc hub hf ih =>
    subst hsrc
    obtain ⟨a, ha, hva⟩ := ih
    obtain ⟨_, hgv, rfl⟩ := flow_some hf
    have hba : e.blk a = false := hub a ha
    have hle : join (e.g v) (e.g a) = e.g a := by rw [← hL.g_join e he, hva]
    have hga : e.g a ≠ bot := by
      intro hc
      rw [hc, join_bot hL] at hle
      exact hgv hle
    obtain ⟨b, hb, hab⟩ := hS _ (mem_problem.mpr ⟨e, he, .inr rfl⟩) a (e.g a) ha (flow_of hba hga)
    exact ⟨b, hb, hL.semi.le_trans hle hab⟩

theorem complete_merged (hL : Laws join bot es) {W : Nat} {S : Fix.Assign V}
    (hS : Fix.Closed (problem join bot es W) S) {a0 : V} (h0 : S n0 = some a0) (h0le : join v0 a0 = a0)
    {n : Nat} {x : V} {e : TEdge V} (hp : PathValU bot es S n0 v0 n x) (he : e ∈ es) (hsrc : e.src = n)
    (hw : e.warn x = true) : ∃ b, S W = some b := by
  subst hsrc
  obtain ⟨a, ha, hxa⟩ := pathU_le hL hS h0 h0le hp
  have hwa : e.warn a = true := by
    rw [← hxa, hL.warn_join e he, hw]; rfl
  obtain ⟨b, hb, _⟩ := hS _ (mem_problem.mpr ⟨e, he, .inl rfl⟩) a a ha (if_pos hwa)
  exact ⟨b, hb⟩

theorem path_unblocked_of_noInterference (hL : Laws join bot es) {W : Nat}
    (hW : ∀ e ∈ es, e.src ≠ W ∧ e.dst ≠ W) {S : Fix.Assign V}
    (hgen : ∀ n v, n ≠ W → S n = some v → Gen join bot es n0 v0 n v)
    (hni : NoInterference bot es n0 v0) {n : Nat} {x : V} (hp : PathVal bot es n0 v0 n x) :
    PathValU bot es S n0 v0 n x := by
  induction hp with
  | init => exact .init
  | @step n v v' e hpv he hsrc hf ih =>
    refine .step e ih he hsrc ?_ hf
    subst hsrc
    intro a ha
    cases hb : e.blk a with
    | false => rfl
    | true =>
      have hga : Gen join bot es n0 v0 e.src a := hgen _ a (hW e he).1 ha
      obtain ⟨y, hy, hby⟩ := gen_prime (hL.blk_join e he) hga hb
      have := hni _ v y e hpv hy he rfl hby
      rw [(flow_some hf).1] at this
      cases this

theorem iff_of_noInterference (hL : Laws join bot es) {W : Nat}
    (hW : ∀ e ∈ es, e.src ≠ W ∧ e.dst ≠ W) {t : Fix.State V}
    (hinv : SInv join bot es n0 v0 W t) (hS : Fix.Closed (problem join bot es W) t.vals)
    {a0 : V} (h0 : t.vals n0 = some a0) (h0le : join v0 a0 = a0)
    (hni : NoInterference bot es n0 v0) :
    (∃ b, t.vals W = some b) ↔ PathWarn bot es n0 v0 := by
  constructor
  · rintro ⟨b, hb⟩
    exact hinv.2 b hb
  · rintro ⟨n, x, e, hp, he, hsrc, hw⟩
    exact complete_merged hL hS h0 h0le (path_unblocked_of_noInterference hL hW hinv.1 hni hp) he hsrc hw

end

end CweModel.C15.Flow
