/-
C15 — the NULL-dereference check reports only sources with an unchecked path to a sink.

Every edge transfer of the model is a (blocking test, set transformer, warning test) triple in the sense
of `Flow.lean` that works register by register (`edgeOut_eq_tri`, `edgeTri_join`), so `Flow` gives, for the
fixpoint problem of one source: `warn_sound` (every scheduler and step bound), `warn_complete_merged`,
and `warn_iff_pathWarn_partial` under `NoInterference`. The executable solver performs a run of the
abstract machine (`execLoop_brun`) and its list of sinks is non-empty iff the warning node has a value
(`execLoop_consistent`); with the dedup by source address this carries `warn_sound` and
`warn_iff_pathWarn_partial` over to `checkCwe`.
`merged_check_counterexample`: without `NoInterference` completeness fails.
-/
import CweModel.C15.Model
import CweModel.C15.Flow

namespace CweModel.C15
open CweModel.IR

theorem testBit_ofPred (n : Nat) (p : Nat → Bool) (i : Nat) :
    (ofPred n p).testBit i = (decide (i < n) && p i) := by
  induction n with
  | zero => simp [ofPred]
  | succ n ih =>
    have h2 : (if p n then 2 ^ n else 0).testBit i = (decide (i = n) && p i) := by
      by_cases hn : i = n
      · subst hn; cases p i <;> simp
      · cases p n <;> simp [hn, Ne.symm hn]
    rw [ofPred, Nat.testBit_or, ih, h2, ← Bool.and_or_distrib_right]
    simp only [Nat.lt_succ_iff_lt_or_eq, Bool.decide_or]

theorem ofPred_or (n : Nat) (p q : Nat → Bool) :
    ofPred n p ||| ofPred n q = ofPred n (fun i => p i || q i) := by
  apply Nat.eq_of_testBit_eq
  intro i
  simp only [Nat.testBit_or, testBit_ofPred, Bool.and_or_distrib_left]

theorem ofPred_eq_zero (n : Nat) (p : Nat → Bool) (h : ∀ i, i < n → p i = false) : ofPred n p = 0 := by
  apply Nat.eq_of_testBit_eq
  intro i
  rw [testBit_ofPred, Nat.zero_testBit]
  by_cases hi : i < n
  · rw [h i hi, Bool.and_false]
  · rw [decide_eq_false hi, Bool.false_and]

theorem or4 (a b c d : Bool) : (a || b || (c || d)) = (a || c || (b || d)) := by
  cases a <;> cases b <;> cases c <;> rfl

theorem any_or {α : Type} (l : List α) (p q : α → Bool) :
    l.any (fun a => p a || q a) = (l.any p || l.any q) := by
  induction l with
  | nil => rfl
  | cons a l ih => rw [List.any_cons, ih, or4]; rfl

theorem vjoin_semilattice : Fix.IsSemilattice vjoin where
  comm a b := by simp only [vjoin]; rw [Nat.or_comm a.1, Nat.or_comm a.2]
  assoc a b c := by simp only [vjoin]; rw [Nat.or_assoc, Nat.or_assoc]
  idem a := by simp only [vjoin, Nat.or_self]

theorem vbot_vjoin (x : V) : vjoin vbot x = x := by simp only [vjoin, vbot, Nat.zero_or]

theorem vjoin_fst (x y : V) : (vjoin x y).1 = x.1 ||| y.1 := rfl
theorem vjoin_snd (x y : V) : (vjoin x y).2 = x.2 ||| y.2 := rfl
theorem vjoin_mk (a b c d : Nat) : vjoin (a, b) (c, d) = (a ||| c, b ||| d) := rfl

/-- `f` treats every tainted register on its own: a union of tainted sets goes to the `op`-combination of the two
images and the empty set to `e`. For a test (`Prime`: `op := or`) a union passes iff one of its parts does; a set
transformer (`Distr`: `op := |||`) distributes over unions; a transfer triple (`TriHom`) does both. All three are closed
under composition with a `Distr` (`Hom.comp`), which is how the fold over the `Def`s of a block inherits them. -/
structure Hom {β : Type} (op : β → β → β) (e : β) (f : Nat → β) : Prop where
  or : ∀ s t, f (s ||| t) = op (f s) (f t)
  zero : f 0 = e

abbrev Prime (p : Nat → Bool) : Prop := Hom or false p
abbrev Distr (g : Nat → Nat) : Prop := Hom HOr.hOr 0 g

theorem Hom.comp {β : Type} {op : β → β → β} {e : β} {f : Nat → β} (hf : Hom op e f) {g : Nat → Nat} (hg : Distr g) :
    Hom op e (fun s => f (g s)) :=
  ⟨fun s t => (congrArg f (hg.or s t)).trans (hf.or _ _), (congrArg f hg.zero).trans hf.zero⟩

theorem Distr.id : Distr (fun s => s) := ⟨fun _ _ => rfl, rfl⟩
theorem Distr.empty : Distr (fun _ => 0) := ⟨fun _ _ => rfl, rfl⟩
theorem Prime.false : Prime (fun _ => false) := ⟨fun _ _ => rfl, rfl⟩
theorem Prime.ne_zero : Prime (· != 0) where
  or s t := by
    rw [Bool.eq_iff_iff]
    simp [Nat.or_eq_zero_iff, Decidable.imp_iff_not_or]
  zero := rfl

theorem Prime.disj {p q : Nat → Bool} (hp : Prime p) (hq : Prime q) : Prime (fun s => p s || q s) :=
  ⟨fun s t => by rw [hp.or, hq.or]; exact or4 .., by rw [hp.zero, hq.zero]; rfl⟩

theorem Prime.any {α : Type} (l : List α) {p : α → Nat → Bool} (h : ∀ a, Prime (p a)) :
    Prime (fun s => l.any (p · s)) :=
  ⟨fun s t => (List.any_congr rfl fun a => (h a).or s t).trans (any_or ..),
    List.any_eq_false.mpr fun a _ => by rw [(h a).zero]; exact Bool.false_ne_true⟩

section Distrib
variable (pr : Project) (U : List Variable)

theorem memV_prime (v : Variable) : Prime (memV U · v) := ⟨fun _ _ => Nat.testBit_or .., Nat.zero_testBit _⟩

theorem anyTainted_prime (vs : List Variable) : Prime (anyTainted U · vs) := Prime.any vs (memV_prime U)

/-- **C15-eval-inputs.** `eval` is tainted iff some input variable of the expression is tainted. -/
theorem evalT_iff_inputVars (s : Nat) (e : Expression) : evalT U s e = e.inputVars.any (memV U s) := by
  induction e with
  | Var v => simp [evalT, Expression.inputVars]
  | Const _ _ => simp [evalT, Expression.inputVars]
  | BinOp _ l r ihl ihr => simp [evalT, Expression.inputVars, ihl, ihr, List.any_append]
  | UnOp _ a ih => simpa [evalT, Expression.inputVars] using ih
  | Cast _ _ a ih => simpa [evalT, Expression.inputVars] using ih
  | Unknown _ _ => simp [evalT, Expression.inputVars]
  | Subpiece _ _ a ih => simpa [evalT, Expression.inputVars] using ih

theorem evalT_prime (e : Expression) : Prime (evalT U · e) := by
  simp only [evalT_iff_inputVars]
  exact anyTainted_prime U _

/-- **C15-eval.** An expression is tainted in a union of tainted sets iff it is tainted in one of
them (`State::eval` looks at each input register on its own). -/
theorem evalT_or (s t : Nat) (e : Expression) : evalT U (s ||| t) e = (evalT U s e || evalT U t e) :=
  (evalT_prime U e).or s t

/-- **C15-overwrite.** `set_register_taint` on a union: the written register gets the new taint
(an overwrite with an untainted value ends the dependence), every other register keeps its own. -/
theorem setReg_distr (v : Variable) {p : Nat → Bool} (hp : Prime p) : Distr (fun s => setReg U s v (p s)) where
  or s t := by
    rw [hp.or]
    simp only [setReg, ofPred_or]
    congr 1
    funext i
    by_cases h : i = U.idxOf v <;> simp [h, Nat.testBit_or]
  zero := by
    rw [hp.zero]
    refine ofPred_eq_zero _ _ fun i _ => ?_
    by_cases h : i = U.idxOf v <;> simp [h]

theorem testBit_setReg (s : Nat) (v : Variable) (b : Bool) (i : Nat) :
    (setReg U s v b).testBit i = (decide (i < U.length) && (if i = U.idxOf v then b else s.testBit i)) := by
  simp [setReg, testBit_ofPred]

theorem keepRegs_distr (k : List Variable) : Distr (keepRegs U · k) where
  or s t := by simp only [keepRegs, ofPred_or, Nat.testBit_or, Bool.and_or_distrib_right]
  zero := ofPred_eq_zero _ _ fun i _ => by rw [Nat.zero_testBit, Bool.false_and]

/-- **C15-clobber.** After a call exactly the tainted callee-saved registers stay tainted. -/
theorem testBit_keepRegs (s : Nat) (k : List Variable) (i : Nat) :
    (keepRegs U s k).testBit i = (decide (i < U.length) && (s.testBit i && (k.map U.idxOf).contains i)) := by
  simp [keepRegs, testBit_ofPred]

theorem externParamsTainted_prime (sym : ExternSymbol) : Prime (externParamsTainted U · sym) :=
  Prime.any sym.parameters fun a => by
    cases a with
    | Register e _ => exact evalT_prime U e
    | Stack _ _ _ => exact Prime.false

theorem genericParamsTainted_prime (hint : Option String) : Prime (genericParamsTainted pr U · hint) := by
  unfold genericParamsTainted
  cases specificCconv pr hint with
  | some cc => exact anyTainted_prime U _
  | none => exact Prime.ne_zero

theorem returnValuesTainted_prime (hint : Option String) : Prime (returnValuesTainted pr U · hint) := by
  unfold returnValuesTainted
  cases specificCconv pr hint with
  | some cc => exact anyTainted_prime U _
  | none => exact Prime.ne_zero

theorem returnValuesTainted_zero (hint : Option String) : returnValuesTainted pr U 0 hint = false :=
  (returnValuesTainted_prime pr U hint).zero

theorem afterGenericCall_distr (hint : Option String) : Distr (afterGenericCall pr U · hint) := by
  unfold afterGenericCall
  cases specificCconv pr hint with
  | some cc => exact keepRegs_distr U _
  | none => exact Distr.id

theorem condTainted_prime (j : Term Jmp) : Prime (condTainted U · j) := by
  unfold condTainted
  cases j.term <;> first | exact Prime.false | exact evalT_prime U _

theorem sinkDef_prime (d : Def) : Prime (sinkDef U · d) := by
  cases d <;> first | exact Prime.false | exact evalT_prime U _

theorem gDef_distr (d : Def) : Distr (gDef U · d) := by
  cases d with
  | Load var a => exact setReg_distr U var Prime.false
  | Store a x => exact Distr.id
  | Assign var value => exact setReg_distr U var (evalT_prime U value)

/-- **C15-def-distributive.** The effect of a `Def` on a union of tainted sets is the union of its
effects: the taint of each register propagates independently. -/
theorem gDef_or (s t : Nat) (d : Def) : gDef U (s ||| t) d = gDef U s d ||| gDef U t d := (gDef_distr U d).or s t

theorem gDefs_distr (ds : List (Term Def)) : Distr (gDefs U ds) := by
  induction ds with
  | nil => exact Distr.id
  | cons d ds ih => exact ih.comp (gDef_distr U d.term)

theorem blkDefs_prime (ds : List (Term Def)) : Prime (blkDefs U ds) := by
  induction ds with
  | nil => exact Prime.false
  | cons d ds ih => exact (sinkDef_prime U d.term).disj (ih.comp (gDef_distr U d.term))

theorem updateDef_spec (s : Nat) (d : Def) (hs : s ≠ 0) :
    updateDef U s d = if sinkDef U s d then .warn else .cont (gDef U s d) := by
  unfold updateDef
  rw [if_neg hs]
  cases d with
  | Load var a => cases h : evalT U s a <;> simp [sinkDef, gDef, h]
  | Store a x => cases h : evalT U s a <;> simp [sinkDef, gDef, h]
  | Assign var value => simp [sinkDef, gDef]

/-- the `try_fold` over the `Def`s of a block: a warning iff some `Def` is a sink for the state that
reaches it; otherwise the composed effect (the fold stops early only if the state became empty,
and then the composed effect is empty, too) -/
theorem runDefs_spec (ds : List (Term Def)) (s : Nat) :
    match runDefs U ds s with
    | .warn _ => blkDefs U ds s = true
    | .stop => blkDefs U ds s = false ∧ gDefs U ds s = 0
    | .cont s' => blkDefs U ds s = false ∧ gDefs U ds s = s' := by
  induction ds generalizing s with
  | nil => simp [runDefs, blkDefs, gDefs]
  | cons d ds ih =>
    by_cases hs : s = 0
    · subst hs
      simp [runDefs, updateDef, (blkDefs_prime U _).zero, (gDefs_distr U _).zero]
    · simp only [runDefs, updateDef_spec U s d.term hs]
      cases hk : sinkDef U s d.term
      · simp only [blkDefs, gDefs, hk, Bool.false_or]
        exact ih (gDef U s d.term)
      · simp [hk, blkDefs]

end Distrib

section TriLaws
variable (pr : Project) (U : List Variable)

def Tri.join (a b : Tri) : Tri := ⟨a.blk || b.blk, vjoin a.g b.g, a.warn || b.warn⟩

abbrev TriHom (f : Nat → Tri) : Prop := Hom Tri.join ⟨false, vbot, false⟩ f

theorem TriHom.bot : TriHom (fun _ => ⟨false, vbot, false⟩) :=
  ⟨fun _ _ => by simp only [Tri.join, vjoin, vbot, Nat.or_self, Bool.or_self], rfl⟩

theorem TriHom.mk {b w : Nat → Bool} {g : Nat → Nat} (hb : Prime b) (hg : Distr g) (hw : Prime w) :
    TriHom (fun s => ⟨b s, (g s, 0), w s⟩) :=
  ⟨fun s t => by rw [hb.or, hg.or, hw.or]; simp only [Tri.join, vjoin, Nat.or_self],
    by rw [hb.zero, hg.zero, hw.zero]; rfl⟩

theorem blockTri_hom (defs : List (Term Def)) : TriHom (blockTri U defs) :=
  .mk (blkDefs_prime U defs) (gDefs_distr U defs) (blkDefs_prime U defs)

theorem jumpTri_hom (jmp : Term Jmp) (untaken : Option (Term Jmp)) : TriHom (jumpTri U · jmp untaken) :=
  .mk ((condTainted_prime U jmp).disj (by cases untaken <;> first | exact Prime.false | exact condTainted_prime U _))
    Distr.id Prime.false

theorem genericTri_hom (hint : Option String) : TriHom (genericTri pr U · hint) :=
  .mk (genericParamsTainted_prime pr U hint) (afterGenericCall_distr pr U hint) (genericParamsTainted_prime pr U hint)

theorem stubTri_hom (jmp : Term Jmp) : TriHom (stubTri pr U · jmp) := by
  unfold stubTri
  cases jmp.term with
  | Call target _ =>
    simp only
    cases pr.program.externSymbols.find? (fun sy => sy.tid == target) with
    | none => exact TriHom.bot
    | some sym =>
      simp only
      cases externCconv pr sym with
      | some cc => exact .mk (externParamsTainted_prime U sym) (keepRegs_distr U _) (externParamsTainted_prime U sym)
      | none => exact .mk (externParamsTainted_prime U sym) Distr.empty (externParamsTainted_prime U sym)
  | CallInd _ _ => exact genericTri_hom pr U none
  | _ => exact TriHom.bot

theorem edgeTri_vjoin (e : Cfg.EdgeRef) (x y : V) :
    edgeTri pr U e (vjoin x y) = (edgeTri pr U e x).join (edgeTri pr U e y) := by
  obtain ⟨src, dst, label⟩ := e
  cases label with
  | Block =>
    simp only [edgeTri]
    cases src.getBlock? with
    | none => exact (TriHom.bot.or 0 0)
    | some b => exact (blockTri_hom U b.term.defs).or x.1 y.1
  | Jump jmp untaken => exact (jumpTri_hom U jmp untaken).or x.1 y.1
  | Call jmp =>
    simp only [edgeTri, Tri.join, (genericParamsTainted_prime pr U _).or, vjoin, vbot, Nat.or_self, Bool.or_self]
  | ExternCallStub jmp => exact (stubTri_hom pr U jmp).or x.1 y.1
  | ReturnCombine callTerm =>
    cases src with
    | CallReturn c ret =>
      simp only [edgeTri, Tri.join, vjoin_fst, vjoin_snd, (genericTri_hom pr U _).or,
        (returnValuesTainted_prime pr U _).or, Bool.and_or_distrib_left, Tri.mk.injEq, true_and]
      exact or4 ..
    | _ => exact (TriHom.bot.or 0 0)
  | _ => simp only [edgeTri, Tri.join, vjoin, Nat.or_self, Bool.or_self]

/-- **C15-distributive (edge level).** For every edge of the graph: the blocking test and the
warning test of a union of states are the disjunctions of the tests on the parts, and the propagated
state is the union of the propagated parts. -/
theorem edgeTri_join (e : Cfg.EdgeRef) (x y : V) :
    (edgeTri pr U e (vjoin x y)).blk = ((edgeTri pr U e x).blk || (edgeTri pr U e y).blk) ∧
    (edgeTri pr U e (vjoin x y)).g = vjoin (edgeTri pr U e x).g (edgeTri pr U e y).g ∧
    (edgeTri pr U e (vjoin x y)).warn = ((edgeTri pr U e x).warn || (edgeTri pr U e y).warn) := by
  rw [edgeTri_vjoin]
  exact ⟨rfl, rfl, rfl⟩

end TriLaws

section TriForm
variable (pr : Project) (U : List Variable)

theorem norm_vbot : norm vbot = none := if_pos rfl

theorem optV_some (s : Nat) : optV (some s) = norm (s, 0) := rfl

theorem updateCallGeneric_spec (s : Nat) (hint : Option String) :
    updateCallGeneric pr U s hint =
      if genericParamsTainted pr U s hint then (none, true) else (some (afterGenericCall pr U s hint), false) := rfl

theorem isEmpty_ite (b : Bool) (t : Tid) : (if b then [t] else []).isEmpty = !b := by
  cases b <;> rfl

/- The callbacks return nothing for the empty state by an explicit test; their triples do so because a `TriHom`
maps the empty state to "not blocked, nothing propagated, no warning" (`Hom.zero`). -/

theorem updateJump_tri (s : Nat) (jmp : Term Jmp) (untaken : Option (Term Jmp)) :
    optV (updateJump U s jmp untaken) =
      if (jumpTri U s jmp untaken).blk then none else norm (jumpTri U s jmp untaken).g := by
  by_cases hs : s = 0
  · subst hs
    rw [(jumpTri_hom U jmp untaken).zero]
    rfl
  · unfold updateJump jumpTri
    cases untaken with
    | none => cases h1 : condTainted U s jmp <;> simp [hs, optV]
    | some u => cases h1 : condTainted U s jmp <;> cases h2 : condTainted U s u <;> simp [hs, optV, h2]

theorem updateCallGeneric_tri (s : Nat) (hint : Option String) :
    optV (updateCallGeneric pr U s hint).1 =
      (if (genericTri pr U s hint).blk then none else norm (genericTri pr U s hint).g) ∧
    (updateCallGeneric pr U s hint).2 = (genericTri pr U s hint).warn := by
  unfold updateCallGeneric genericTri
  cases genericParamsTainted pr U s hint <;> exact ⟨rfl, rfl⟩

theorem updateCallStub_tri (s : Nat) (jmp : Term Jmp) :
    optV (updateCallStub pr U s jmp).1 =
      (if (stubTri pr U s jmp).blk then none else norm (stubTri pr U s jmp).g) ∧
    (updateCallStub pr U s jmp).2 = (stubTri pr U s jmp).warn := by
  by_cases hs : s = 0
  · subst hs
    rw [(stubTri_hom pr U jmp).zero]
    exact ⟨rfl, rfl⟩
  · unfold updateCallStub stubTri
    rw [if_neg hs]
    cases jmp.term with
    | Call target _ =>
      simp only
      cases pr.program.externSymbols.find? (fun sy => sy.tid == target) with
      | none => exact ⟨rfl, rfl⟩
      | some sym =>
        simp only
        cases externParamsTainted U s sym with
        | true => exact ⟨rfl, rfl⟩
        | false => cases externCconv pr sym <;> exact ⟨rfl, rfl⟩
    | CallInd _ _ => exact updateCallGeneric_tri pr U s none
    | _ => exact ⟨rfl, rfl⟩

/-- **C15-transfer-form**, **C15-warning-form.** Every edge transfer is `if blk v then none else
norm (g v)`, and a warning is generated iff `warn v`. -/
theorem edgeOut_eq_tri (e : Cfg.EdgeRef) (v : V) :
    (edgeOut pr U e v).next = (if (edgeTri pr U e v).blk then none else norm (edgeTri pr U e v).g) ∧
    (edgeOut pr U e v).warns.isEmpty = !(edgeTri pr U e v).warn := by
  obtain ⟨src, dst, label⟩ := e
  cases label with
  | Block =>
    cases hb : src.getBlock? with
    | none => simp only [edgeOut, edgeTri, hb]; exact ⟨rfl, rfl⟩
    | some b =>
      have h := runDefs_spec U b.term.defs v.1
      simp only [edgeOut, edgeTri, hb]
      cases hr : runDefs U b.term.defs v.1 <;> rw [hr] at h <;> simp [blockTri, h, norm, vbot]
  | Jump jmp untaken => exact ⟨updateJump_tri U v.1 jmp untaken, rfl⟩
  | Call jmp => exact ⟨rfl, isEmpty_ite ..⟩
  | ExternCallStub jmp =>
    have h := updateCallStub_tri pr U v.1 jmp
    exact ⟨h.1, h.2 ▸ isEmpty_ite ..⟩
  | CrCallStub => exact ⟨rfl, rfl⟩
  | CrReturnStub => exact ⟨rfl, rfl⟩
  | CallCombine _ => exact ⟨rfl, rfl⟩
  | ReturnCombine callTerm =>
    cases src with
    | CallReturn c ret =>
      have h := updateCallGeneric_tri pr U v.1 ret.2.term.callingConvention
      refine ⟨h.1, ?_⟩
      simp only [edgeOut, edgeTri, ← h.2]
      generalize (updateCallGeneric pr U v.1 _).2 = a
      generalize returnValuesTainted pr U v.2 _ = b
      cases ret.1.term.jmps <;> cases a <;> cases b <;> rfl
    | _ => exact ⟨rfl, rfl⟩

theorem edgeOut_next (e : Cfg.EdgeRef) (v : V) :
    (edgeOut pr U e v).next =
      if (edgeTri pr U e v).blk then none else norm (edgeTri pr U e v).g :=
  (edgeOut_eq_tri pr U e v).1

theorem edgeOut_warns (e : Cfg.EdgeRef) (v : V) :
    (edgeOut pr U e v).warns.isEmpty = !(edgeTri pr U e v).warn :=
  (edgeOut_eq_tri pr U e v).2

end TriForm

section Inst
variable (pr : Project) (U : List Variable)

def toT (e : IEdge) : Flow.TEdge V :=
  ⟨e.src, e.dst, fun v => (edgeTri pr U e.ref v).blk, fun v => (edgeTri pr U e.ref v).g,
   fun v => (edgeTri pr U e.ref v).warn⟩

theorem laws (es : List IEdge) : Flow.Laws vjoin vbot (es.map (toT pr U)) where
  semi := vjoin_semilattice
  bot_join := vbot_vjoin
  blk_join := List.forall_mem_map.mpr fun ie _ x y => (edgeTri_join pr U ie.ref x y).1
  g_join := List.forall_mem_map.mpr fun ie _ x y => (edgeTri_join pr U ie.ref x y).2.1
  warn_join := List.forall_mem_map.mpr fun ie _ x y => (edgeTri_join pr U ie.ref x y).2.2

theorem flow_toT (e : IEdge) (v : V) : Flow.flow vbot (toT pr U e) v = (edgeOut pr U e.ref v).next := by
  rw [edgeOut_next]; rfl

theorem warn_toT (e : IEdge) (v : V) : (toT pr U e).warn v = !(edgeOut pr U e.ref v).warns.isEmpty := by
  rw [edgeOut_warns, Bool.not_not]; rfl

theorem warn_toT_iff (e : IEdge) (v : V) : (toT pr U e).warn v = true ↔ (edgeOut pr U e.ref v).warns ≠ [] := by
  rw [warn_toT, Bool.not_eq_true', ← Bool.not_eq_true, List.isEmpty_iff]

theorem pairEdges_eq (W : Nat) (e : IEdge) : pairEdges pr U W e = Flow.fEdges vbot W (toT pr U e) := by
  simp only [pairEdges, Flow.fEdges, warnEdge, flowEdge]
  congr 1
  · congr 1
    funext v
    simp only [Flow.wflow, warn_toT]
    cases (edgeOut pr U e.ref v).warns.isEmpty <;> rfl
  · congr 2
    funext v
    exact (flow_toT pr U e v).symm

theorem problem_eq (es : List IEdge) (W : Nat) :
    problem pr U es W = Flow.problem vjoin vbot (es.map (toT pr U)) W := by
  simp only [problem, Flow.problem, List.flatMap_map]
  congr 2
  funext e
  exact pairEdges_eq pr U W e

theorem pathVal_iff (es : List IEdge) {n0 : Nat} {v0 : V} {n : Nat} {v : V} :
    PathVal pr U es n0 v0 n v ↔ Flow.PathVal vbot (es.map (toT pr U)) n0 v0 n v := by
  constructor
  · intro h
    induction h with
    | init => exact .init
    | step e _ he hsrc hnext ih =>
      exact .step (toT pr U e) ih (List.mem_map_of_mem he) hsrc ((flow_toT pr U e _).trans hnext)
  · intro h
    induction h with
    | init => exact .init
    | step e _ he hsrc hnext ih =>
      obtain ⟨ie, hie, rfl⟩ := List.mem_map.mp he
      exact .step ie ih hie hsrc ((flow_toT pr U ie _).symm.trans hnext)

theorem pathValM_iff (es : List IEdge) {n0 : Nat} {v0 : V} {S : Nat → Option V} {n : Nat} {v : V} :
    PathValM pr U es S n0 v0 n v ↔ Flow.PathValU vbot (es.map (toT pr U)) S n0 v0 n v := by
  constructor
  · intro h
    induction h with
    | init => exact .init
    | step e _ he hsrc hub hnext ih =>
      exact .step (toT pr U e) ih (List.mem_map_of_mem he) hsrc hub ((flow_toT pr U e _).trans hnext)
  · intro h
    induction h with
    | init => exact .init
    | step e _ he hsrc hub hnext ih =>
      obtain ⟨ie, hie, rfl⟩ := List.mem_map.mp he
      exact .step ie ih hie hsrc hub ((flow_toT pr U ie _).symm.trans hnext)

theorem pathWarn_iff (es : List IEdge) {n0 : Nat} {v0 : V} :
    PathWarn pr U es n0 v0 ↔ Flow.PathWarn vbot (es.map (toT pr U)) n0 v0 := by
  constructor
  · rintro ⟨n, v, e, hp, he, hsrc, hw⟩
    exact ⟨n, v, toT pr U e, (pathVal_iff pr U es).mp hp, List.mem_map_of_mem he, hsrc,
      (warn_toT_iff pr U e v).mpr hw⟩
  · rintro ⟨n, v, e, hp, he, hsrc, hw⟩
    obtain ⟨ie, hie, rfl⟩ := List.mem_map.mp he
    exact ⟨n, v, ie, (pathVal_iff pr U es).mpr hp, hie, hsrc, (warn_toT_iff pr U ie v).mp hw⟩

theorem noInterference_iff (es : List IEdge) {n0 : Nat} {v0 : V} :
    NoInterference pr U es n0 v0 ↔ Flow.NoInterference vbot (es.map (toT pr U)) n0 v0 := by
  constructor
  · intro h n x y e hx hy he hsrc hb
    obtain ⟨ie, hie, rfl⟩ := List.mem_map.mp he
    exact h n x y ie ((pathVal_iff pr U es).mpr hx) ((pathVal_iff pr U es).mpr hy) hie hsrc hb
  · intro h n x y e hx hy he hsrc hb
    exact h n x y (toT pr U e) ((pathVal_iff pr U es).mp hx) ((pathVal_iff pr U es).mp hy)
      (List.mem_map_of_mem he) hsrc hb

end Inst

section Main
variable (pr : Project) (U : List Variable) (es : List IEdge) (W : Nat) (n0 : Nat) (v0 : V)

def FreshW : Prop := (∀ e ∈ es, e.src ≠ W ∧ e.dst ≠ W) ∧ n0 ≠ W

theorem freshW_map (h : FreshW es W n0) : ∀ e ∈ es.map (toT pr U), e.src ≠ W ∧ e.dst ≠ W :=
  List.forall_mem_map.mpr h.1

theorem init_initState : Fix.Init (initState n0 v0) := by
  intro i a h
  by_cases hi : i = n0
  · simp [initState, hi]
  · simp [initState, hi] at h

theorem warned_iff (s : Fix.State V) : warned W s = true ↔ ∃ b, s.vals W = some b :=
  Option.isSome_iff_exists

theorem sinv_evolves (hW : FreshW es W n0) {t : Fix.State V}
    (r : Fix.Evolves (problem pr U es W) (initState n0 v0) t) :
    Flow.SInv vjoin vbot (es.map (toT pr U)) n0 v0 W t := by
  rw [problem_eq] at r
  exact Flow.sound_evolves (laws pr U es) (freshW_map pr U es W n0 hW) (Flow.sinv_init hW.2) r

theorem warn_sound_evolves (hW : FreshW es W n0) {t : Fix.State V}
    (r : Fix.Evolves (problem pr U es W) (initState n0 v0) t) (hw : warned W t = true) :
    PathWarn pr U es n0 v0 :=
  let ⟨b, hb⟩ := (warned_iff W t).mp hw
  (pathWarn_iff pr U es).mpr ((sinv_evolves pr U es W n0 v0 hW r).2 b hb)

/-- **C15-sound (bounded solver).** For every program graph, every scheduler and every state the
loop of `compute_with_max_steps(k)` can be in (finished or not): if a warning was generated for the
source, then some control-flow path from the return site of the source call, along which the taint —
propagated by the per-instruction rules on that path alone — passes no conditional jump on a tainted
condition, reaches a sink (load/store through a tainted address, call with a tainted parameter
register, return of a tainted return register to a caller). -/
theorem warn_sound (hW : FreshW es W n0) {k : Nat} {c : Fix.BState V}
    (r : Fix.BRun (problem pr U es W) k (Fix.BState.start (initState n0 v0)) c)
    (hw : warned W c.st = true) : PathWarn pr U es n0 v0 :=
  warn_sound_evolves pr U es W n0 v0 hW r.evolves hw

/-- **C15-sound (unbounded solver `compute`).** -/
theorem warn_sound_run (hW : FreshW es W n0) {t : Fix.State V}
    (r : Fix.Run (problem pr U es W) (initState n0 v0) t)
    (hw : warned W t = true) : PathWarn pr U es n0 v0 :=
  warn_sound_evolves pr U es W n0 v0 hW r.evolves hw

/-- every value of the result is a union of path states (so a register is tainted at a node only if
some path taints it there) -/
theorem values_are_path_unions (hW : FreshW es W n0) {k : Nat} {c : Fix.BState V}
    (r : Fix.BRun (problem pr U es W) k (Fix.BState.start (initState n0 v0)) c) {n : Nat} {v : V}
    (hn : n ≠ W) (hv : c.st.vals n = some v) : Flow.Gen vjoin vbot (es.map (toT pr U)) n0 v0 n v :=
  (sinv_evolves pr U es W n0 v0 hW r.evolves).1 n v hn hv

theorem closed_of_finished {k : Nat} {c : Fix.BState V}
    (r : Fix.BRun (problem pr U es W) k (Fix.BState.start (initState n0 v0)) c)
    (hdone : c.st.stabilized) (hstab : c.finish.stabilized) :
    Fix.Closed (Flow.problem vjoin vbot (es.map (toT pr U)) W) c.st.vals ∧
      ∃ a0, c.st.vals n0 = some a0 ∧ vjoin v0 a0 = a0 :=
  ⟨problem_eq pr U es W ▸
      Fix.bounded_closed_of_stabilized vjoin_semilattice (init_initState n0 v0) r hdone hstab,
    r.evolves.grows vjoin_semilattice n0 v0 (if_pos rfl)⟩

/-- **C15-complete w.r.t. the merged result.** If `compute_with_max_steps(k)` finished and gave up no
node, then every path to a sink that is not stopped with respect to its own state AND not blocked with
respect to the merged states of the result generates the warning. -/
theorem warn_complete_merged {k : Nat} {c : Fix.BState V}
    (r : Fix.BRun (problem pr U es W) k (Fix.BState.start (initState n0 v0)) c)
    (hdone : c.st.stabilized) (hstab : c.finish.stabilized)
    {n : Nat} {v : V} {e : IEdge} (hp : PathValM pr U es c.st.vals n0 v0 n v) (he : e ∈ es)
    (hsrc : e.src = n) (hw : (edgeOut pr U e.ref v).warns ≠ []) : warned W c.st = true := by
  obtain ⟨hcl, a0, ha0, hle⟩ := closed_of_finished pr U es W n0 v0 r hdone hstab
  exact (warned_iff W c.st).mpr <| Flow.complete_merged (laws pr U es) hcl ha0 hle
    ((pathValM_iff pr U es).mp hp) (List.mem_map_of_mem he) hsrc
    ((warn_toT_iff pr U e v).mpr hw)

/-
**C15 (the property as stated).**  For every program (graph) and every source:
    the check reports the source  ⇔  `PathWarn`.
The direction ⇒ is `warn_sound` (all programs). The direction ⇐ does NOT hold for all programs: the
solver merges the states of all paths at a node before it applies the blocking test of an out-edge,
so a conditional jump on a register that is tainted on ANOTHER path only stops this path as well
(known finding `fn-merged-check`, corpus/C15/merged_check.jsonl). It holds whenever merging cannot
do that (`NoInterference`), and in general for the paths of `warn_complete_merged`.
-/

/-- **C15-iff (partial: under `NoInterference`).** If the bounded solver finished without giving up
a node and the program has no interference for this source, the source is reported iff some
unchecked path reaches a sink. -/
theorem warn_iff_pathWarn_partial (hW : FreshW es W n0) {k : Nat} {c : Fix.BState V}
    (r : Fix.BRun (problem pr U es W) k (Fix.BState.start (initState n0 v0)) c)
    (hdone : c.st.stabilized) (hstab : c.finish.stabilized)
    (hni : NoInterference pr U es n0 v0) :
    warned W c.st = true ↔ PathWarn pr U es n0 v0 := by
  obtain ⟨hcl, a0, ha0, hle⟩ := closed_of_finished pr U es W n0 v0 r hdone hstab
  rw [warned_iff, pathWarn_iff]
  exact Flow.iff_of_noInterference (laws pr U es) (freshW_map pr U es W n0 hW)
    (sinv_evolves pr U es W n0 v0 hW r.evolves) hcl ha0 hle ((noInterference_iff pr U es).mp hni)

end Main

section Exec
variable (pr : Project) (U : List Variable)

theorem processNode_fst (P : Fix.Problem V) (W : Nat) (outs : List IEdge) (s : Fix.State V) (p : Nat) :
    (processNode pr U P W outs s p).1 = Fix.updateEdges P s (outs.flatMap (pairEdges pr U W)) := by
  suffices h : ∀ acc : Fix.State V × List Tid, (outs.foldl (processStep pr U P W p) acc).1 =
      Fix.updateEdges P acc.1 (outs.flatMap (pairEdges pr U W)) from h (s, [])
  induction outs with
  | nil => intro acc; rfl
  | cons e outs ih =>
    intro acc
    rw [List.foldl_cons, ih]
    simp only [processStep, List.flatMap_cons, Fix.updateEdges, List.foldl_append]

theorem mem_outEdgesOf {es : List IEdge} {p : Nat} {e : IEdge} : e ∈ outEdgesOf es p ↔ e ∈ es ∧ e.src = p := by
  simp [outEdgesOf]

theorem src_of_mem_pairEdges {W : Nat} {e : IEdge} {fe : Fix.Edge V} (h : fe ∈ pairEdges pr U W e) :
    fe.src = e.src := by
  simp only [pairEdges, List.mem_cons, List.not_mem_nil, or_false] at h
  rcases h with rfl | rfl <;> rfl

theorem outEdges_ok (es : List IEdge) (W : Nat) (p : Nat) :
    Fix.OutEdges (problem pr U es W) p ((outEdgesOf es p).flatMap (pairEdges pr U W)) := by
  constructor
  · intro fe hfe
    obtain ⟨e, he, hfe⟩ := List.mem_flatMap.mp hfe
    have he' := mem_outEdgesOf.mp he
    exact ⟨List.mem_flatMap.mpr ⟨e, he'.1, hfe⟩, (src_of_mem_pairEdges pr U hfe).trans he'.2⟩
  · intro fe hfe hsrc
    obtain ⟨e, he, hfe'⟩ := List.mem_flatMap.mp hfe
    exact List.mem_flatMap.mpr
      ⟨e, mem_outEdgesOf.mpr ⟨he, (src_of_mem_pairEdges pr U hfe').symm.trans hsrc⟩, hfe'⟩

theorem execLoop_induction (P : Fix.Problem V) (W : Nat) (outE : Nat → List IEdge) (prio : List Nat) (k : Nat)
    (I : Fix.BState V → List Tid → Prop)
    (hproc : ∀ b ws p, b.st.wl p = true → b.steps p < k → I b ws →
      I { st := (processNode pr U P W (outE p) (b.st.remove p) p).1
          steps := fun i => if i = p then b.steps i + 1 else b.steps i, nonStab := b.nonStab }
        (ws ++ (processNode pr U P W (outE p) (b.st.remove p) p).2))
    (hgive : ∀ b ws p, b.st.wl p = true → ¬ b.steps p < k → I b ws →
      I { st := b.st.remove p, steps := b.steps
          nonStab := fun i => if i = p then true else b.nonStab i } ws) :
    ∀ (fuel : Nat) (b : Fix.BState V) (ws : List Tid), I b ws →
      I (execLoop pr U P W outE prio k fuel b ws).1 (execLoop pr U P W outE prio k fuel b ws).2 := by
  intro fuel
  induction fuel with
  | zero => intro b ws h; exact h
  | succ fuel ih =>
    intro b ws h
    unfold execLoop
    cases hp : pickNode prio b.st.wl with
    | none => exact h
    | some p =>
      have hwl : b.st.wl p = true := List.find?_some hp
      dsimp only
      by_cases hlt : b.steps p < k
      · rw [if_pos hlt]
        exact ih _ _ (hproc b ws p hwl hlt h)
      · rw [if_neg hlt]
        exact ih _ _ (hgive b ws p hwl hlt h)

/-- **C15-exec.** The executable model of `compute_with_max_steps` with the real scheduler (highest
priority first, out-edges in petgraph order) performs a run of the bounded abstract machine — so all
theorems above apply to what the driver computes. -/
theorem execLoop_brun (es : List IEdge) (W : Nat) (prio : List Nat) (k : Nat) :
    ∀ (fuel : Nat) (b : Fix.BState V) (ws : List Tid),
      Fix.BRun (problem pr U es W) k b
        (execLoop pr U (problem pr U es W) W (outEdgesOf es) prio k fuel b ws).1 := by
  intro fuel b ws
  refine execLoop_induction pr U _ W _ prio k (fun c _ => Fix.BRun (problem pr U es W) k b c)
    (fun c _ p hwl hlt r => Fix.BRun.snoc r ?_) (fun c _ p hwl hlt r => Fix.BRun.snoc r (.giveUp c p hwl hlt))
    fuel b ws (.refl b)
  rw [processNode_fst]
  exact .process c p _ hwl hlt (outEdges_ok pr U es W p)

end Exec

section SpecExec
variable (pr : Project) (U : List Variable) (es : List IEdge)

theorem mem_prodNext {x y : Nat × V} :
    y ∈ prodNext pr U es x ↔ ∃ e ∈ es, e.src = x.1 ∧ (edgeOut pr U e.ref x.2).next = some y.2 ∧ e.dst = y.1 := by
  simp only [prodNext, List.mem_filterMap, List.mem_filter, beq_iff_eq]
  constructor
  · rintro ⟨e, ⟨he, hsrc⟩, h⟩
    cases hn : (edgeOut pr U e.ref x.2).next with
    | none => rw [hn] at h; cases h
    | some v' => rw [hn] at h; cases h; exact ⟨e, he, hsrc, hn, rfl⟩
  · rintro ⟨e, he, hsrc, hn, hd⟩
    exact ⟨e, ⟨he, hsrc⟩, by rw [hn, hd]⟩

theorem pathVal_iff_reach (n0 : Nat) (v0 : V) (n : Nat) (v : V) :
    PathVal pr U es n0 v0 n v ↔ Reach.Reach (prodNext pr U es) (n0, v0) (n, v) := by
  constructor
  · intro h
    induction h with
    | init => exact .refl _
    | step e _ he hsrc hn ih =>
      exact .tail ih ((mem_prodNext pr U es).mpr ⟨e, he, hsrc, hn, rfl⟩)
  · intro h
    generalize hx : (n, v) = x at h
    induction h generalizing n v with
    | refl => cases hx; exact .init
    | @tail b c _ hs ih =>
      subst hx
      obtain ⟨e, he, hsrc, hn, hd⟩ := (mem_prodNext pr U es).mp hs
      have := PathVal.step e (ih b.1 b.2 rfl) he hsrc hn
      rwa [hd] at this

/-- **C15-spec-exec** (with `specWarnB_iff`, `interferenceB_iff`). When the product search finished, its
visited set is exactly the set of (node, path state) pairs of the path specification. -/
theorem mem_reachStates (fuel n0 : Nat) (v0 : V) (hfin : (reachStates pr U es fuel n0 v0).2 = true)
    (n : Nat) (v : V) : (n, v) ∈ (reachStates pr U es fuel n0 v0).1 ↔ PathVal pr U es n0 v0 n v := by
  have hfin' : (Reach.dfs (prodNext pr U es) fuel [(n0, v0)] []).1 = [] := List.isEmpty_iff.mp hfin
  rw [pathVal_iff_reach]
  simp only [reachStates]
  rw [Reach.mem_dfs_iff _ _ _ hfin']
  simp

theorem specWarnB_iff (fuel n0 : Nat) (v0 : V) (hfin : (reachStates pr U es fuel n0 v0).2 = true) :
    specWarnB pr U es (reachStates pr U es fuel n0 v0).1 = true ↔ PathWarn pr U es n0 v0 := by
  simp only [specWarnB, List.any_eq_true, warnsAt, List.mem_filter, beq_iff_eq, Bool.not_eq_true',
    ← Bool.not_eq_true, List.isEmpty_iff]
  constructor
  · rintro ⟨⟨n, v⟩, hx, e, ⟨he, hsrc⟩, hw⟩
    exact ⟨n, v, e, (mem_reachStates pr U es fuel n0 v0 hfin n v).mp hx, he, hsrc, hw⟩
  · rintro ⟨n, v, e, hp, he, hsrc, hw⟩
    exact ⟨(n, v), (mem_reachStates pr U es fuel n0 v0 hfin n v).mpr hp, e, ⟨he, hsrc⟩, hw⟩

theorem interferenceB_iff (fuel n0 : Nat) (v0 : V) (hfin : (reachStates pr U es fuel n0 v0).2 = true) :
    interferenceB pr U es (reachStates pr U es fuel n0 v0).1 = false ↔ NoInterference pr U es n0 v0 := by
  rw [← Bool.not_eq_true]
  simp only [interferenceB, List.any_eq_true, List.mem_filter, Bool.and_eq_true, beq_iff_eq,
    Bool.not_eq_true']
  constructor
  · intro h n x y e hx hy he hsrc hb
    cases hbx : (edgeTri pr U e.ref x).blk with
    | true => rfl
    | false =>
      exact absurd ⟨(n, x), (mem_reachStates pr U es fuel n0 v0 hfin n x).mpr hx,
        (n, y), (mem_reachStates pr U es fuel n0 v0 hfin n y).mpr hy, rfl, e, ⟨he, hsrc⟩, hb, hbx⟩ h
  · rintro h ⟨⟨n, x⟩, hx, ⟨_, y⟩, hy, rfl, e, ⟨he, hsrc⟩, hb, hbx⟩
    rw [h n x y e ((mem_reachStates pr U es fuel n0 v0 hfin n x).mp hx)
      ((mem_reachStates pr U es fuel n0 v0 hfin n y).mp hy) he hsrc hb] at hbx
    cases hbx

end SpecExec

theorem mem_uniq (l : List String) (a : String) : a ∈ uniq l ↔ a ∈ l := by
  induction l with
  | nil => rfl
  | cons b l ih =>
    simp only [uniq]
    by_cases hb : b ∈ uniq l
    · simp only [hb, if_true, List.mem_cons, ih]
      exact ⟨.inr, fun h => h.elim (fun h => ih.mp (h ▸ hb)) id⟩
    · simp only [hb, if_false, List.mem_cons, ih]

theorem nodup_uniq (l : List String) : (uniq l).Nodup := by
  induction l with
  | nil => exact .nil
  | cons b l ih =>
    simp only [uniq]
    by_cases hb : b ∈ uniq l
    · rwa [if_pos hb]
    · rw [if_neg hb]
      exact List.nodup_cons.mpr ⟨hb, ih⟩

theorem dedupByAddr_addrs (ws : List Warning) :
    (dedupByAddr ws).map (·.srcAddr) = (uniq (ws.map (·.srcAddr))).mergeSort (fun a b => !(b < a)) := by
  simp only [dedupByAddr]
  have hmem : ∀ a ∈ (uniq (ws.map (·.srcAddr))).mergeSort (fun a b => !(b < a)), a ∈ ws.map (·.srcAddr) :=
    fun a ha => (mem_uniq _ a).mp (List.mem_mergeSort.mp ha)
  generalize (uniq (ws.map (·.srcAddr))).mergeSort (fun a b => !(b < a)) = sorted at hmem
  induction sorted with
  | nil => rfl
  | cons a as ih =>
    obtain ⟨w, hw, hwa⟩ := List.mem_map.mp (hmem a (List.mem_cons_self ..))
    have : (ws.reverse.find? (fun w' => w'.srcAddr == a)).isSome = true :=
      List.find?_isSome.mpr ⟨w, List.mem_reverse.mpr hw, by simp [hwa]⟩
    obtain ⟨w', hw'⟩ := Option.isSome_iff_exists.mp this
    have hw'a : w'.srcAddr = a := by simpa using List.find?_some hw'
    simp only [List.filterMap_cons, hw', List.map_cons, hw'a]
    rw [ih (fun b hb => hmem b (List.mem_cons_of_mem _ hb))]

/-- **C15-dedup.** `check_cwe` reports every source address at most once, … -/
theorem dedupByAddr_nodup (ws : List Warning) : ((dedupByAddr ws).map (·.srcAddr)).Nodup := by
  rw [dedupByAddr_addrs]
  exact (List.mergeSort_perm _ _).nodup_iff.mpr (nodup_uniq _)

/-- … an address is reported iff some warning was generated for it, … -/
theorem dedupByAddr_addr (ws : List Warning) (a : String) :
    a ∈ (dedupByAddr ws).map (·.srcAddr) ↔ a ∈ ws.map (·.srcAddr) := by
  rw [dedupByAddr_addrs, List.mem_mergeSort, mem_uniq]

/-- … and every reported warning is one of the generated ones. -/
theorem dedupByAddr_sub (ws : List Warning) (w : Warning) (h : w ∈ dedupByAddr ws) : w ∈ ws := by
  simp only [dedupByAddr, List.mem_filterMap] at h
  obtain ⟨a, _, hf⟩ := h
  exact List.mem_reverse.mp (List.mem_of_find?_eq_some hf)

section Consistency
variable (pr : Project) (U : List Variable)

theorem isSome_updateEdge_warn {P : Fix.Problem V} (hL : Fix.IsSemilattice P.join) (s : Fix.State V)
    (W : Nat) (e : IEdge) :
    ((Fix.updateEdge P s (warnEdge pr U W e)).vals W).isSome =
      ((s.vals W).isSome ||
        (match s.vals e.src with
          | some v => !(edgeOut pr U e.ref v).warns.isEmpty
          | none => false)) := by
  rcases Fix.updateEdge_cases P hL s (warnEdge pr U W e) with ⟨h, hsat⟩ | ⟨a, x, _, hsrc, hf, h, _⟩ <;>
    rw [h]
  · -- nothing stored: either no warning for the value at the start node, or `W` has a value already
    cases hv : s.vals e.src with
    | none => exact (Bool.or_false _).symm
    | some v =>
      cases hw : (edgeOut pr U e.ref v).warns.isEmpty with
      | true => simp only [hw, Bool.not_true, Bool.or_false]
      | false =>
        obtain ⟨b, hb, _⟩ := hsat v v hv (by simp only [warnEdge, hw]; rfl)
        rw [show s.vals W = some b from hb]; rfl
  · -- a value was stored at `W`: the transfer of the warning edge returned one
    have hw : (edgeOut pr U e.ref a).warns.isEmpty = false := by
      cases hw : (edgeOut pr U e.ref a).warns.isEmpty with
      | false => rfl
      | true => simp only [warnEdge, hw] at hf; cases hf
    rw [show s.vals e.src = some a from hsrc]
    simp only [hw, Bool.not_false, Bool.or_true]
    exact congrArg Option.isSome (if_pos rfl)

/-- evaluating one out-edge keeps "the warning node has a value iff a warning was generated" (`ws₀`:
the warnings generated before this node was taken from the worklist) -/
theorem processStep_consistent {P : Fix.Problem V} (hL : Fix.IsSemilattice P.join) (W : Nat) (p : Nat)
    (e : IEdge) (he : e.src = p ∧ e.dst ≠ W) (ws₀ : List Tid) (acc : Fix.State V × List Tid)
    (h : (acc.1.vals W).isSome = !(ws₀ ++ acc.2).isEmpty) :
    ((processStep pr U P W p acc e).1.vals W).isSome =
      !(ws₀ ++ (processStep pr U P W p acc e).2).isEmpty := by
  simp only [processStep, pairEdges, Fix.updateEdges, List.foldl_cons, List.foldl_nil]
  rw [Fix.vals_updateEdge_other _ (flowEdge pr U e) W (fun hc => he.2 hc.symm), isSome_updateEdge_warn pr U hL,
    he.1, h, ← List.append_assoc]
  generalize ws₀ ++ acc.2 = l
  cases acc.1.vals p with
  | none => simp
  | some v => cases l <;> cases (edgeOut pr U e.ref v).warns <;> rfl

theorem processNode_consistent {P : Fix.Problem V} (hL : Fix.IsSemilattice P.join) (W : Nat) (p : Nat)
    (outs : List IEdge)
    (houts : ∀ e ∈ outs, e.src = p ∧ e.dst ≠ W) (ws₀ : List Tid) (s : Fix.State V)
    (h : (s.vals W).isSome = !ws₀.isEmpty) :
    ((processNode pr U P W outs s p).1.vals W).isSome =
      !(ws₀ ++ (processNode pr U P W outs s p).2).isEmpty := by
  unfold processNode
  generalize hacc : (s, ([] : List Tid)) = acc
  have h : (acc.1.vals W).isSome = !(ws₀ ++ acc.2).isEmpty := by subst hacc; simpa using h
  clear hacc
  induction outs generalizing acc with
  | nil => exact h
  | cons e outs ih =>
    exact ih (fun e' he' => houts e' (List.mem_cons_of_mem _ he')) _
      (processStep_consistent pr U hL W p e (houts e (List.mem_cons_self ..)) ws₀ acc h)

/-- **C15-exec-warnings.** The executable solver returns a non-empty list of sinks iff the warning
node has a value at the end (so `warn_sound`/`warn_complete_merged` speak about the reported warnings). -/
theorem execLoop_consistent (es : List IEdge) (W : Nat) (hW : ∀ e ∈ es, e.src ≠ W ∧ e.dst ≠ W)
    (prio : List Nat) (k : Nat) :
    ∀ (fuel : Nat) (b : Fix.BState V) (ws : List Tid),
      (b.st.vals W).isSome = !ws.isEmpty →
      ((execLoop pr U (problem pr U es W) W (outEdgesOf es) prio k fuel b ws).1.st.vals W).isSome =
        !(execLoop pr U (problem pr U es W) W (outEdgesOf es) prio k fuel b ws).2.isEmpty :=
  execLoop_induction pr U _ W _ prio k (fun c ws => (c.st.vals W).isSome = !ws.isEmpty)
    (fun _ ws p _ _ h => processNode_consistent pr U (P := problem pr U es W) vjoin_semilattice W p _
      (fun e he => ⟨(mem_outEdgesOf.mp he).2, (hW e (mem_outEdgesOf.mp he).1).2⟩) ws _ h)
    (fun _ _ _ _ _ h => h)

end Consistency

section Finished
variable (pr : Project) (U : List Variable) (es : List IEdge) (W : Nat)

theorem problem_dst_mem (prio : List Nat) (hprio : ∀ e ∈ es, e.dst ∈ prio) (hWp : W ∈ prio) :
    ∀ fe ∈ (problem pr U es W).edges, fe.dst ∈ prio := by
  intro fe hfe
  obtain ⟨e, he, hfe⟩ := List.mem_flatMap.mp hfe
  simp only [pairEdges, List.mem_cons, List.not_mem_nil, or_false] at hfe
  rcases hfe with rfl | rfl
  · exact hWp
  · exact hprio e he

theorem stabilized_of_pickNode_none (prio : List Nat) (s : Fix.State V)
    (hsub : ∀ i, s.wl i = true → i ∈ prio) (h : pickNode prio s.wl = none) : s.stabilized := by
  intro i
  cases hi : s.wl i with
  | false => rfl
  | true => exact absurd hi (List.find?_eq_none.mp h i (List.mem_reverse.mpr (hsub i hi)))

/-- the decidable test `execOk` implies the two "finished" hypotheses of the theorems -/
theorem finished_of_execOk (prio : List Nat) (hprio : ∀ e ∈ es, e.dst ∈ prio) (hWp : W ∈ prio) {k : Nat}
    {n0 : Nat} {v0 : V} (hn0 : n0 ∈ prio) {c : Fix.BState V}
    (r : Fix.BRun (problem pr U es W) k (Fix.BState.start (initState n0 v0)) c)
    (hok : execOk prio c = true) : c.st.stabilized ∧ c.finish.stabilized := by
  simp only [execOk, Bool.and_eq_true, Option.isNone_iff_eq_none, List.all_eq_true] at hok
  have hb : ∀ i, (Fix.BState.start (initState n0 v0)).st.wl i = true → i ∈ prio :=
    fun i hi => of_decide_eq_true hi ▸ hn0
  have hdst := problem_dst_mem pr U es W prio hprio hWp
  refine ⟨stabilized_of_pickNode_none prio c.st (r.evolves.wl_sub (· ∈ prio) hdst hb) hok.1, ?_⟩
  intro i
  cases hi : c.nonStab i with
  | false => exact hi
  | true =>
    have := hok.2 i (r.nonStab_sub (· ∈ prio) hdst hb (fun _ h => nomatch h) i hi)
    simp [hi] at this

end Finished

section Top
variable (pr : Project) (U : List Variable) (es : List IEdge) (W : Nat)

theorem source_edge_mem (syms : List String) (src : Source) (h : src ∈ sourcesOf pr syms es) :
    src.edge ∈ es := by
  obtain ⟨e, he, h⟩ := List.mem_filterMap.mp h
  -- an edge `e` yields a source only as a stub of a call to a configured symbol, and that source is `⟨e, _, _⟩`
  split at h
  · split at h
    · split at h
      · cases h; exact he
      · cases h
    · cases h
  · cases h

theorem mem_checkCwe_addrs (prio : List Nat) (outE : Nat → List IEdge) (k fuel : Nat) (syms : List String)
    (a : String) :
    a ∈ (checkCwe pr U es W prio outE k fuel syms).map (·.srcAddr) ↔
      ∃ src ∈ sourcesOf pr syms es, src.call.tid.address = a ∧
        (runSourceExec pr U es W prio outE k fuel src).2 ≠ [] := by
  rw [checkCwe, dedupByAddr_addr]
  simp only [List.mem_map, List.mem_flatMap, sourceWarnings]
  constructor
  · rintro ⟨_, ⟨src, hsrc, t, ht, rfl⟩, rfl⟩
    exact ⟨src, hsrc, rfl, List.ne_nil_of_mem ht⟩
  · rintro ⟨src, hsrc, rfl, hne⟩
    obtain ⟨t, ht⟩ := List.exists_mem_of_ne_nil _ hne
    exact ⟨_, ⟨src, hsrc, t, ht, rfl⟩, rfl⟩

theorem warned_runSourceExec (hW : ∀ e ∈ es, e.src ≠ W ∧ e.dst ≠ W) (prio : List Nat) (k fuel : Nat)
    (src : Source) (hsrc : src.edge ∈ es) :
    warned W (runSourceExec pr U es W prio (outEdgesOf es) k fuel src).1.st = true ↔
      (runSourceExec pr U es W prio (outEdgesOf es) k fuel src).2 ≠ [] := by
  have hinit : ((Fix.BState.start (initState src.edge.dst (sourceInit U src))).st.vals W).isSome =
      !([] : List Tid).isEmpty :=
    congrArg Option.isSome (if_neg fun h : W = src.edge.dst => (hW _ hsrc).2 h.symm)
  rw [warned, runSourceExec, execLoop_consistent pr U es W hW prio k fuel _ [] hinit,
    Bool.not_eq_true', ← Bool.not_eq_true, List.isEmpty_iff]

/-- **C15-check-sound.** Every source address the (executable model of the) check reports belongs to a
call of a configured symbol from whose return site an unchecked path reaches a sink. Holds for every
program, every priority order and every step bound. -/
theorem checkCwe_sound (hW : ∀ e ∈ es, e.src ≠ W ∧ e.dst ≠ W) (prio : List Nat) (k fuel : Nat)
    (syms : List String) (a : String)
    (ha : a ∈ (checkCwe pr U es W prio (outEdgesOf es) k fuel syms).map (·.srcAddr)) :
    ∃ src ∈ sourcesOf pr syms es, src.call.tid.address = a ∧
      PathWarn pr U es src.edge.dst (sourceInit U src) := by
  obtain ⟨src, hsrc, haddr, hne⟩ := (mem_checkCwe_addrs pr U es W prio _ k fuel syms a).mp ha
  have hmem := source_edge_mem pr es syms src hsrc
  exact ⟨src, hsrc, haddr, warn_sound pr U es W _ _ ⟨hW, (hW _ hmem).2⟩
    (execLoop_brun pr U es W prio k fuel _ [])
    ((warned_runSourceExec pr U es W hW prio k fuel src hmem).mpr hne)⟩

/-- **C15-check-complete (partial: `NoInterference`, solver finished without giving up a node).**
A source from whose return site an unchecked path reaches a sink is reported. -/
theorem checkCwe_complete_partial (hW : ∀ e ∈ es, e.src ≠ W ∧ e.dst ≠ W) (prio : List Nat) (k fuel : Nat)
    (syms : List String) (src : Source) (hsrc : src ∈ sourcesOf pr syms es)
    (hdone : (runSourceExec pr U es W prio (outEdgesOf es) k fuel src).1.st.stabilized)
    (hstab : (runSourceExec pr U es W prio (outEdgesOf es) k fuel src).1.finish.stabilized)
    (hni : NoInterference pr U es src.edge.dst (sourceInit U src))
    (hpw : PathWarn pr U es src.edge.dst (sourceInit U src)) :
    src.call.tid.address ∈ (checkCwe pr U es W prio (outEdgesOf es) k fuel syms).map (·.srcAddr) := by
  have hmem := source_edge_mem pr es syms src hsrc
  have hwarned := (warn_iff_pathWarn_partial pr U es W _ _ ⟨hW, (hW _ hmem).2⟩
    (execLoop_brun pr U es W prio k fuel _ []) hdone hstab hni).mpr hpw
  exact (mem_checkCwe_addrs pr U es W prio _ k fuel syms _).mpr
    ⟨src, hsrc, rfl, (warned_runSourceExec pr U es W hW prio k fuel src hmem).mp hwarned⟩

/-- **C15-check-complete, executable form (partial: `NoInterference`).** With the decidable finish
test of the driver instead of the abstract "stabilized" hypotheses. -/
theorem checkCwe_complete_exec_partial (hW : ∀ e ∈ es, e.src ≠ W ∧ e.dst ≠ W) (prio : List Nat)
    (hprio : ∀ e ∈ es, e.dst ∈ prio) (hWp : W ∈ prio) (k fuel : Nat)
    (syms : List String) (src : Source) (hsrc : src ∈ sourcesOf pr syms es)
    (hok : execOk prio (runSourceExec pr U es W prio (outEdgesOf es) k fuel src).1 = true)
    (hni : NoInterference pr U es src.edge.dst (sourceInit U src))
    (hpw : PathWarn pr U es src.edge.dst (sourceInit U src)) :
    src.call.tid.address ∈ (checkCwe pr U es W prio (outEdgesOf es) k fuel syms).map (·.srcAddr) := by
  have hfin := finished_of_execOk pr U es W prio hprio hWp
    (hprio _ (source_edge_mem pr es syms src hsrc))
    (execLoop_brun pr U es W prio k fuel (Fix.BState.start (initState src.edge.dst (sourceInit U src))) []) hok
  exact checkCwe_complete_partial pr U es W hW prio k fuel syms src hsrc hfin.1 hfin.2 hni hpw

end Top

/-! ## examples: the hypotheses are satisfiable, and `NoInterference` cannot be dropped -/

namespace Ex
def v (n : String) (s : Nat := 8) : Variable := ⟨n, s, false⟩
def t (s : String) : Tid := ⟨s, "UNKNOWN"⟩
def mallocSym : ExternSymbol :=
  { tid := t "sym_malloc", addresses := [], name := "malloc", callingConvention := some "__stdcall",
    parameters := [.Register (.Var (v "RDI")) none], returnValues := [.Register (.Var (v "RAX")) none],
    noReturn := false, hasVarArgs := false }
def blk (id : String) (defs : List (Term Def)) (jmps : List (Term Jmp)) : Term Blk :=
  ⟨t id, { defs := defs, jmps := jmps }⟩
def cc : CallingConvention :=
  { name := "__stdcall", integerParameterRegister := [v "RDI", v "RSI"], floatParameterRegister := [],
    integerReturnRegister := [v "RAX"], floatReturnRegister := [], calleeSavedRegister := [v "RBX"] }
def mkProject (blocks : List (Term Blk)) : Project :=
  { program := { subs := [⟨t "f0", { name := "f0", blocks := blocks }⟩], externSymbols := [mallocSym], entryPoints := [] },
    cpuArchitecture := "x86_64", stackPointerRegister := v "RSP", callingConventions := [cc], registerSet := [],
    datatypeProperties := ⟨1, 8, 4, 4, 8, 8, 8, 8, 2⟩ }
def U : List Variable := [v "RAX", v "RBX", v "RCX", v "ZF" 1, v "CF" 1, v "RDI", v "RSI", v "R11"]
def callMalloc : Term Jmp := ⟨⟨"call_malloc", "00001000"⟩, .Call (t "sym_malloc") (some (t "b1"))⟩
def ret (id : String) : Term Jmp := ⟨t id, .Return (.Var (v "R11"))⟩
def zfOf (id reg : String) : Term Def :=
  ⟨t id, .Assign (v "ZF" 1) (.BinOp .IntEqual (.Var (v reg)) (.Const 8 0))⟩

/-- `p = malloc(); *p = 1;` -/
def prA : Project := mkProject
  [blk "b0" [] [callMalloc],
   blk "b1" [⟨t "d1", .Store (.Var (v "RAX")) (.Const 8 1)⟩] [ret "j1"]]
def esA : List IEdge := indexEdges (Cfg.buildCfg prA.program)
def prioA : List Nat := [4, 3, 2, 1, 0]

/-- the value is checked on one path only and the paths join BEFORE the check
(`corpus/C15/merged_check.jsonl`):
`b1: if CF goto b2 else b3;  b2: RBX := RAX; RAX := 0; goto b4;  b3: goto b4;
 b4: ZF := RBX == 0; if ZF goto b5 else b6;  b5: RCX := load RAX` -/
def prB : Project := mkProject
  [blk "b0" [] [callMalloc],
   blk "b1" [] [⟨t "j1a", .CBranch (t "b2") (.Var (v "CF" 1))⟩, ⟨t "j1b", .Branch (t "b3")⟩],
   blk "b2" [⟨t "d2a", .Assign (v "RBX") (.Var (v "RAX"))⟩, ⟨t "d2b", .Assign (v "RAX") (.Const 8 0)⟩]
     [⟨t "j2", .Branch (t "b4")⟩],
   blk "b3" [] [⟨t "j3", .Branch (t "b4")⟩],
   blk "b4" [zfOf "d4" "RBX"] [⟨t "j4a", .CBranch (t "b5") (.Var (v "ZF" 1))⟩, ⟨t "j4b", .Branch (t "b6")⟩],
   blk "b5" [⟨t "d5", .Load (v "RCX") (.Var (v "RAX"))⟩] [ret "j5"],
   blk "b6" [] [ret "j6"]]
def esB : List IEdge := indexEdges (Cfg.buildCfg prB.program)
/-- `kosaraju_scc` order of the real graph (exported by the harness), warning node first -/
def prioB : List Nat := [14, 13, 12, 11, 10, 9, 8, 7, 6, 5, 4, 3, 2, 1, 0]
def finalB : Fix.BState V × List Tid :=
  execLoop prB U (problem prB U esB 14) 14 (outEdgesOf esB) prioB 100 60
    (Fix.BState.start (initState 2 (1, 0))) []
end Ex

/- Each of the three statements below is checked by ONE kernel evaluation of all its decidable parts
together: they share the graph, the product search and the solver run, and the kernel keeps what it has
evaluated only within one check. -/

open Ex in
set_option maxRecDepth 100000 in
/-- non-vacuity: program A satisfies all hypotheses of `checkCwe_complete_exec_partial` … -/
example : (∀ e ∈ esA, e.src ≠ 4 ∧ e.dst ≠ 4) ∧ (∀ e ∈ esA, e.dst ∈ prioA) ∧
    (sourcesOf prA ["malloc"] esA).length = 1 ∧
    (∀ src ∈ sourcesOf prA ["malloc"] esA,
      execOk prioA (runSourceExec prA U esA 4 prioA (outEdgesOf esA) 100 40 src).1 = true ∧
      src.edge.dst = 2 ∧ sourceInit U src = (1, 0)) := by decide +kernel

open Ex in
set_option maxRecDepth 100000 in
/-- … including `NoInterference` and `PathWarn`, so the source is reported. -/
example : NoInterference prA U esA 2 (1, 0) ∧ PathWarn prA U esA 2 (1, 0) :=
  have h : (reachStates prA U esA 40 2 (1, 0)).2 = true ∧
      interferenceB prA U esA (reachStates prA U esA 40 2 (1, 0)).1 = false ∧
      specWarnB prA U esA (reachStates prA U esA 40 2 (1, 0)).1 = true := by decide +kernel
  ⟨(interferenceB_iff prA U esA 40 2 (1, 0) h.1).mp h.2.1, (specWarnB_iff prA U esA 40 2 (1, 0) h.1).mp h.2.2⟩

open Ex in
/-- **C15-counterexample (why the iff is only `_partial`).** For program B the path specification
holds — the path `b1, b3, b4, b5` passes no conditional jump on a tainted condition and dereferences
`RAX` —, the solver (real scheduler) finishes without giving up a node, and NO warning is generated;
the program has interference. The real implementation behaves the same (known finding
`fn-merged-check`). -/
theorem merged_check_counterexample :
    PathWarn prB U esB 2 (1, 0) ∧ ¬ NoInterference prB U esB 2 (1, 0) ∧
    execOk prioB finalB.1 = true ∧ finalB.2 = [] ∧ warned 14 finalB.1.st = false := by
  have h : (reachStates prB U esB 60 2 (1, 0)).2 = true ∧
      specWarnB prB U esB (reachStates prB U esB 60 2 (1, 0)).1 = true ∧
      interferenceB prB U esB (reachStates prB U esB 60 2 (1, 0)).1 = true ∧
      execOk prioB finalB.1 = true ∧ finalB.2 = [] ∧ warned 14 finalB.1.st = false := by decide +kernel
  obtain ⟨hfin, hw, hi, hrest⟩ := h
  refine ⟨(specWarnB_iff prB U esB 60 2 (1, 0) hfin).mp hw, fun hni => ?_, hrest⟩
  rw [(interferenceB_iff prB U esB 60 2 (1, 0) hfin).mpr hni] at hi
  cases hi

end CweModel.C15
