/-
C18 — the read-after-write and framing facts about the byte memory of the reference interpreter
(Base/IRSemLemmas.lean) in the form the soundness proof uses them: pointer size 8, so addresses wrap at 2^64.
-/
import CweModel.Base.IRSemLemmas

namespace CweModel.C18
open CweModel CweModel.IR

theorem find_filter_some {α} (l : List α) (p q : α → Bool) (c : α) (h : l.find? p = some c) (hq : q c = true) :
    (l.filter q).find? p = some c := by
  induction l with
  | nil => cases h
  | cons a l ih =>
    rw [List.find?_cons] at h
    cases hp : p a
    · rw [hp] at h
      cases hqa : q a
      · rw [List.filter_cons_of_neg (by simp [hqa])]; exact ih h
      · rw [List.filter_cons_of_pos hqa, List.find?_cons_of_neg (by simp [hp])]; exact ih h
    · rw [hp] at h; cases h
      rw [List.filter_cons_of_pos hq, List.find?_cons_of_pos hp]

namespace SemL
open Sem

theorem readMem_writeMem_same (σ : State) (hp : σ.ptrBytes = 8) (a n val : Nat) (hn : n ≤ 2 ^ 64) :
    (σ.writeMem a n val).readMem a n = val % 256 ^ n :=
  Sem.readMem_writeMem_same σ a n val (by rw [hp]; exact hn)

theorem readMem_writeMem_frame (σ : State) (a n val b m : Nat)
    (hdisj : ∀ i j, i < n → j < m → σ.wrapAddr (a + i) ≠ σ.wrapAddr (b + j)) :
    (σ.writeMem a n val).readMem b m = σ.readMem b m :=
  Sem.readMem_writeMem_frame σ a n val b m fun i hi j hj => hdisj i j hi hj

theorem readMem_setReg (σ : State) (v : Variable) (x : Bv) (a n : Nat) :
    (σ.setReg v x).readMem a n = σ.readMem a n :=
  Sem.readMem_setReg σ v x a n

end SemL
end CweModel.C18
