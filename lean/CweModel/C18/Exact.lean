/-
C18 — EXACTNESS of the model on the fragment: whatever the constant propagation `cp…` knows (constants
and stack addresses computed from constants alone — with or without signed overflows: the theorems hold
for every value of `strict`, in particular for the full fragment `strict := false`), the block-local
pointer-inference state of the model knows as the same singleton value.
Exactness on singletons is `C01.binOp_eq_ref` & co.; read-after-write of stack cells is the `MemRegion`
cell discipline.
-/
import CweModel.C18.Sound

namespace CweModel.C18
open CweModel CweModel.IR

def embed : SVal → AData
  | .c b => AData.const b
  | .sp o => AData.sp ⟨64, o⟩

theorem bytes_of_width (b : Bv) (n : Nat) (h : b.w = 8 * n) : b.bytes = n :=
  Bv.bytes_of_w h

theorem itv_add_exact (a b r : Bv) (hw : a.w = b.w) (href : Ref.binOp .IntAdd a b = .val r) :
    Itv.add (.single a) (.single b) = .single r := by
  obtain ⟨aw, av⟩ := a
  obtain ⟨bw, bv⟩ := b
  cases hw
  cases (ref_add av bv).symm.trans href
  exact dif_pos rfl

theorem itv_sub_exact (a b r : Bv) (hw : a.w = b.w) (href : Ref.binOp .IntSub a b = .val r) :
    Itv.sub (.single a) (.single b) = .single r := by
  obtain ⟨aw, av⟩ := a
  obtain ⟨bw, bv⟩ := b
  cases hw
  cases (ref_sub av bv).symm.trans href
  exact dif_pos rfl

theorem ref_mul {w : Nat} (hw : w ≤ 64) (x y : BitVec w) :
    Ref.binOp .IntMult ⟨w, x⟩ ⟨w, y⟩ = .val ⟨w, x * y⟩ := by
  rw [Ref.binOp, if_neg (Nat.not_lt.mpr hw), sameW_mk, ← C01.mul_eq]; rfl

theorem itv_mul_exact (a b r : Bv) (hw8 : a.w = 8 * a.bytes) (hw : a.w ≤ 64) (hwe : a.w = b.w)
    (href : Ref.binOp .IntMult a b = .val r) :
    Itv.mul (.single a) (.single b) = .single r := by
  have hb : ¬ 8 * (Itv.single a).bytes > 64 := by rw [Itv.bytes, ← hw8]; exact Nat.not_lt.mpr hw
  obtain ⟨aw, av⟩ := a
  obtain ⟨bw, bv⟩ := b
  cases hwe
  cases (ref_mul hw av bv).symm.trans href
  rw [Itv.mul, if_neg hb]
  exact dif_pos rfl

theorem mul_one_shl (w n : Nat) (x : BitVec w) : x * (1#w <<< n) = x <<< n := by
  rw [BitVec.shiftLeft_eq_mul_twoPow x n]; rfl

theorem itv_shl_exact (a b r : Bv) (hw8 : a.w = 8 * a.bytes) (hw : a.w ≤ 64) (hb : b.toNat < 2 ^ 64)
    (href : Ref.binOp .IntLeft a b = .val r) :
    Itv.shiftLeft (.single a) (.single b) = .single r := by
  rw [Ref.binOp, if_pos hb, C01.Ref.shl_clamp, ← C01.shl_eq, Impl.shl] at href
  rw [Itv.shiftLeft]
  by_cases hn : b.toNat < a.w
  · rw [if_pos hn] at href ⊢
    cases href
    apply itv_mul_exact a ⟨a.w, 1#a.w <<< b.toNat⟩ _ hw8 hw rfl
    obtain ⟨aw, av⟩ := a
    rw [ref_mul hw, mul_one_shl]
  · rw [if_neg hn] at href ⊢
    cases href
    rfl

theorem itv_binOp_exact (strict : Bool) (op : BinOpType) (a b r : Bv) (h : cpBin strict op a b = some r) :
    Itv.binOp op (.single a) (.single b) = .single r := by
  obtain ⟨⟨hsz, hfr, hw⟩, href⟩ := cpBin_some h
  have hfirst : Itv.firstArm op (.single a) (.single b) = .single r := by
    simp only [Itv.firstArm, C01.binOp_eq_ref op a b (C01.ref_binOp_wellSized href), href]
  -- outside the fragment `cpBinInFrag` is `false`
  cases op <;> try exact Bool.noConfusion hfr
  case IntAdd => exact itv_add_exact a b r (of_decide_eq_true hsz) href
  case IntSub => exact itv_sub_exact a b r (of_decide_eq_true hsz) href
  case IntMult =>
    rw [cpBinInFrag, Bool.and_eq_true] at hfr
    exact itv_mul_exact a b r hw (of_decide_eq_true hfr.1) (of_decide_eq_true hsz) href
  case IntLeft =>
    rw [cpBinInFrag, Bool.and_eq_true] at hfr
    exact itv_shl_exact a b r hw (of_decide_eq_true hfr.1) (of_decide_eq_true hsz) href
  all_goals exact hfirst

theorem data_binOp_const (strict : Bool) (op : BinOpType) (a b r : Bv) (h : cpBin strict op a b = some r) :
    (AData.const a).binOp op (AData.const b) = AData.const r :=
  congrArg AData.ofItv (itv_binOp_exact strict op a b r h)

theorem data_unOp_const (strict : Bool) (op : UnOpType) (a r : Bv) (h : cpUn strict op a = some r) :
    (AData.const a).unOp op = AData.const r := by
  obtain ⟨hop, href⟩ := cpUn_some h
  obtain ⟨aw, av⟩ := a
  rcases hop with rfl | rfl
  · rw [Ref.unOp, ← C01.neg_eq] at href; cases href; rfl
  · rw [Ref.unOp, ← C01.not_eq] at href; cases href; rfl

theorem bv_eta (b : Bv) : (⟨b.w, b.v⟩ : Bv) = b := by cases b; rfl

theorem bv_cast_eq {w w' : Nat} (h : w = w') (v : BitVec w) (v' : BitVec w') (hv : v.toNat = v'.toNat) :
    (⟨w, v⟩ : Bv) = ⟨w', v'⟩ := Bv.ext' h hv

/-- a constant whose size changes under `IntervalDomain::cast` / `subpiece` -/
theorem const_resize {sz : Nat} {v : BitVec (8 * sz)} :
    ({ size := sz, abs := some (.single ⟨8 * sz, v⟩) } : AData) = AData.const ⟨8 * sz, v⟩ := by
  have : sz = (8 * sz + 7) / 8 := by omega
  exact congrArg (fun n => ({ size := n, abs := some (.single ⟨8 * sz, v⟩) } : AData)) this

theorem data_cast_const (op : CastOpType) (sz : Nat) (a r : Bv) (h : cpCast op sz a = some r) :
    (AData.const a).cast op sz = AData.const r := by
  obtain ⟨hop, ⟨hw8, hle⟩, href⟩ := cpCast_some h
  -- `IntervalDomain::cast` keeps a value of the target size as it is: so does the extension
  have key : ∀ (e : BitVec (8 * sz)), (a.w = 8 * sz → e.toNat = a.v.toNat) →
      ({ size := sz, abs := some (if (Itv.single a).bytes == sz then Itv.single a else .single ⟨8 * sz, e⟩) } : AData)
        = AData.const ⟨8 * sz, e⟩ := by
    intro e he
    refine .trans ?_ const_resize
    split
    · next hs =>
      have hw : a.w = 8 * sz := hw8.trans (congrArg (8 * ·) (beq_iff_eq.mp hs))
      rw [← bv_eta a, bv_cast_eq hw.symm e a.v (he hw)]
    · rfl
  obtain ⟨aw, av⟩ := a
  rcases hop with rfl | rfl
  · rw [Ref.cast, if_pos hle, ← C01.zext_eq] at href; cases href
    refine key _ fun _ => ?_
    rw [BitVec.toNat_setWidth]
    exact Nat.mod_eq_of_lt (Nat.lt_of_lt_of_le av.isLt (Nat.pow_le_pow_right (by omega) hle))
  · rw [Ref.cast, if_pos hle, ← C01.sext_eq _ _ hle] at href; cases href
    refine key _ fun (hw : aw = 8 * sz) => ?_
    subst hw
    rw [BitVec.signExtend_eq_setWidth_of_le _ (Nat.le_refl _), BitVec.setWidth_eq]

theorem data_subpiece_const (low sz : Nat) (a r : Bv) (h : cpSubpiece low sz a = some r) :
    (AData.const a).subpiece low sz = AData.const r := by
  obtain ⟨⟨rfl, hpos, hw8, hle⟩, href⟩ := cpSubpiece_some h
  obtain ⟨aw, av⟩ := a
  have hw8 : aw = 8 * ((aw + 7) / 8) := hw8
  have hle : 8 * sz ≤ aw := hle
  rw [Ref.subpieceOp, if_pos ⟨by omega, hle⟩, ← C01.subpiece_eq, Impl.subpiece] at href
  cases href
  unfold AData.subpiece
  have hb : (AData.const ⟨aw, av⟩).size = (aw + 7) / 8 := rfl
  split
  · next hs =>
    have : aw = 8 * sz := by rw [hs.2, hb]; exact hw8
    subst this
    exact congrArg AData.const (Bv.ext' rfl (by simp))
  · next hs =>
    have hlt : sz < (aw + 7) / 8 := by
      have : sz ≠ (aw + 7) / 8 := fun e => hs ⟨rfl, e⟩
      omega
    refine .trans ?_ const_resize
    simp only [AData.const, AData.ofItv, Option.map_some, Itv.subpiece, Itv.bytes, Bv.bytes, if_true, hlt,
      Option.isSome_none, Bool.or_self, Nat.mul_zero, BitVec.ushiftRight_zero]

theorem data_sp_add_const (o bv : BitVec 64) :
    (AData.sp ⟨64, o⟩).binOp .IntAdd (AData.const ⟨64, bv⟩) = AData.sp ⟨64, o + bv⟩ := rfl

theorem data_sp_sub_const (o bv : BitVec 64) :
    (AData.sp ⟨64, o⟩).binOp .IntSub (AData.const ⟨64, bv⟩) = AData.sp ⟨64, o - bv⟩ := rfl

theorem data_const_add_sp (o av : BitVec 64) :
    (AData.const ⟨64, av⟩).binOp .IntAdd (AData.sp ⟨64, o⟩) = AData.sp ⟨64, av + o⟩ := by
  show AData.sp ⟨64, o + av⟩ = _; rw [BitVec.add_comm]

theorem data_sp_sub_sp (o₁ o₂ : BitVec 64) :
    (AData.sp ⟨64, o₁⟩).binOp .IntSub (AData.sp ⟨64, o₂⟩) = AData.const ⟨64, o₁ - o₂⟩ := rfl

/-- what `cp` knows, the model state knows as the same singleton. The cell part speaks of every model cell
at the offset of a tracked cell, so that `memGet`'s `find?` needs no uniqueness of offsets in `Cells`. -/
structure Inv (k : K) (s : St) : Prop where
  regs : ∀ v sv, k.getReg v = some sv → s.getReg v = embed sv
  cells : ∀ c, c ∈ k.cells → (∃ m, m ∈ s.cells ∧ m.1 = c.pos) ∧
    (∀ m, m ∈ s.cells → m.1 = c.pos → m.2 = embed c.val ∧ m.2.size = c.size)

theorem St.eval_binOp (s : St) {op : BinOpType} {l r : Expression} (h : ¬(op = .IntXOr ∧ l = r)) :
    s.eval (.BinOp op l r) = (s.eval l).binOp op (s.eval r) := by
  simp only [St.eval, if_neg h]

theorem Cp.exact {strict : Bool} {k : K} {s : St} (hr : ∀ v sv, k.getReg v = some sv → s.getReg v = embed sv)
    {e : Expression} {sv : SVal} (h : Cp strict k e sv) : s.eval e = embed sv := by
  induction h with
  | var hv => exact hr _ _ hv
  | const => rfl
  | xorSelf _ _ _ => simp only [St.eval, and_self, if_true]; rfl
  | bin _ _ hne hc ihl ihr => rw [s.eval_binOp hne, ihl, ihr]; exact data_binOp_const strict _ _ _ _ hc
  | spAdd _ _ ihl ihr => rw [s.eval_binOp (op := .IntAdd) (fun h => nomatch h.1), ihl, ihr]; exact data_sp_add_const _ _
  | spSub _ _ ihl ihr => rw [s.eval_binOp (op := .IntSub) (fun h => nomatch h.1), ihl, ihr]; exact data_sp_sub_const _ _
  | addSp _ _ ihl ihr => rw [s.eval_binOp (op := .IntAdd) (fun h => nomatch h.1), ihl, ihr]; exact data_const_add_sp _ _
  | spSubSp _ _ ihl ihr => rw [s.eval_binOp (op := .IntSub) (fun h => nomatch h.1), ihl, ihr]; exact data_sp_sub_sp _ _
  | un _ hu ih => simp only [St.eval, ih]; exact data_unOp_const strict _ _ _ hu
  | cast _ hu ih => simp only [St.eval, ih]; exact data_cast_const _ _ _ _ hu
  | subpiece _ hu ih => simp only [St.eval, ih]; exact data_subpiece_const _ _ _ _ hu

theorem eval_exact (strict : Bool) (k : K) (s : St) (hr : ∀ v sv, k.getReg v = some sv → s.getReg v = embed sv) :
    ∀ (e : Expression) (sv : SVal), cpExpr strict k e = some sv → s.eval e = embed sv :=
  fun e sv h => (cpExpr_cp strict k e sv h).exact hr

theorem embed_not_top (sv : SVal) : (embed sv).isTop = false := by
  cases sv <;> rfl

theorem embed_not_empty (sv : SVal) : (embed sv).isEmpty = false := by
  cases sv <;> rfl

theorem embed_size (sv : SVal) : (embed sv).size = sv.bytes := by
  cases sv with
  | c b => rfl
  | sp o => exact (rfl : (64 + 7) / 8 = 8)

theorem St.getReg_setReg_same (s : St) (v : Variable) (d : AData) (h : d.isTop = false) :
    (s.setReg v d).getReg v = d := by
  unfold St.setReg St.getReg; rw [h, if_neg Bool.false_ne_true]; dsimp only; rw [List.find?_update_key, if_pos rfl]

theorem St.getReg_setReg_ne (s : St) (v w : Variable) (d : AData) (h : w ≠ v) :
    (s.setReg v d).getReg w = s.getReg w := by
  unfold St.setReg St.getReg
  by_cases ht : d.isTop = true
  · rw [if_pos ht]; dsimp only; rw [List.find?_remove_key, if_neg h]
  · rw [if_neg ht]; dsimp only; rw [List.find?_update_key, if_neg h]

theorem St.cells_setReg (s : St) (v : Variable) (d : AData) : (s.setReg v d).cells = s.cells := by
  unfold St.setReg; split <;> rfl

theorem merge_empty (n : Nat) (d : AData) (h : d.size = n) : (AData.newEmpty n).merge d = d := by
  cases d
  cases h
  simp [AData.merge, AData.newEmpty, AData.optMerge]

theorem Inv.setReg_known {k : K} {s : St} (hi : Inv k s) (v : Variable) (sv : SVal) :
    Inv (k.setReg v sv) (s.setReg v (embed sv)) :=
  ⟨K.regs_setReg hi.regs (St.getReg_setReg_same _ _ _ (embed_not_top _)) fun _ => St.getReg_setReg_ne _ _ _ _,
    (St.cells_setReg s v _).symm ▸ hi.cells⟩

theorem Inv.forget {k : K} {s : St} (hi : Inv k s) (v : Variable) (d : AData) :
    Inv (k.forget v) (s.setReg v d) :=
  ⟨K.regs_forget hi.regs fun _ => St.getReg_setReg_ne _ _ _ _, (St.cells_setReg s v d).symm ▸ hi.cells⟩

theorem Inv.forgetCells {k : K} {s : St} (hi : Inv k s) (cs : Cells) :
    Inv { k with cells := [] } { s with cells := cs } :=
  ⟨hi.regs, fun _ hc => nomatch hc⟩

theorem Inv.memGet {k : K} {s : St} (hi : Inv k s) (pos : Int) (n : Nat) (sv : SVal)
    (h : k.getCell pos n = some sv) : memGet s.cells pos n = embed sv ∧ (embed sv).size = n := by
  obtain ⟨c, hc, rfl, rfl, rfl⟩ := K.getCell_mem k pos n sv h
  obtain ⟨⟨m, hm, hmp⟩, hall⟩ := hi.cells c hc
  unfold C18.memGet
  cases hf : s.cells.find? (fun m => m.1 == c.pos) with
  | none => exact absurd (List.find?_eq_none.mp hf m hm) (by simp [hmp])
  | some m' =>
    obtain ⟨hval, hsz⟩ := hall m' (List.mem_of_find?_eq_some hf) (by simpa using List.find?_some hf)
    rw [hval] at hsz
    exact ⟨by simp only [hval, hsz, beq_self_eq_true, if_true], hsz⟩

theorem load_sp_exact {k : K} {s : St} (hi : Inv k s) (o : BitVec 64) (n : Nat) (sv : SVal)
    (h : k.getCell o.toInt n = some sv) :
    s.loadValueFromAddress (AData.sp ⟨64, o⟩) n = some (embed sv) := by
  obtain ⟨hg, hsz⟩ := hi.memGet _ _ _ h
  simp only [St.loadValueFromAddress, AData.sp, AData.fromTarget, listGetValue, offsetOf, hg,
    merge_empty n _ hsz, Bool.false_eq_true, if_false, embed_not_empty]

theorem store_sp_cells (cs : Cells) (o : BitVec 64) (sv : SVal) :
    listSetValue cs (AData.sp ⟨64, o⟩) (embed sv) =
      (o.toInt, embed sv) :: clearInterval cs o.toInt sv.bytes := by
  simp [listSetValue, AData.sp, AData.fromTarget, AData.getIfUniqueTarget, objectSetValue, memAdd,
    embed_not_top, embed_size, offsetOf]

theorem mem_clearInterval (cs : Cells) (pos : Int) (n : Nat) (m : Int × AData) :
    m ∈ clearInterval cs pos n ↔ m ∈ cs ∧ disjointCell pos n m.1 m.2.size = true :=
  List.mem_filter

theorem disjointCell_pos_ne {p q : Int} {n m : Nat} (h : disjointCell p n q m = true) (hn : 0 < n) : q ≠ p := by
  simp only [disjointCell, Bool.not_eq_true', Bool.or_eq_false_iff, Bool.and_eq_false_iff,
    decide_eq_false_iff_not] at h
  omega

/-- a tracked store: `clearInterval` removes from the model state what `K.clear` forgets -/
theorem Inv.store {k : K} {s : St} (hi : Inv k s) (pos : Int) (sv : SVal) (hn : 0 < sv.bytes) :
    Inv { k.clear pos sv.bytes with cells := ⟨pos, sv.bytes, sv⟩ :: (k.clear pos sv.bytes).cells }
      { s with cells := (pos, embed sv) :: clearInterval s.cells pos sv.bytes } where
  regs := hi.regs
  cells := by
    intro c hc
    rcases List.mem_cons.mp hc with rfl | hc
    · refine ⟨⟨_, List.mem_cons_self, rfl⟩, fun m hm hmp => ?_⟩
      rcases List.mem_cons.mp hm with rfl | hm
      · exact ⟨rfl, embed_size sv⟩
      · exact absurd hmp (disjointCell_pos_ne ((mem_clearInterval ..).mp hm).2 hn)
    · obtain ⟨hmem, hdis⟩ := K.mem_clear k _ _ c hc
      obtain ⟨⟨m, hm, hmp⟩, hall⟩ := hi.cells c hmem
      refine ⟨⟨m, List.mem_cons_of_mem _ ((mem_clearInterval ..).mpr ⟨hm, ?_⟩), hmp⟩, fun m' hm' hmp' => ?_⟩
      · rw [hmp, (hall m hm hmp).2]; exact hdis
      · rcases List.mem_cons.mp hm' with rfl | hm'
        · exact absurd hmp'.symm (disjointCell_pos_ne hdis hn)
        · exact hall m' ((mem_clearInterval ..).mp hm').1 hmp'

theorem cpDef_exact (strict : Bool) (k : K) (s : St) (d : Def) (hi : Inv k s) :
    Inv (cpDef strict k d) (s.handleDef d) := by
  cases d with
  | Assign v e =>
    simp only [cpDef, St.handleDef, St.handleAssign]
    split
    · next sv hs => rw [eval_exact strict k s hi.regs e sv hs]; exact hi.setReg_known v sv
    · exact hi.forget v _
  | Load v a =>
    simp only [cpDef, St.handleDef, St.handleLoad]
    split
    · next o ho =>
      rw [eval_exact strict k s hi.regs a _ ho]
      split
      · next sv hs =>
        simp only [embed, load_sp_exact hi o v.size sv hs]
        exact hi.setReg_known v sv
      · split <;> exact hi.forget v _
    · split <;> exact hi.forget v _
  | Store a e =>
    simp only [cpDef, St.handleDef, St.handleStore]
    split
    · next o sv ho hs =>
      split
      · next hb =>
        simp only [Bool.and_eq_true, inBounds, decide_eq_true_eq] at hb
        rw [eval_exact strict k s hi.regs a _ ho, eval_exact strict k s hi.regs e _ hs]
        show Inv _ { s with cells := listSetValue s.cells (AData.sp ⟨64, o⟩) (embed sv) }
        rw [store_sp_cells]
        exact hi.store _ sv hb.1.1.2
      · exact hi.forgetCells _
    · exact hi.forgetCells _

theorem cpDefs_exact (strict : Bool) : ∀ (defs : List (Term Def)) (k : K) (s : St), Inv k s →
    Inv (cpDefs strict k defs) (defs.foldl (fun s d => s.handleDef d.term) s) := by
  intro defs
  induction defs with
  | nil => intro k s hi; exact hi
  | cons d ds ih => intro k s hi; exact ih _ _ (cpDef_exact strict k s d.term hi)

theorem St.init_eq (sp : Variable) (h : sp.size = 8) :
    St.init sp = { regs := [(sp, AData.sp ⟨64, 0⟩)], cells := [] } := by
  obtain ⟨spn, sps, spt⟩ := sp
  cases h
  rfl

theorem Inv.init (sp : Variable) (h : sp.size = 8) : Inv (K.init sp) (St.init sp) where
  regs := by
    intro v sv hv
    obtain ⟨rfl, rfl⟩ := K.getReg_init hv
    rw [St.init_eq v h]
    simp [St.getReg, embed]
  cells := fun _ hc => nomatch hc

theorem tryToBitvec_const (b : Bv) : (AData.const b).tryToBitvec = some b := rfl

/-- **C18-model-exact.** If the block computes the parameter as the constant `b` from constants
alone (`blockConst strict`, for `strict = false` the full fragment including signed overflows), then the
block-end state of the model evaluates the parameter to exactly the singleton `b`: `try_to_bitvec`
succeeds with `b`. -/
theorem model_param_exact (strict : Bool) (sp : Variable) (hsp : sp.size = 8) (defs : List (Term Def)) (p : Arg)
    (b : Bv) (h : blockConst strict sp defs p = some b) :
    ∃ d, (blockEndState sp defs).evalParameterArg p = some d ∧ d.tryToBitvec = some b := by
  have hi : Inv (cpDefs strict (K.init sp) defs) (blockEndState sp defs) :=
    cpDefs_exact strict defs _ _ (Inv.init sp hsp)
  refine ⟨AData.const b, ?_, tryToBitvec_const b⟩
  simp only [blockConst] at h
  cases p with
  | Register e dt =>
    simp only [cpParam] at h
    split at h
    · next b' he => cases h; exact congrArg some (eval_exact strict _ _ hi.regs e _ he)
    · cases h
  | Stack a size dt =>
    simp only [cpParam] at h
    split at h
    · next o ho =>
      split at h
      · next b' hc =>
        cases h
        simp only [St.evalParameterArg, eval_exact strict _ _ hi.regs a _ ho, embed]
        exact load_sp_exact hi o size _ hc
      · cases h
    · cases h

theorem model_paramConst (strict : Bool) (sp : Variable) (hsp : sp.size = 8) (defs : List (Term Def)) (p : Arg)
    (b : Bv) (h : blockConst strict sp defs p = some b) (hb : b.toNat < 2 ^ 64) :
    (blockEndState sp defs).paramConst p = some b.toNat := by
  obtain ⟨d, h1, h2⟩ := model_param_exact strict sp hsp defs p b h
  simp [St.paramConst, h1, h2, tryToU64, hb]

end CweModel.C18
