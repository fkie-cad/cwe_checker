/-
C18 — the constant propagation `cp…` of Model.lean (the formal reading of "the block computes the
parameter as a constant from constants alone") is SOUND for the reference interpreter: whatever `cp`
claims about a register, a stack cell or a parameter holds in every state `Sem.execDefs` reaches from
every initial state.
-/
import CweModel.C18.Model
import CweModel.C18.Mem
import CweModel.C01.Props

namespace CweModel.C18
open CweModel CweModel.IR

/-- concrete value of a symbolic value, given the stack pointer at the start of the block -/
def conc (sp0 : BitVec 64) : SVal → Bv
  | .c b => b
  | .sp o => ⟨64, sp0 + o⟩

def cellAddr (sp0 : BitVec 64) (pos : Int) : Nat := Itv.toU 64 (sp0.toNat + pos)

/-- what `cp` knows is true in the interpreter state `σ` -/
structure Rel (sp0 : BitVec 64) (k : K) (σ : Sem.State) : Prop where
  regs : ∀ v sv, k.getReg v = some sv → σ.getReg v = conc sp0 sv
  cells : ∀ c, c ∈ k.cells → inBounds c.pos c.size = true ∧ (conc sp0 c.val).w = 8 * c.size ∧
      σ.readMem (cellAddr sp0 c.pos) c.size = (conc sp0 c.val).toNat
  ptr : σ.ptrBytes = 8

theorem cpBin_some {strict : Bool} {op : BinOpType} {a b c : Bv} (h : cpBin strict op a b = some c) :
    (cpBinSized op a b = true ∧ cpBinInFrag strict op a b = true ∧ a.w = 8 * a.bytes) ∧
      Ref.binOp op a b = .val c := by
  unfold cpBin at h
  split at h
  · next hc =>
    simp only [Bool.and_eq_true, decide_eq_true_eq] at hc
    exact ⟨⟨hc.1.1, hc.1.2, hc.2⟩, Sem.resToOpt_some.mp h⟩
  · cases h

theorem cpUn_some {strict : Bool} {op : UnOpType} {a r : Bv} (h : cpUn strict op a = some r) :
    (op = .Int2Comp ∨ op = .IntNegate) ∧ Ref.unOp op a = .val r := by
  unfold cpUn at h
  split at h
  · split at h
    · cases h
    · exact ⟨.inl rfl, Sem.resToOpt_some.mp h⟩
  · exact ⟨.inr rfl, Sem.resToOpt_some.mp h⟩
  · cases h

theorem cpCast_some {op : CastOpType} {sz : Nat} {a r : Bv} (h : cpCast op sz a = some r) :
    (op = .IntZExt ∨ op = .IntSExt) ∧ (a.w = 8 * a.bytes ∧ a.w ≤ 8 * sz) ∧ Ref.cast op sz a = .val r := by
  unfold cpCast at h
  split at h
  · split at h
    · next hc => exact ⟨.inl rfl, hc, Sem.resToOpt_some.mp h⟩
    · cases h
  · split at h
    · next hc => exact ⟨.inr rfl, hc, Sem.resToOpt_some.mp h⟩
    · cases h
  · cases h

theorem cpSubpiece_some {low sz : Nat} {a r : Bv} (h : cpSubpiece low sz a = some r) :
    (low = 0 ∧ 0 < sz ∧ a.w = 8 * a.bytes ∧ 8 * sz ≤ a.w) ∧ Ref.subpieceOp low sz a = .val r := by
  unfold cpSubpiece at h
  split at h
  · next hc => exact ⟨hc, Sem.resToOpt_some.mp h⟩
  · cases h

/-- how `cpExpr` computes a value from constants alone; the signed-overflow tests of `strict` on stack
offsets only remove cases -/
inductive Cp (strict : Bool) (k : K) : Expression → SVal → Prop
  | var {v sv} : k.getReg v = some sv → Cp strict k (.Var v) sv
  | const {b x} : Cp strict k (.Const b x) (.c (Bv.ofBytes b x))
  | xorSelf {l a} : Cp strict k l (.c a) → a.w = 8 * l.bytesize →
      Cp strict k (.BinOp .IntXOr l l) (.c (bvZero l.bytesize))
  | bin {op l r a b c} : Cp strict k l (.c a) → Cp strict k r (.c b) → ¬(op = .IntXOr ∧ l = r) →
      cpBin strict op a b = some c → Cp strict k (.BinOp op l r) (.c c)
  | spAdd {l r o b} : Cp strict k l (.sp o) → Cp strict k r (.c ⟨64, b⟩) →
      Cp strict k (.BinOp .IntAdd l r) (.sp (o + b))
  | spSub {l r o b} : Cp strict k l (.sp o) → Cp strict k r (.c ⟨64, b⟩) →
      Cp strict k (.BinOp .IntSub l r) (.sp (o - b))
  | addSp {l r a o} : Cp strict k l (.c ⟨64, a⟩) → Cp strict k r (.sp o) →
      Cp strict k (.BinOp .IntAdd l r) (.sp (a + o))
  | spSubSp {l r o₁ o₂} : Cp strict k l (.sp o₁) → Cp strict k r (.sp o₂) →
      Cp strict k (.BinOp .IntSub l r) (.c ⟨64, o₁ - o₂⟩)
  | un {op a x r} : Cp strict k a (.c x) → cpUn strict op x = some r → Cp strict k (.UnOp op a) (.c r)
  | cast {op sz a x r} : Cp strict k a (.c x) → cpCast op sz x = some r → Cp strict k (.Cast op sz a) (.c r)
  | subpiece {lb sz a x r} : Cp strict k a (.c x) → cpSubpiece lb sz x = some r →
      Cp strict k (.Subpiece lb sz a) (.c r)

/-- the unary arms of `cpExpr` -/
theorem map_c_some {o : Option SVal} {f : Bv → Option Bv} {sv : SVal}
    (h : (match o with | some (.c x) => (f x).map SVal.c | _ => none) = some sv) :
    ∃ x r, o = some (.c x) ∧ f x = some r ∧ sv = .c r := by
  split at h
  · next x =>
    obtain ⟨r, hr, rfl⟩ := Option.map_eq_some_iff.mp h
    exact ⟨x, r, rfl, hr, rfl⟩
  · cases h

theorem cpExpr_cp (strict : Bool) (k : K) :
    ∀ (e : Expression) (sv : SVal), cpExpr strict k e = some sv → Cp strict k e sv := by
  intro e
  induction e with
  | Var v => intro sv h; exact .var h
  | Const b x => intro sv h; cases h; exact .const
  | Unknown d s => intro sv h; cases h
  | UnOp op a ih =>
    intro sv h
    obtain ⟨x, r, hx, hr, rfl⟩ := map_c_some h
    exact .un (ih _ hx) hr
  | Cast op sz a ih =>
    intro sv h
    obtain ⟨x, r, hx, hr, rfl⟩ := map_c_some h
    exact .cast (ih _ hx) hr
  | Subpiece lb sz a ih =>
    intro sv h
    obtain ⟨x, r, hx, hr, rfl⟩ := map_c_some h
    exact .subpiece (ih _ hx) hr
  | BinOp op l r ihl ihr =>
    intro sv h
    simp only [cpExpr] at h
    split at h
    · next a b ha hb =>
      split at h
      · next hx =>
        obtain ⟨rfl, rfl⟩ := hx
        split at h
        · next hw => cases h; exact .xorSelf (ihl _ ha) hw
        · cases h
      · next hx =>
        obtain ⟨c, hc, rfl⟩ := Option.map_eq_some_iff.mp h
        exact .bin (ihl _ ha) (ihr _ hb) hx hc
    · next o b ho hb =>
      obtain ⟨bw, bv⟩ := b
      split at h
      · next hw =>
        cases hw
        split at h
        · split at h
          · cases h
          · cases h; exact .spAdd (ihl _ ho) (ihr _ hb)
        · split at h
          · cases h
          · cases h; exact .spSub (ihl _ ho) (ihr _ hb)
        · cases h
      · cases h
    · next a o ha ho =>
      obtain ⟨aw, av⟩ := a
      split at h
      · next hw =>
        cases hw
        split at h
        · split at h
          · cases h
          · cases h; exact .addSp (ihl _ ha) (ihr _ ho)
        · cases h
      · cases h
    · next o₁ o₂ h1 h2 =>
      split at h
      · split at h
        · cases h
        · cases h; exact .spSubSp (ihl _ h1) (ihr _ h2)
      · cases h
    · cases h

theorem eval_binOp_of {σ : Sem.State} {op : BinOpType} {l r : Expression} {a b : Bv}
    (hl : Sem.eval σ l = some a) (hr : Sem.eval σ r = some b) :
    Sem.eval σ (.BinOp op l r) = Sem.resToOpt (Ref.binOp op a b) := by
  simp only [Sem.eval, hl, hr]; rfl

theorem sameW_val (a b : Bv) (h : a.w = b.w) (f : {w : Nat} → BitVec w → BitVec w → Res) :
    sameW a b f = f a.v (h ▸ b.v) := dif_pos h

theorem ref_add {w : Nat} (x y : BitVec w) : Ref.binOp .IntAdd ⟨w, x⟩ ⟨w, y⟩ = .val ⟨w, x + y⟩ := by
  rw [Ref.binOp, sameW_mk, ← C01.add_eq]; rfl

theorem ref_sub {w : Nat} (x y : BitVec w) : Ref.binOp .IntSub ⟨w, x⟩ ⟨w, y⟩ = .val ⟨w, x - y⟩ := by
  rw [Ref.binOp, sameW_mk, ← C01.sub_eq]; rfl

theorem Cp.sound {strict : Bool} {sp0 : BitVec 64} {k : K} {σ : Sem.State} (hr : Rel sp0 k σ)
    {e : Expression} {sv : SVal} (h : Cp strict k e sv) : Sem.eval σ e = some (conc sp0 sv) := by
  induction h with
  | var hv => exact congrArg some (hr.regs _ _ hv)
  | const => rfl
  | @xorSelf l a _ hw ih =>
    obtain ⟨w, x⟩ := a
    cases hw
    rw [eval_binOp_of ih ih, conc, Ref.binOp, sameW_mk, BitVec.xor_self]; rfl
  | bin _ _ _ hc ihl ihr => rw [eval_binOp_of ihl ihr]; exact congrArg Sem.resToOpt (cpBin_some hc).2
  | spAdd _ _ ihl ihr =>
    rw [eval_binOp_of ihl ihr, conc, conc, conc, ref_add, BitVec.add_assoc]; rfl
  | spSub _ _ ihl ihr =>
    rw [eval_binOp_of ihl ihr, conc, conc, conc, ref_sub, BitVec.sub_eq_add_neg, BitVec.add_assoc,
      ← BitVec.sub_eq_add_neg]; rfl
  | @addSp _ _ a o _ _ ihl ihr =>
    rw [eval_binOp_of ihl ihr, conc, conc, conc, ref_add, ← BitVec.add_assoc, BitVec.add_comm a,
      BitVec.add_assoc]; rfl
  | spSubSp _ _ ihl ihr =>
    rw [eval_binOp_of ihl ihr, conc, conc, conc, ref_sub, ← BitVec.sub_sub, BitVec.add_comm sp0,
      BitVec.add_sub_cancel]; rfl
  | un _ hu ih => simp only [Sem.eval, ih]; exact congrArg Sem.resToOpt (cpUn_some hu).2
  | cast _ hu ih => simp only [Sem.eval, ih]; exact congrArg Sem.resToOpt (cpCast_some hu).2.2
  | subpiece _ hu ih => simp only [Sem.eval, ih]; exact congrArg Sem.resToOpt (cpSubpiece_some hu).2

theorem cpExpr_sound (strict : Bool) (sp0 : BitVec 64) (k : K) (σ : Sem.State) (hr : Rel sp0 k σ) :
    ∀ (e : Expression) (sv : SVal), cpExpr strict k e = some sv → Sem.eval σ e = some (conc sp0 sv) :=
  fun e sv h => (cpExpr_cp strict k e sv h).sound hr

theorem K.getReg_setReg (k : K) (v w : Variable) (s : SVal) :
    (k.setReg v s).getReg w = if w = v then some s else k.getReg w := by
  unfold K.setReg K.getReg; dsimp only; rw [List.find?_update_key]
  by_cases h : w = v
  · rw [if_pos h, if_pos h]
  · rw [if_neg h, if_neg h]

theorem K.getReg_forget (k : K) (v w : Variable) :
    (k.forget v).getReg w = if w = v then none else k.getReg w := by
  unfold K.forget K.getReg; dsimp only; rw [List.find?_remove_key]
  by_cases h : w = v
  · rw [if_pos h, if_pos h]
  · rw [if_neg h, if_neg h]

/-- `F`, `g`: `conc sp0` and `σ.getReg` for `Rel`, `embed` and `s.getReg` for `Inv` (Exact.lean) -/
theorem K.regs_setReg {β : Type} {F : SVal → β} {g g' : Variable → β} {k : K}
    (h : ∀ v sv, k.getReg v = some sv → g v = F sv) {v : Variable} {sv : SVal} (hv : g' v = F sv)
    (hne : ∀ w, w ≠ v → g' w = g w) : ∀ w s, (k.setReg v sv).getReg w = some s → g' w = F s := by
  intro w s hw
  rw [K.getReg_setReg] at hw
  split at hw
  · next e => cases hw; exact e ▸ hv
  · next e => rw [hne w e]; exact h w s hw

theorem K.regs_forget {β : Type} {F : SVal → β} {g g' : Variable → β} {k : K}
    (h : ∀ v sv, k.getReg v = some sv → g v = F sv) {v : Variable} (hne : ∀ w, w ≠ v → g' w = g w) :
    ∀ w s, (k.forget v).getReg w = some s → g' w = F s := by
  intro w s hw
  rw [K.getReg_forget] at hw
  split at hw
  · cases hw
  · next e => rw [hne w e]; exact h w s hw

theorem K.getCell_mem (k : K) (pos : Int) (n : Nat) (sv : SVal) (h : k.getCell pos n = some sv) :
    ∃ c, c ∈ k.cells ∧ c.pos = pos ∧ c.size = n ∧ c.val = sv := by
  unfold K.getCell at h
  split at h
  · next c hc =>
    split at h
    · next hs =>
      cases h
      exact ⟨c, List.mem_of_find?_eq_some hc, by simpa using List.find?_some hc, by simpa using hs, rfl⟩
    · cases h
  · cases h

/-- the test of `K.clear` and of `clearInterval` for a cell `[q, q+m)` to survive a write to `[p, p+n)` -/
def disjointCell (p : Int) (n : Nat) (q : Int) (m : Nat) : Bool :=
  !((decide (q < p) && decide (q + (m : Int) > p)) || (decide (p ≤ q) && decide (q < p + (n : Int))))

theorem K.mem_clear (k : K) (pos : Int) (n : Nat) (c : KCell) (h : c ∈ (k.clear pos n).cells) :
    c ∈ k.cells ∧ disjointCell pos n c.pos c.size = true :=
  List.mem_filter.mp h

theorem disjointCell_sep {p q : Int} {n m : Nat} (h : disjointCell p n q m = true) :
    q + (m : Int) ≤ p ∨ p + (n : Int) ≤ q := by
  simp only [disjointCell, Bool.not_eq_true', Bool.or_eq_false_iff, Bool.and_eq_false_iff,
    decide_eq_false_iff_not] at h
  omega

/-- tracked cells lie in a window shorter than the address space -/
theorem inBounds_window {p : Int} {n : Nat} (h : inBounds p n = true) :
    -2 ^ 62 ≤ p ∧ p + (n : Int) ≤ 2 ^ 62 + 2 ^ 32 := by
  simp only [inBounds, Bool.and_eq_true, decide_eq_true_eq] at h
  omega

theorem conc_sp_toNat (sp0 o : BitVec 64) : (conc sp0 (.sp o)).toNat = cellAddr sp0 o.toInt := by
  show (sp0 + o).toNat = _
  unfold cellAddr Itv.toU Itv.pow2
  rw [BitVec.toNat_add, BitVec.toInt_eq_toNat_bmod, Int.add_emod, Int.bmod_emod, ← Int.add_emod,
    ← Int.natCast_add, ← Int.natCast_emod, Int.toNat_natCast]

theorem Rel.setReg_known {sp0 : BitVec 64} {k : K} {σ : Sem.State} (hr : Rel sp0 k σ) (v : Variable)
    (sv : SVal) : Rel sp0 (k.setReg v sv) (σ.setReg v (conc sp0 sv)) :=
  ⟨K.regs_setReg hr.regs (Sem.getReg_setReg_self ..) fun _ => Sem.getReg_setReg_ne _ _, hr.cells, hr.ptr⟩

theorem Rel.forget {sp0 : BitVec 64} {k : K} {σ : Sem.State} (hr : Rel sp0 k σ) (v : Variable) (x : Bv) :
    Rel sp0 (k.forget v) (σ.setReg v x) :=
  ⟨K.regs_forget hr.regs fun _ => Sem.getReg_setReg_ne _ _, hr.cells, hr.ptr⟩

theorem Rel.forgetCells {sp0 : BitVec 64} {k : K} {σ : Sem.State} (hr : Rel sp0 k σ) (a n val : Nat) :
    Rel sp0 { k with cells := [] } (σ.writeMem a n val) where
  regs := by
    intro w s h
    rw [Sem.getReg_writeMem]; exact hr.regs w s h
  cells := by intro c hc; cases hc
  ptr := by rw [Sem.ptrBytes_writeMem]; exact hr.ptr

theorem Rel.readCell {sp0 : BitVec 64} {k : K} {σ : Sem.State} (hr : Rel sp0 k σ) {pos : Int} {n : Nat}
    {s : SVal} (h : k.getCell pos n = some s) :
    Bv.ofBytes n (σ.readMem (cellAddr sp0 pos) n) = conc sp0 s := by
  obtain ⟨c, hc, rfl, rfl, rfl⟩ := K.getCell_mem k _ _ _ h
  obtain ⟨_, hw, hread⟩ := hr.cells c hc
  rw [hread]; exact Bv.ofBytes_toNat_self hw

theorem conc_bytes (sp0 : BitVec 64) (s : SVal) : (conc sp0 s).bytes = s.bytes := by
  cases s with
  | c b => rfl
  | sp o => exact (rfl : (64 + 7) / 8 = 8)

theorem conc_width (sp0 : BitVec 64) (s : SVal) (h : s.byteSized = true) : (conc sp0 s).w = 8 * s.bytes := by
  cases s with
  | c b => exact of_decide_eq_true h
  | sp o => rfl

/-- a tracked store: the written cell is read back, cells `K.clear` keeps are not touched -/
theorem Rel.store {sp0 : BitVec 64} {k : K} {σ : Sem.State} (hr : Rel sp0 k σ) (pos : Int) (s : SVal)
    (hin : inBounds pos s.bytes = true) (hbs : s.byteSized = true) :
    Rel sp0 { k.clear pos s.bytes with cells := ⟨pos, s.bytes, s⟩ :: (k.clear pos s.bytes).cells }
      (σ.writeMem (cellAddr sp0 pos) s.bytes (conc sp0 s).toNat) where
  regs := by
    intro w s' h
    rw [Sem.getReg_writeMem]; exact hr.regs w s' h
  cells := by
    intro c hc
    rcases List.mem_cons.mp hc with rfl | hc
    · refine ⟨hin, conc_width sp0 s hbs, ?_⟩
      have hn : s.bytes ≤ 2 ^ 64 := by
        simp only [inBounds, Bool.and_eq_true, decide_eq_true_eq] at hin; omega
      show (σ.writeMem _ _ _).readMem (cellAddr sp0 pos) s.bytes = _
      rw [SemL.readMem_writeMem_same σ hr.ptr _ _ _ hn]
      refine Nat.mod_eq_of_lt ?_
      rw [show (256 : Nat) = 2 ^ 8 from rfl, ← Nat.pow_mul, ← conc_width sp0 s hbs]
      exact (conc sp0 s).v.isLt
    · obtain ⟨hmem, hdis⟩ := K.mem_clear k _ _ c hc
      obtain ⟨hcb, hcw, hcr⟩ := hr.cells c hmem
      refine ⟨hcb, hcw, ?_⟩
      rw [SemL.readMem_writeMem_frame, hcr]
      intro i j hi hj
      exact Sem.cells_disjoint σ hr.ptr sp0.toNat (by decide) (disjointCell_sep hdis) (inBounds_window hcb)
        (inBounds_window hin) i hi j hj
  ptr := by rw [Sem.ptrBytes_writeMem]; exact hr.ptr

theorem cpDef_sound (strict : Bool) (sp0 : BitVec 64) (k : K) (σ σ' : Sem.State) (d : Def)
    (evs : List Sem.Event) (hr : Rel sp0 k σ) (hx : Sem.execDef σ d = some (σ', evs)) :
    Rel sp0 (cpDef strict k d) σ' := by
  cases d with
  | Assign v e =>
    obtain ⟨x, hxe, _, hx⟩ := Sem.execDef_assign.mp hx
    cases hx
    simp only [cpDef]
    split
    · next s hs =>
      cases (cpExpr_sound strict sp0 k σ hr e s hs).symm.trans hxe
      exact hr.setReg_known v s
    · exact hr.forget v x
  | Load v a =>
    obtain ⟨addr, hae, hx⟩ := Sem.execDef_load.mp hx
    cases hx
    simp only [cpDef]
    split
    · next o ho =>
      split
      · next s hs =>
        cases (cpExpr_sound strict sp0 k σ hr a _ ho).symm.trans hae
        rw [conc_sp_toNat, hr.readCell hs]
        exact hr.setReg_known v s
      · exact hr.forget v _
    · exact hr.forget v _
  | Store a e =>
    obtain ⟨addr, hae, x, hxe, hx⟩ := Sem.execDef_store.mp hx
    cases hx
    simp only [cpDef]
    split
    · next o s ho hs =>
      split
      · next hb =>
        cases (cpExpr_sound strict sp0 k σ hr a _ ho).symm.trans hae
        cases (cpExpr_sound strict sp0 k σ hr e _ hs).symm.trans hxe
        rw [Bool.and_eq_true] at hb
        rw [conc_bytes, conc_sp_toNat]
        exact hr.store _ s hb.1 hb.2
      · exact hr.forgetCells _ _ _
    · exact hr.forgetCells _ _ _

theorem cpDefs_sound (strict : Bool) (sp0 : BitVec 64) :
    ∀ (defs : List (Term Def)) (k : K) (σ σ' : Sem.State) (evs : List Sem.Event),
      Rel sp0 k σ → Sem.execDefs σ defs = some (σ', evs) → Rel sp0 (cpDefs strict k defs) σ' := by
  intro defs
  induction defs with
  | nil =>
    intro k σ σ' evs hr hx
    cases hx
    exact hr
  | cons d ds ih =>
    intro k σ σ' evs hr hx
    obtain ⟨σ₁, e₁, σ₂, e₂, h1, h2, hx⟩ := Sem.execDefs_cons_some.mp hx
    cases hx
    exact ih _ _ _ _ (cpDef_sound strict sp0 k σ σ₁ d.term e₁ hr h1) h2

/-- initial states: 64-bit addresses, the stack pointer register holds some 64-bit value -/
structure GoodInit (sp : Variable) (sp0 : BitVec 64) (σ : Sem.State) : Prop where
  ptr : σ.ptrBytes = 8
  spVal : σ.getReg sp = ⟨64, sp0⟩

theorem K.getReg_init {sp v : Variable} {sv : SVal} (h : (K.init sp).getReg v = some sv) :
    v = sp ∧ sv = .sp 0 := by
  simp only [K.init, K.getReg] at h
  by_cases hvs : sp = v
  · subst hvs; simp at h; exact ⟨rfl, h.symm⟩
  · simp [hvs] at h

theorem Rel.init {sp : Variable} {sp0 : BitVec 64} {σ : Sem.State} (h : GoodInit sp sp0 σ) :
    Rel sp0 (K.init sp) σ where
  regs := by
    intro v sv hv
    obtain ⟨rfl, rfl⟩ := K.getReg_init hv
    rw [h.spVal]; exact congrArg (Bv.mk 64) (BitVec.add_zero sp0).symm
  cells := by intro c hc; cases hc
  ptr := h.ptr

theorem cpParam_sound (strict : Bool) (sp0 : BitVec 64) (k : K) (σ : Sem.State) (hr : Rel sp0 k σ)
    (p : Arg) (b : Bv) (h : cpParam strict k p = some b) : semParam σ p = some b := by
  cases p with
  | Register e dt =>
    simp only [cpParam] at h
    split at h
    · next b' he => cases h; exact cpExpr_sound strict sp0 k σ hr e _ he
    · cases h
  | Stack a size dt =>
    simp only [cpParam] at h
    split at h
    · next o ho =>
      split at h
      · next b' hc =>
        cases h
        simp only [semParam, cpExpr_sound strict sp0 k σ hr a _ ho, conc_sp_toNat, hr.readCell hc]; rfl
      · cases h
    · cases h

/-- **C18-const-sound.** If the block "computes the parameter as the constant `b` from constants
alone" (`blockConst`, with or without the no-signed-overflow restriction), then in the reference
interpreter the parameter has the value `b` after the block's definitions — from EVERY initial state
(any register contents, any memory, any value of the stack pointer). -/
theorem blockConst_sound (strict : Bool) (sp : Variable) (defs : List (Term Def)) (p : Arg) (b : Bv)
    (h : blockConst strict sp defs p = some b)
    (σ σ' : Sem.State) (sp0 : BitVec 64) (evs : List Sem.Event)
    (hinit : GoodInit sp sp0 σ) (hx : Sem.execDefs σ defs = some (σ', evs)) :
    semParam σ' p = some b :=
  cpParam_sound strict sp0 _ σ' (cpDefs_sound strict sp0 defs _ σ σ' evs (Rel.init hinit) hx) p b h

end CweModel.C18
