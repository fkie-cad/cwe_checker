/-
C17 — property theorems. Statement of the property:

  The TOCTOU check reports a (check, use) pair at a call to the check function exactly when a call
  to the use function is reachable from it along intraprocedural control flow without passing another
  call to the check function. The chroot check reports a chroot call exactly when no chdir call is
  reachable after it in that sense and its function does not call both chdir and a
  privilege-dropping function (or when chdir is not imported at all); it handles every program
  without failing.

The reachability query and the two checkers are treated on every graph in `Search.lean` and `Checkers.lean`. Here: on
the graph of a program (`buildCfgE`, property C08) the checks never fail (`check367_total`; `check243_total` under
`NoConditionalCalls`).
-/
import CweModel.C08.Props
import CweModel.C17.Checkers

namespace CweModel.C17
open CweModel.IR CweModel.Cfg CweModel.C08 List

theorem blkEnd_inj {b b' : Term Blk} {s s' : Term Sub} (h : Node.BlkEnd b s = .BlkEnd b' s') :
    (b, s) = (b', s') := by
  cases h; rfl

/-- programs without conditional calls: a block that contains a call has no other jump
("Conditional calls are not supported", `graph.rs`) -/
def NoConditionalCalls (p : Program) : Prop :=
  ∀ s ∈ p.subs, ∀ b ∈ s.term.blocks, b.term.jmps.any isCall = true → b.term.jmps.length = 1

instance (p : Program) : Decidable (NoConditionalCalls p) := by unfold NoConditionalCalls; infer_instance

/-- Holds of any `blk` and `sub`, in `pairs p` or not: only the edges of `specEdges p` that start
at `BlkEnd blk sub` are counted. -/
theorem extern_call_blkEnd_out_le_one {p : Program} (hr : CfgReady p) {g : Graph} (hg : buildCfgE p = .ok g)
    {blk : Term Blk} {sub : Term Sub} {jt t : Tid} {r : Option Tid}
    (hj : blk.term.jmps = [⟨jt, .Call t r⟩]) (hx : isExtern p t = true) :
    (g.neighbors (.BlkEnd blk sub)).length ≤ 1 := by
  let q : EdgeRef → Bool := fun e => decide (e.src = Node.BlkEnd blk sub)
  have hlen : (g.neighbors (.BlkEnd blk sub)).length = ((specEdges p).filter q).length := by
    simp only [Graph.neighbors, Graph.outEdges, length_map, length_reverse]
    exact ((buildCfg_spec_of_ok hr hg).2.filter q).length_eq
  -- the block makes no internal call and does not return
  have hcs : callSites p (blk, sub) = [] := by
    simp only [callSites, hj, flatMap_cons, flatMap_nil, append_nil, callSite1, calleeOf, hx, if_true]
  have hret : hasReturn blk = false := by
    simp only [hasReturn, hj, any_cons, any_nil, isReturn, Bool.or_false]
  rw [hlen, specEdges, filter_append, filter_append, filter_append, length_append, length_append, length_append]
  have hA : ((pairs p).map (fun bs => (⟨.BlkStart bs.1 bs.2, .BlkEnd bs.1 bs.2, .Block⟩ : EdgeRef))).filter q = [] :=
    filter_eq_nil_iff.mpr fun e he => by
      obtain ⟨bs, _, rfl⟩ := mem_map.mp he
      exact fun h => nomatch of_decide_eq_true h
  have hB : (((pairs p).flatMap fun bs => (markedJumps bs.1).flatMap (jumpEdges p bs)).filter q).length ≤ 1 := by
    refine Nat.le_trans (length_filter_flatMap_le _ q (blk, sub) (pairs_nodup hr) fun bs _ hne => ?_) ?_
    · refine filter_eq_nil_iff.mpr fun e he => ?_
      obtain ⟨ju, _, hju⟩ := mem_flatMap.mp he
      obtain ⟨tb, l, rfl⟩ := jumpEdges_eq hju
      exact fun h => hne (blkEnd_inj (of_decide_eq_true h))
    · refine Nat.le_trans (length_filter_le _ _) ?_
      simp only [markedJumps, hj, map_nil, flatMap_cons, flatMap_nil, append_nil, jumpEdges]
      cases r with
      | none => exact Nat.zero_le _
      | some rt =>
        simp only [hx, if_true, edgeTo]
        split
        · exact Nat.le_refl _
        · exact Nat.zero_le _
  have hC : ((pairs p).flatMap fun bs => (callSites p bs).flatMap (·.callEdges)).filter q = [] :=
    filter_eq_nil_iff.mpr fun e he => by
      obtain ⟨bs, _, hbs⟩ := mem_flatMap.mp he
      obtain ⟨c, hc, hce⟩ := mem_flatMap.mp hbs
      simp only [CallSite.callEdges, mem_cons, not_mem_nil, or_false] at hce
      rcases hce with rfl | rfl
      · intro h
        have hsrc : c.src = (blk, sub) := blkEnd_inj (of_decide_eq_true h)
        rw [← (mem_callSites hc).1, hsrc, hcs] at hc
        cases hc
      · exact fun h => nomatch of_decide_eq_true h
  have hD : ((pairs p).flatMap fun rf =>
      if hasReturn rf.1 then (returningCallsTo p rf.2.tid).flatMap (fun cr => returnEdges rf cr.1 cr.2)
      else []).filter q = [] :=
    filter_eq_nil_iff.mpr fun e he => by
      obtain ⟨rf, _, hc⟩ := mem_flatMap.mp he
      split at hc
      next hret' =>
        obtain ⟨cr, _, hce⟩ := mem_flatMap.mp hc
        simp only [returnEdges, mem_cons, not_mem_nil, or_false] at hce
        rcases hce with rfl | rfl | rfl
        · exact fun h => nomatch of_decide_eq_true h
        · intro h
          rw [show rf.1 = blk from congrArg Prod.fst (blkEnd_inj (of_decide_eq_true h)), hret] at hret'
          cases hret'
        · exact fun h => nomatch of_decide_eq_true h
      next => cases hc
  rw [hA, hC, hD, length_nil, Nat.zero_add, Nat.add_zero]
  exact hB

/-- In the graph of a program, the end node of a block whose only jump is a call to an extern symbol
has at most one outgoing edge (the `ExternCallStub` to the return site, if there is one). -/
theorem extern_callsite_out_le_one {p : Program} (hr : CfgReady p) {g : Graph} (hg : buildCfgE p = .ok g)
    {blk : Term Blk} {sub : Term Sub} (hm : (blk, sub) ∈ pairs p) {jt t : Tid} {r : Option Tid}
    (hj : blk.term.jmps = [⟨jt, .Call t r⟩]) (hx : isExtern p t = true) :
    (g.neighbors (.BlkEnd blk sub)).length ≤ 1 :=
  extern_call_blkEnd_out_le_one hr hg hj hx

theorem findSymbol_isExtern {p : Program} {name : String} {t : Tid} (h : findSymbol p name = some t) :
    isExtern p t = true := by
  unfold findSymbol at h
  obtain ⟨s, hs, rfl⟩ := Option.map_eq_some_iff.mp h
  simp only [isExtern, externTids, any_eq_true, decide_eq_true_eq]
  exact ⟨s.tid, mem_map_of_mem (mem_of_find?_eq_some hs), rfl⟩

theorem externCall_edge_dst {p : Program} {e : EdgeRef} (he : e ∈ specEdges p) {x : Tid × Tid}
    (hx : externCall e.label = some x) : ∃ b s, e.dst = .BlkStart b s := by
  simp only [specEdges, mem_append, mem_flatMap, mem_map] at he
  rcases he with ((⟨bs, _, rfl⟩ | ⟨bs, _, ju, _, hj⟩) | ⟨bs, _, c, _, hc⟩) | ⟨rf, _, hr⟩
  · cases hx
  · obtain ⟨tb, l, rfl⟩ := jumpEdges_eq hj; exact ⟨tb, bs.2, rfl⟩
  · simp only [CallSite.callEdges, mem_cons, not_mem_nil, or_false] at hc
    rcases hc with rfl | rfl <;> cases hx
  · split at hr
    · obtain ⟨cr, _, hce⟩ := mem_flatMap.mp hr
      simp only [returnEdges, mem_cons, not_mem_nil, or_false] at hce
      rcases hce with rfl | rfl | rfl <;> cases hx
    · cases hr

/-- **C17-toctou-total.** On the graph of a program satisfying `CfgReady` the TOCTOU check never
fails. -/
theorem check367_total {p : Program} (hr : CfgReady p) {g : Graph} (hg : buildCfgE p = .ok g)
    (pairs : List (String × String)) : ∃ ws, check367 p g pairs = .ok ws := by
  have hperm := (buildCfg_spec_of_ok hr hg).2
  unfold check367
  apply concatE_total
  intro pr _
  cases symbolMapGet p pr.1 with
  | none => exact ⟨[], rfl⟩
  | some s =>
    cases symbolMapGet p pr.2 with
    | none => exact ⟨[], rfl⟩
    | some k =>
      simp only
      apply concatE_total
      intro e he
      unfold check367Edge
      cases hx : externCall e.label with
      | none => exact ⟨[], rfl⟩
      | some tj =>
        obtain ⟨b, sb, hd⟩ := externCall_edge_dst (hperm.mem_iff.mp he) hx
        simp only
        split
        · split
          · rw [hd]; exact ⟨_, rfl⟩
          · exact ⟨[], rfl⟩
        · exact ⟨[], rfl⟩

/-- **C17-chroot-total.** On the graph of every program that satisfies `CfgReady` and has no
conditional calls the chroot check returns normally ("it handles every program without failing"):
in particular for chroot calls without a return site (finding D7, repaired). -/
theorem check243_total {p : Program} (hr : CfgReady p) (hnc : NoConditionalCalls p) {g : Graph}
    (hg : buildCfgE p = .ok g) (privNames : List String) : ∃ ws, check243 p g privNames = .ok ws := by
  refine check243_total_of fun blk sub hn chroot hc hcalls => ?_
  have hm := blkEnd_mem_specNodes.mp ((buildCfg_spec_of_ok hr hg).1.mem_iff.mp hn)
  have ⟨hs, hb⟩ := mem_pairs.mp hm
  rw [blkCallsTid_isSome] at hcalls
  obtain ⟨j, hj, hjc⟩ := any_eq_true.mp hcalls
  obtain ⟨r, hjr⟩ := (callsTid_iff _ _).mp hjc
  -- the call is the only jump of its block
  obtain ⟨j', hj'⟩ := length_eq_one_iff.mp
    (hnc sub hs blk hb (any_eq_true.mpr ⟨j, hj, by simp only [isCall, hjr]⟩))
  obtain rfl : j = j' := by rwa [hj', mem_singleton] at hj
  obtain ⟨jt, jterm⟩ := j
  cases hjr
  exact extern_call_blkEnd_out_le_one hr hg hj' (findSymbol_isExtern hc)

namespace Example
def zf : Expression := .Var ⟨"ZF", 1, false⟩
def jmp (t : String) (j : Jmp) : Term Jmp := ⟨⟨t, "UNKNOWN"⟩, j⟩
def blk (t : String) (jmps : List (Term Jmp)) : Term Blk :=
  ⟨⟨t, "UNKNOWN"⟩, { defs := [], jmps := jmps, indirectJmpTargets := [] }⟩
def ext (t name : String) : ExternSymbol :=
  { tid := ⟨t, "UNKNOWN"⟩, addresses := [], name := name, callingConvention := none, parameters := [],
    returnValues := [], noReturn := false, hasVarArgs := false }

/-- `access(); if .. { open() }; chroot()` where the chroot call has no return site (finding D7) -/
def prog : Program :=
  { subs := [
      ⟨⟨"main", "UNKNOWN"⟩, { name := "main", blocks := [
        blk "m0" [jmp "m0j0" (.Call ⟨"x_access", "UNKNOWN"⟩ (some ⟨"m1", "UNKNOWN"⟩))],
        blk "m1" [jmp "m1j0" (.CBranch ⟨"m3", "UNKNOWN"⟩ zf), jmp "m1j1" (.Branch ⟨"m2", "UNKNOWN"⟩)],
        blk "m2" [jmp "m2j0" (.Call ⟨"x_open", "UNKNOWN"⟩ (some ⟨"m3", "UNKNOWN"⟩))],
        blk "m3" [jmp "m3j0" (.Call ⟨"x_chroot", "UNKNOWN"⟩ none)]] }⟩],
    externSymbols := [ext "x_access" "access", ext "x_chdir" "chdir", ext "x_chroot" "chroot", ext "x_open" "open"],
    entryPoints := [⟨"main", "UNKNOWN"⟩] }

example : CfgReady prog ∧ NoConditionalCalls prog := by decide +kernel

example : (check367 prog (buildCfg prog) [("access", "open")]).toOption
    = some [warning367 "access" "open" ⟨"m1", "UNKNOWN"⟩ ⟨"m2j0", "UNKNOWN"⟩ "main"] := by decide +kernel

example : (check243 prog (buildCfg prog) ["setuid"]).toOption
    = some [warning243 ⟨⟨"main", "UNKNOWN"⟩, { name := "main", blocks := [] }⟩ ⟨"m3j0", "UNKNOWN"⟩] := by decide +kernel
end Example

end CweModel.C17
