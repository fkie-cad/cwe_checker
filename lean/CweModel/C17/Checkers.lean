/-
C17 — the two checkers (`cwe_367::check_cwe`, `cwe_243::check_cwe`) follow their path specification
on every graph.
-/
import CweModel.C17.Search

namespace CweModel.C17
open CweModel.IR CweModel.Cfg CweModel.Reach List

theorem blkCallsTid_isSome (blk : Term Blk) (tid : Tid) :
    (blkCallsTid blk tid).isSome = blk.term.jmps.any (callsTid tid) := by
  simp only [blkCallsTid, Option.isSome_map]
  induction blk.term.jmps with
  | nil => rfl
  | cons j js ih => cases h : callsTid tid j <;> simp [h, ih]

/-- the function contains a direct call to `tid` -/
def SubCalls (sub : Term Sub) (tid : Tid) : Prop :=
  ∃ blk ∈ sub.term.blocks, ∃ j ∈ blk.term.jmps, ∃ r, j.term = .Call tid r

theorem callsTid_iff (tid : Tid) (j : Term Jmp) : callsTid tid j = true ↔ ∃ r, j.term = .Call tid r := by
  unfold callsTid
  split
  next target r h => simp only [h, decide_eq_true_eq, Jmp.Call.injEq, exists_and_left, exists_eq', and_true]
  next h => exact ⟨nofun, fun ⟨r, hr⟩ => absurd hr (h _ _)⟩

theorem any_blkCallsTid_iff (sub : Term Sub) (tid : Tid) :
    sub.term.blocks.any (fun blk => (blkCallsTid blk tid).isSome) = true ↔ SubCalls sub tid := by
  simp only [SubCalls, any_eq_true, blkCallsTid_isSome, callsTid_iff]

/-- **C17-privdrop.** `sub_calls_chdir_and_priviledge_dropping_func` is true exactly when the function
calls `chdir` AND calls at least one of the privilege-dropping functions. -/
theorem subCallsChdirAndPrivDrop_iff (sub : Term Sub) (chdir : Tid) (privs : List Tid) :
    subCallsChdirAndPrivDrop sub chdir privs = true ↔ SubCalls sub chdir ∧ ∃ t ∈ privs, SubCalls sub t := by
  simp only [← any_blkCallsTid_iff, subCallsChdirAndPrivDrop]
  cases sub.term.blocks.any (fun blk => (blkCallsTid blk chdir).isSome)
  · simp only [Bool.not_false, if_true, Bool.false_eq_true, false_and]
  · simp only [Bool.not_true, Bool.false_eq_true, if_false, any_eq_true, true_and]
    constructor
    · rintro ⟨blk, hb, t, ht, h⟩; exact ⟨t, ht, blk, hb, h⟩
    · rintro ⟨t, ht, blk, hb, h⟩; exact ⟨blk, hb, t, ht, h⟩

theorem concatE_spec {α β : Type} (f : α → Except String (List β)) (l : List α) :
    match concatE f l with
    | .ok ws => (∀ a ∈ l, ∃ wa, f a = .ok wa) ∧ ∀ w, w ∈ ws ↔ ∃ a ∈ l, ∃ wa, f a = .ok wa ∧ w ∈ wa
    | .error e => ∃ a ∈ l, f a = .error e := by
  induction l with
  | nil => exact ⟨forall_mem_nil _, fun w => by simp⟩
  | cons a l ih =>
    unfold concatE
    cases hfa : f a with
    | error e => exact ⟨a, mem_cons_self, hfa⟩
    | ok wa =>
      cases hr : concatE f l with
      | error e =>
        rw [hr] at ih
        obtain ⟨a', ha', he⟩ := ih
        exact ⟨a', mem_cons_of_mem _ ha', he⟩
      | ok wr =>
        rw [hr] at ih
        refine ⟨forall_mem_cons.mpr ⟨⟨wa, hfa⟩, ih.1⟩, fun w => ?_⟩
        simp only [mem_append, ih.2 w, mem_cons, exists_eq_or_imp, hfa, Except.ok.injEq, exists_eq_left']

theorem concatE_ok {α β : Type} {f : α → Except String (List β)} {l : List α} {ws : List β}
    (h : concatE f l = .ok ws) (w : β) : w ∈ ws ↔ ∃ a ∈ l, ∃ wa, f a = .ok wa ∧ w ∈ wa := by
  have := concatE_spec f l
  rw [h] at this
  exact this.2 w

theorem concatE_ok_all {α β : Type} {f : α → Except String (List β)} {l : List α} {ws : List β}
    (h : concatE f l = .ok ws) : ∀ a ∈ l, ∃ wa, f a = .ok wa := by
  have := concatE_spec f l
  rw [h] at this
  exact this.1

theorem concatE_total {α β : Type} {f : α → Except String (List β)} {l : List α}
    (h : ∀ a ∈ l, ∃ wa, f a = .ok wa) : ∃ ws, concatE f l = .ok ws := by
  have := concatE_spec f l
  cases hc : concatE f l with
  | ok ws => exact ⟨ws, rfl⟩
  | error e =>
    rw [hc] at this
    obtain ⟨a, ha, he⟩ := this
    obtain ⟨wa, hwa⟩ := h a ha
    cases he.symm.trans hwa

theorem concatE_error {α β : Type} {f : α → Except String (List β)} :
    ∀ {l : List α} {e : String}, concatE f l = .error e → ∃ a ∈ l, f a = .error e := by
  intro l e h
  have := concatE_spec f l
  rw [h] at this
  exact this

/-- `e` is the stub edge of a call to `s` that returns to block `blk` of function `sub` -/
def SourceCall (g : Graph) (s : Tid) (e : EdgeRef) (blk : Term Blk) (sub : Term Sub) : Prop :=
  e ∈ g.edges ∧ (∃ jt, externCall e.label = some (s, jt)) ∧ e.dst = .BlkStart blk sub

/-- the one case in which the loop body of the TOCTOU check reports; `check367Edge_mem` is the converse -/
theorem check367Edge_source {g : Graph} {source sink : String} {s k jt t : Tid} {e : EdgeRef} {blk : Term Blk}
    {sub : Term Sub} (hx : externCall e.label = some (s, jt)) (hd : e.dst = .BlkStart blk sub)
    (ht : isSinkCallReachable g e.dst s k = some t) :
    check367Edge g source sink s k e = .ok [warning367 source sink blk.tid t sub.term.name] := by
  rw [hd] at ht
  simp only [check367Edge, hx, if_true, hd, ht]

theorem check367Edge_mem {g : Graph} {source sink : String} {s k : Tid} {e : EdgeRef} {wa : List Warning}
    (h : check367Edge g source sink s k e = .ok wa) {w : Warning} (hw : w ∈ wa) :
    (∃ jt, externCall e.label = some (s, jt)) ∧ ∃ blk sub t, e.dst = .BlkStart blk sub ∧
      isSinkCallReachable g e.dst s k = some t ∧ w = warning367 source sink blk.tid t sub.term.name := by
  unfold check367Edge at h
  split at h
  next target jt hx =>
    split at h
    next ht =>
      subst ht
      split at h
      next t hr =>
        split at h
        next blk sub hd => cases h; exact ⟨⟨jt, hx⟩, blk, sub, t, hd, hr, mem_singleton.mp hw⟩
        next => cases h
      next => cases h; cases hw
    next => cases h; cases hw
  next => cases h; cases hw

/-- **C17-toctou (reported ⇒ reachable).** Every warning of the TOCTOU check belongs to a configured
(check, use) pair whose symbols are imported and to a call of the check function; the reported use call
is a call to the use function that is reachable from the return site of the check call along
intraprocedural control flow without passing another call to the check function. -/
theorem check367_sound {p : Program} {g : Graph} {pairs : List (String × String)} {ws : List Warning}
    (h : check367 p g pairs = .ok ws) {w : Warning} (hw : w ∈ ws) :
    ∃ pr ∈ pairs, ∃ s k, symbolMapGet p pr.1 = some s ∧ symbolMapGet p pr.2 = some k ∧
      ∃ e blk sub t, SourceCall g s e blk sub ∧ w = warning367 pr.1 pr.2 blk.tid t sub.term.name ∧
        ∃ m, IntraPath g s e.dst m ∧ SinkCallAt g k m t := by
  unfold check367 at h
  obtain ⟨pr, hpr, wa, hwa, hwm⟩ := (concatE_ok h w).mp hw
  cases hs : symbolMapGet p pr.1 with
  | none => simp only [hs] at hwa; cases hwa; cases hwm
  | some s =>
    cases hk : symbolMapGet p pr.2 with
    | none => simp only [hs, hk] at hwa; cases hwa; cases hwm
    | some k =>
      simp only [hs, hk] at hwa
      obtain ⟨e, he, we, hwe, hwme⟩ := (concatE_ok hwa w).mp hwm
      obtain ⟨hx, blk, sub, t, hd, hr, rfl⟩ := check367Edge_mem hwe hwme
      exact ⟨pr, hpr, s, k, hs, hk, e, blk, sub, t, ⟨he, hx, hd⟩, rfl, isSinkCallReachable_sound hr⟩

/-- **C17-toctou (reachable ⇒ reported).** For every configured (check, use) pair whose symbols are
imported and every call of the check function from whose return site a call to the use function is
reachable (intraprocedurally, without passing another call to the check function), the TOCTOU check
reports a warning for this call site, naming a reachable call to the use function. -/
theorem check367_complete {p : Program} {g : Graph} {pairs : List (String × String)} {ws : List Warning}
    (h : check367 p g pairs = .ok ws) {pr : String × String} (hpr : pr ∈ pairs) {s k : Tid}
    (hs : symbolMapGet p pr.1 = some s) (hk : symbolMapGet p pr.2 = some k)
    {e : EdgeRef} {blk : Term Blk} {sub : Term Sub} (hsc : SourceCall g s e blk sub)
    (hreach : ∃ m t, IntraPath g s e.dst m ∧ SinkCallAt g k m t) :
    ∃ t, warning367 pr.1 pr.2 blk.tid t sub.term.name ∈ ws ∧ ∃ m, IntraPath g s e.dst m ∧ SinkCallAt g k m t := by
  obtain ⟨t, ht⟩ := Option.isSome_iff_exists.mp ((isSinkCallReachable_isSome_iff g e.dst s k).mpr hreach)
  refine ⟨t, ?_, isSinkCallReachable_sound ht⟩
  unfold check367 at h
  obtain ⟨wa, hwa⟩ := concatE_ok_all h pr hpr
  refine (concatE_ok h _).mpr ⟨pr, hpr, wa, hwa, ?_⟩
  simp only [hs, hk] at hwa
  obtain ⟨he, ⟨jt, hx⟩, hd⟩ := hsc
  exact (concatE_ok hwa _).mpr ⟨e, he, _, check367Edge_source hx hd ht, mem_singleton_self _⟩

/-- a call to `chdir` is reachable after the chroot call ending `n` (from its return site,
intraprocedurally, without passing another chroot call) -/
def ChdirAfter (g : Graph) (chroot chdir : Tid) (n : Node) : Prop :=
  ∃ retTo ∈ g.neighbors n, ∃ m t, IntraPath g chroot retTo m ∧ SinkCallAt g chdir m t

/-- the verdict of the chroot check for the call site `BlkEnd blk sub` -/
def Insecure (p : Program) (g : Graph) (chroot : Tid) (privs : List Tid) (n : Node) (sub : Term Sub) : Prop :=
  findSymbol p "chdir" = none ∨
  ∃ chdir, findSymbol p "chdir" = some chdir ∧ ¬ ChdirAfter g chroot chdir n ∧
    ¬ (SubCalls sub chdir ∧ ∃ t ∈ privs, SubCalls sub t)

/-- with at most one successor, looking at the first successor is looking at all of them -/
theorem chdirReachableAfter_iff {g : Graph} {n : Node} {chroot chdir : Tid} (hlen : (g.neighbors n).length ≤ 1) :
    chdirReachableAfter g n chroot chdir = true ↔ ChdirAfter g chroot chdir n := by
  unfold chdirReachableAfter ChdirAfter
  rcases hn : g.neighbors n with _ | ⟨r, _ | ⟨r2, rest⟩⟩
  · simp only [head?_nil, Bool.false_eq_true, not_mem_nil, false_and, exists_false]
  · simp only [head?_cons, isSinkCallReachable_isSome_iff, mem_singleton, exists_eq_left]
  · exact absurd (hn ▸ hlen) (by simp)

theorem check243Node_blkEnd_ok {p : Program} {g : Graph} {chroot callsite : Tid} {privs : List Tid}
    {blk : Term Blk} {sub : Term Sub} {wa : List Warning}
    (h : check243Node p g chroot privs (.BlkEnd blk sub) = .ok wa) (hc : blkCallsTid blk chroot = some callsite)
    (w : Warning) :
    w ∈ wa ↔ w = warning243 sub callsite ∧ Insecure p g chroot privs (.BlkEnd blk sub) sub := by
  unfold Insecure
  cases hd : findSymbol p "chdir" with
  | none =>
    simp only [check243Node, hc, hd] at h
    cases h
    simp only [mem_singleton, true_or, and_true]
  | some chdir =>
    simp only [check243Node, hc, hd] at h
    by_cases hlen : (g.neighbors (.BlkEnd blk sub)).length > 1
    · rw [if_pos hlen] at h; cases h
    · rw [if_neg hlen] at h
      simp only [reduceCtorEq, false_or, Option.some.injEq, exists_eq_left',
        ← chdirReachableAfter_iff (Nat.le_of_not_gt hlen), ← subCallsChdirAndPrivDrop_iff]
      -- both sides are now a matter of the two flags
      generalize chdirReachableAfter g _ chroot chdir = r at h ⊢
      generalize subCallsChdirAndPrivDrop sub chdir privs = q at h ⊢
      cases r <;> cases q <;> cases h <;>
        simp only [mem_singleton, not_mem_nil, Bool.false_eq_true, not_false_eq_true, not_true_eq_false, and_true,
          and_false]

theorem check243Node_site {p : Program} {g : Graph} {chroot : Tid} {privs : List Tid} {n : Node}
    {wa : List Warning} (h : check243Node p g chroot privs n = .ok wa) {w : Warning} (hw : w ∈ wa) :
    ∃ blk sub callsite, n = .BlkEnd blk sub ∧ blkCallsTid blk chroot = some callsite := by
  cases n with
  | BlkEnd blk sub =>
    cases hc : blkCallsTid blk chroot with
    | some callsite => exact ⟨blk, sub, callsite, rfl, hc⟩
    | none =>
      simp only [check243Node, hc] at h
      cases h
      cases hw
  | _ => cases h; cases hw

/-- **C17-chroot.** The chroot check reports a warning exactly for the chroot call sites
(`BlkEnd` nodes of blocks calling `chroot`) for which `chdir` is not imported at all, or no call to
`chdir` is reachable after the chroot call (intraprocedurally, without passing another chroot call)
and the function does not call both `chdir` and one of the privilege-dropping functions. -/
theorem check243_iff {p : Program} {g : Graph} {privNames : List String} {ws : List Warning}
    (h : check243 p g privNames = .ok ws) (w : Warning) :
    w ∈ ws ↔ ∃ chroot, findSymbol p "chroot" = some chroot ∧ ∃ blk sub callsite,
      Node.BlkEnd blk sub ∈ g.nodes ∧ blkCallsTid blk chroot = some callsite ∧ w = warning243 sub callsite ∧
      Insecure p g chroot (privNames.filterMap (findSymbol p)) (.BlkEnd blk sub) sub := by
  unfold check243 at h
  cases hc : findSymbol p "chroot" with
  | none =>
    simp only [hc] at h
    cases h
    simp only [not_mem_nil, reduceCtorEq, false_and, exists_false]
  | some chroot =>
    simp only [hc] at h
    simp only [concatE_ok h w, Option.some.injEq, exists_eq_left']
    constructor
    · rintro ⟨n, hn, wa, hwa, hw⟩
      obtain ⟨blk, sub, callsite, rfl, h1⟩ := check243Node_site hwa hw
      exact ⟨blk, sub, callsite, hn, h1, (check243Node_blkEnd_ok hwa h1 w).mp hw⟩
    · rintro ⟨blk, sub, callsite, hn, h1, h23⟩
      obtain ⟨wa, hwa⟩ := concatE_ok_all h _ hn
      exact ⟨_, hn, wa, hwa, (check243Node_blkEnd_ok hwa h1 w).mpr h23⟩

/-- **C17-chroot-total (graph level).** The chroot check fails only through its explicit assertion:
it returns normally whenever every chroot call site has at most one outgoing edge — in particular a
chroot call without a return site (no outgoing edge, finding D7) is handled. -/
theorem check243_total_of {p : Program} {g : Graph} {privNames : List String}
    (hdeg : ∀ blk sub, Node.BlkEnd blk sub ∈ g.nodes → ∀ chroot, findSymbol p "chroot" = some chroot →
      (blkCallsTid blk chroot).isSome → (g.neighbors (.BlkEnd blk sub)).length ≤ 1) :
    ∃ ws, check243 p g privNames = .ok ws := by
  unfold check243
  cases hc : findSymbol p "chroot" with
  | none => exact ⟨[], rfl⟩
  | some chroot =>
    refine concatE_total fun n hn => ?_
    cases n with
    | BlkEnd blk sub =>
      cases hb : blkCallsTid blk chroot with
      | none => exact ⟨[], by simp only [check243Node, hb]⟩
      | some callsite =>
        have hlen := hdeg blk sub hn chroot hc (by rw [hb]; rfl)
        cases hd : findSymbol p "chdir" with
        | none => exact ⟨[warning243 sub callsite], by simp only [check243Node, hb, hd]⟩
        | some chdir =>
          simp only [check243Node, hb, hd, if_neg (Nat.not_lt.mpr hlen)]
          generalize chdirReachableAfter g _ chroot chdir = b1
          generalize subCallsChdirAndPrivDrop sub chdir _ = b2
          cases b1 <;> cases b2 <;> exact ⟨_, rfl⟩
    | _ => exact ⟨[], rfl⟩

end CweModel.C17
