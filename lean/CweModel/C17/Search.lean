/-
C17 — correctness of the model of `is_sink_call_reachable_from_source_call`:
the worklist search (mark-on-push DFS with early exit, skip-at-source rule and edge-kind filter)
returns `Some(t)` iff a call to the sink symbol is reachable along a passable path, and `t` is the
TID of such a call; the fuel of the model loop always suffices.
The search is first related to `Reach (nextGo ..)`, reachability along the edges it follows, and that to the path
specification (`IntraPath`, `SinkCallAt`) from `classify_found_iff` on.
-/
import CweModel.C17.Model

namespace CweModel.C17
open CweModel.IR CweModel.Cfg CweModel.Reach List

def nextGo (g : Graph) (src snk : Tid) (n : Node) : List Node :=
  ((g.outEdges n).filter (fun e => decide (classify src snk e.label = .follow))).map (·.dst)

theorem mem_nextGo {g : Graph} {src snk : Tid} {n d : Node} :
    d ∈ nextGo g src snk n ↔ ∃ e ∈ g.outEdges n, classify src snk e.label = .follow ∧ e.dst = d := by
  simp only [nextGo, mem_map, mem_filter, decide_eq_true_eq, and_assoc]

theorem mem_outEdges {g : Graph} {n : Node} {e : EdgeRef} : e ∈ g.outEdges n ↔ e ∈ g.edges ∧ e.src = n := by
  simp only [Graph.outEdges, mem_reverse, mem_filter, decide_eq_true_eq]

theorem scan_found {src snk : Tid} {es : List EdgeRef} {vis wl : List Node} {t : Tid}
    (h : scanEdges src snk es vis wl = .found t) : ∃ e ∈ es, classify src snk e.label = .found t := by
  fun_induction scanEdges src snk es vis wl with
  | case1 => cases h
  | case2 e _ _ _ _ hc => cases h; exact ⟨e, mem_cons_self, hc⟩
  | case3 _ _ _ _ _ ih | case4 _ _ _ _ _ _ ih | case5 _ _ _ _ _ _ ih =>
    obtain ⟨e, he, hc⟩ := ih h
    exact ⟨e, mem_cons_of_mem _ he, hc⟩

/-- the scan has dealt with edge `e`: it is no sink call, and if it is followed its target is in `vis` -/
def Scanned (src snk : Tid) (vis : List Node) (e : EdgeRef) : Prop :=
  (∀ t, classify src snk e.label ≠ .found t) ∧ (classify src snk e.label = .follow → e.dst ∈ vis)

/-- A scan that meets no sink call pushes the same list `new` of nodes onto the visited set and the
worklist: the targets of the followed edges that had not been visited. -/
theorem scan_cont {src snk : Tid} {es : List EdgeRef} {vis wl vis' wl' : List Node}
    (h : scanEdges src snk es vis wl = .cont vis' wl') :
    ∃ new, vis' = new ++ vis ∧ wl' = new ++ wl ∧
      (∀ x ∈ new, ∃ e ∈ es, classify src snk e.label = .follow ∧ e.dst = x) ∧
      (∀ e ∈ es, Scanned src snk vis' e) := by
  fun_induction scanEdges src snk es vis wl with
  | case1 => cases h; exact ⟨[], rfl, rfl, forall_mem_nil _, forall_mem_nil _⟩
  | case2 => cases h
  | case3 e es vis wl hc ih =>
    obtain ⟨new, rfl, rfl, h2, h3⟩ := ih h
    refine ⟨new, rfl, rfl, fun x hx => ?_, forall_mem_cons.mpr ⟨⟨by simp [hc], by simp [hc]⟩, h3⟩⟩
    obtain ⟨e', he', hx⟩ := h2 x hx
    exact ⟨e', mem_cons_of_mem _ he', hx⟩
  | case4 e es vis wl hc hv ih =>
    obtain ⟨new, rfl, rfl, h2, h3⟩ := ih h
    refine ⟨new, rfl, rfl, fun x hx => ?_,
      forall_mem_cons.mpr ⟨⟨by simp [hc], fun _ => mem_append_right _ hv⟩, h3⟩⟩
    obtain ⟨e', he', hx⟩ := h2 x hx
    exact ⟨e', mem_cons_of_mem _ he', hx⟩
  | case5 e es vis wl hc hv ih =>
    obtain ⟨new, rfl, rfl, h2, h3⟩ := ih h
    refine ⟨new ++ [e.dst], append_cons .., append_cons .., fun x hx => ?_,
      forall_mem_cons.mpr ⟨⟨by simp [hc], fun _ => mem_append_right _ mem_cons_self⟩, h3⟩⟩
    rcases mem_append.mp hx with hx | hx
    · obtain ⟨e', he', hx⟩ := h2 x hx
      exact ⟨e', mem_cons_of_mem _ he', hx⟩
    · exact ⟨e, mem_cons_self, hc, (mem_singleton.mp hx).symm⟩

theorem search_found {g : Graph} {src snk : Tid} {n0 : Node} {fuel : Nat} {vis wl : List Node} {t : Tid}
    (h : search g src snk fuel vis wl = .found t) (hwl : ∀ w ∈ wl, Reach (nextGo g src snk) n0 w) :
    ∃ m, Reach (nextGo g src snk) n0 m ∧ ∃ e ∈ g.outEdges m, classify src snk e.label = .found t := by
  fun_induction search g src snk fuel vis wl with
  | case1 | case2 => cases h
  | case3 _ _ n _ _ hs => cases h; exact ⟨n, hwl n mem_cons_self, scan_found hs⟩
  | case4 _ _ n wl _ _ hs ih =>
    obtain ⟨new, -, rfl, h2, -⟩ := scan_cont hs
    refine ih h fun w hw => ?_
    rcases mem_append.mp hw with hw | hw
    · obtain ⟨e, he, hf, rfl⟩ := h2 w hw
      exact .tail (hwl n mem_cons_self) (mem_nextGo.mpr ⟨e, he, hf, rfl⟩)
    · exact hwl w (mem_cons_of_mem _ hw)

/-- a finished unsuccessful run ends with a visited set all of whose
nodes have only scanned edges: it is closed under followed edges and has no sink call edge -/
theorem search_notFound {g : Graph} {src snk : Tid} {fuel : Nat} {vis wl : List Node}
    (h : search g src snk fuel vis wl = .notFound)
    (hdone : ∀ v ∈ vis, v ∈ wl ∨ ∀ e ∈ g.outEdges v, Scanned src snk vis e) :
    ∃ visF, (∀ v ∈ vis, v ∈ visF) ∧ ∀ v ∈ visF, ∀ e ∈ g.outEdges v, Scanned src snk visF e := by
  fun_induction search g src snk fuel vis wl with
  | case1 _ vis => exact ⟨vis, fun _ h => h, fun v hv => (hdone v hv).resolve_left not_mem_nil⟩
  | case2 | case3 => cases h
  | case4 _ vis n wl _ _ hs ih =>
    obtain ⟨new, rfl, rfl, -, h3⟩ := scan_cont hs
    obtain ⟨visF, hsub, hF⟩ := ih h fun v hv => by
      rcases mem_append.mp hv with hv | hv
      · exact .inl (mem_append_left _ hv)
      · rcases hdone v hv with hw | hd
        · rcases mem_cons.mp hw with rfl | hw
          · exact .inr h3
          · exact .inl (mem_append_right _ hw)
        · exact .inr fun e he => ⟨(hd e he).1, fun hf => mem_append_right _ ((hd e he).2 hf)⟩
    exact ⟨visF, fun v hv => hsub v (mem_append_right _ hv), hF⟩

/-- Every edge the scan follows to an unvisited node closes at least one edge of the graph for
`Reach.openEdges .. (·.dst)`, the number of edges whose target is not visited yet. -/
theorem scan_measure {g : Graph} {src snk : Tid} {es : List EdgeRef} {vis wl vis' wl' : List Node}
    (hes : ∀ e ∈ es, e ∈ g.edges) (h : scanEdges src snk es vis wl = .cont vis' wl') :
    wl'.length + openEdges g.edges (·.dst) vis' ≤ wl.length + openEdges g.edges (·.dst) vis := by
  fun_induction scanEdges src snk es vis wl with
  | case1 => cases h; exact Nat.le_refl _
  | case2 => cases h
  | case3 _ _ _ _ _ ih | case4 _ _ _ _ _ _ ih => exact ih (fun e he => hes e (mem_cons_of_mem _ he)) h
  | case5 e _ vis wl _ hv ih =>
    refine Nat.le_trans (ih (fun e he => hes e (mem_cons_of_mem _ he)) h) ?_
    rw [length_cons, Nat.add_right_comm]
    exact Nat.add_lt_add_left (openEdges_visit_lt (hes e mem_cons_self) hv) _

/-- every iteration decreases `worklist.length + openEdges` -/
theorem search_fuel {g : Graph} {src snk : Tid} {fuel : Nat} {vis wl : List Node}
    (h : wl.length + openEdges g.edges (·.dst) vis < fuel) : search g src snk fuel vis wl ≠ .outOfFuel := by
  fun_induction search g src snk fuel vis wl with
  | case1 | case3 => nofun
  | case2 => exact absurd h (Nat.not_lt_zero _)
  | case4 _ _ n _ _ _ hs ih =>
    exact ih (Nat.lt_of_le_of_lt (scan_measure (g := g) (fun e he => (mem_outEdges.mp he).1) hs)
      (Nat.lt_of_succ_lt_succ (Nat.succ_add .. ▸ h)))

theorem search_fuel_sufficient (g : Graph) (src snk : Tid) (n : Node) :
    search g src snk (searchFuel g) [n] [n] ≠ .outOfFuel :=
  search_fuel (Nat.lt_of_le_of_lt (Nat.add_le_add_left (openEdges_le ..) _)
    (by rw [Nat.add_comm]; exact Nat.lt_succ_self _))

theorem classify_found_iff (src snk : Tid) (l : Edge) (t : Tid) :
    classify src snk l = .found t ↔ externCall l = some (snk, t) := by
  unfold classify
  cases h : externCall l with
  | none => simp; split <;> simp
  | some tj =>
    obtain ⟨target, jt⟩ := tj
    simp only
    by_cases h1 : target = snk
    · subst h1; simp [eq_comm]
    · simp only [h1, if_false, Option.some.injEq, Prod.mk.injEq, false_and, iff_false]
      split
      · simp
      · split <;> simp

theorem classify_follow_iff (src snk : Tid) (l : Edge) :
    classify src snk l = .follow ↔ passable src l = true ∧ ∀ t, externCall l ≠ some (snk, t) := by
  unfold classify passable
  cases h : externCall l with
  | none => cases followed l <;> simp
  | some tj =>
    obtain ⟨target, jt⟩ := tj
    simp only
    by_cases h1 : target = snk
    · subst h1; simp
    · by_cases h2 : target = src
      · subst h2; simp [h1]
      · cases followed l <;> simp [h1, h2]

theorem mem_nextOk {g : Graph} {src : Tid} {n d : Node} :
    d ∈ nextOk g src n ↔ ∃ e ∈ g.edges, e.src = n ∧ passable src e.label = true ∧ e.dst = d := by
  simp only [nextOk, mem_map, mem_filter, decide_eq_true_eq]
  constructor
  · rintro ⟨e, ⟨⟨h1, h2⟩, h3⟩, h4⟩; exact ⟨e, h1, h2, h3, h4⟩
  · rintro ⟨e, h1, h2, h3, h4⟩; exact ⟨e, ⟨⟨h1, h2⟩, h3⟩, h4⟩

theorem reachGo_reachOk {g : Graph} {src snk : Tid} {a b : Node} (h : Reach (nextGo g src snk) a b) :
    IntraPath g src a b := by
  refine Reach.congr ?_ h
  intro x y hy
  obtain ⟨e, he, hf, rfl⟩ := mem_nextGo.mp hy
  obtain ⟨he1, he2⟩ := mem_outEdges.mp he
  exact mem_nextOk.mpr ⟨e, he1, he2, ((classify_follow_iff _ _ _).mp hf).1, rfl⟩

/-- on a passable path either a sink call occurs at a node the search reaches, or the search reaches
the end of the path -/
theorem reachOk_cases {g : Graph} {src snk : Tid} {a b : Node} (h : IntraPath g src a b) :
    (∃ m t, Reach (nextGo g src snk) a m ∧ SinkCallAt g snk m t) ∨ Reach (nextGo g src snk) a b := by
  induction h with
  | refl => exact .inr (.refl _)
  | tail _ hs ih =>
    rcases ih with hl | hr
    · exact .inl hl
    · obtain ⟨e, he, hsrc, hp, rfl⟩ := mem_nextOk.mp hs
      by_cases hk : ∃ t, externCall e.label = some (snk, t)
      · obtain ⟨t, ht⟩ := hk
        exact .inl ⟨_, t, hr, e, he, hsrc, ht⟩
      · refine .inr (.tail hr (mem_nextGo.mpr ⟨e, mem_outEdges.mpr ⟨he, hsrc⟩, ?_, rfl⟩))
        exact (classify_follow_iff _ _ _).mpr ⟨hp, fun t ht => hk ⟨t, ht⟩⟩

/-- **C17-reach-sound.** If `is_sink_call_reachable_from_source_call` returns `Some(t)`, then `t` is the
TID of a call to the sink symbol at a node that is reachable from the start node along an
intraprocedural path that does not traverse a stub edge of a call to the source symbol. -/
theorem isSinkCallReachable_sound {g : Graph} {n : Node} {src snk t : Tid}
    (h : isSinkCallReachable g n src snk = some t) :
    ∃ m, IntraPath g src n m ∧ SinkCallAt g snk m t := by
  unfold isSinkCallReachable at h
  split at h
  next t' hs =>
    cases h
    obtain ⟨m, hr, e, he, hc⟩ := search_found (n0 := n) hs fun w hw => mem_singleton.mp hw ▸ .refl w
    obtain ⟨he1, he2⟩ := mem_outEdges.mp he
    exact ⟨m, reachGo_reachOk hr, e, he1, he2, (classify_found_iff _ _ _ _).mp hc⟩
  next => cases h

/-- **C17-reach-complete.** `is_sink_call_reachable_from_source_call` returns `Some(_)` exactly when a
call to the sink symbol is reachable from the start node along an intraprocedural path that does
not traverse a stub edge of a call to the source symbol. -/
theorem isSinkCallReachable_isSome_iff (g : Graph) (n : Node) (src snk : Tid) :
    (isSinkCallReachable g n src snk).isSome = true ↔ ∃ m t, IntraPath g src n m ∧ SinkCallAt g snk m t := by
  constructor
  · intro h
    obtain ⟨t, ht⟩ := Option.isSome_iff_exists.mp h
    obtain ⟨m, h1, h2⟩ := isSinkCallReachable_sound ht
    exact ⟨m, t, h1, h2⟩
  · rintro ⟨m, t, hp, hsink⟩
    -- a sink call at a node the search can reach
    obtain ⟨m', t', hr', e, he, hsrc, hx⟩ : ∃ m' t', Reach (nextGo g src snk) n m' ∧ SinkCallAt g snk m' t' := by
      rcases reachOk_cases (snk := snk) hp with h | h
      · exact h
      · exact ⟨m, t, h, hsink⟩
    unfold isSinkCallReachable
    cases hs : search g src snk (searchFuel g) [n] [n] with
    | found t'' => rfl
    | outOfFuel => exact absurd hs (search_fuel_sufficient g src snk n)
    | notFound =>
      exfalso
      obtain ⟨visF, hsub, hdone⟩ := search_notFound hs fun v hv => .inl hv
      have hm' : m' ∈ visF := hr'.closed (P := (· ∈ visF)) (hsub n mem_cons_self) (hcl := fun a b ha hb => by
        obtain ⟨e, he, hf, rfl⟩ := mem_nextGo.mp hb
        exact (hdone a ha e he).2 hf)
      exact (hdone m' hm' e (mem_outEdges.mpr ⟨he, hsrc⟩)).1 t' ((classify_found_iff _ _ _ _).mpr hx)

theorem isSinkCallReachable_none_iff (g : Graph) (n : Node) (src snk : Tid) :
    isSinkCallReachable g n src snk = none ↔ ¬ ∃ m t, IntraPath g src n m ∧ SinkCallAt g snk m t := by
  rw [← isSinkCallReachable_isSome_iff]
  cases isSinkCallReachable g n src snk <;> simp

end CweModel.C17
