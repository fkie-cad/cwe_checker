/-
C24 — property theorems. Statement of the property:

  For every program and every pair of functions, the call-sequence query returns exactly those
  direct calls between internal functions that lie on some call-graph path from the source
  function to the target function.
-/
import CweModel.C24.Model
open CweModel.IR CweModel.Reach

namespace CweModel.C24

theorem mem_outEdges {g : CallGraph} {n : Tid} {e : CallEdge} : e ∈ outEdges g n ↔ e ∈ g.edges ∧ e.src = n := by
  simp only [outEdges, List.mem_filter, decide_eq_true_eq]
theorem mem_inEdges {g : CallGraph} {n : Tid} {e : CallEdge} : e ∈ inEdges g n ↔ e ∈ g.edges ∧ e.dst = n := by
  simp only [inEdges, List.mem_filter, decide_eq_true_eq]

theorem pass_fst (adj : Tid → List CallEdge) (far : CallEdge → Tid) (f : Nat) (st vis : List Tid)
    (es : List Nat) :
    (pass adj far f st vis es).1 = (dfs (fun n => (adj n).map far) f st vis).2 := by
  fun_induction pass adj far f st vis es with
  | case1 | case2 => rfl
  | case3 _ _ _ _ _ hn ih => rw [dfs, if_pos hn, ih]
  | case4 _ _ _ _ _ hn ih => rw [dfs, if_neg hn, ih]

theorem pass_snd (adj : Tid → List CallEdge) (far : CallEdge → Tid) (f : Nat) (st vis : List Tid)
    (es : List Nat) (hinv : ∀ i, i ∈ es ↔ ∃ n ∈ vis, ∃ e ∈ adj n, e.w.id = i) :
    ∀ i, i ∈ (pass adj far f st vis es).2 ↔
      ∃ n ∈ (pass adj far f st vis es).1, ∃ e ∈ adj n, e.w.id = i := by
  fun_induction pass adj far f st vis es with
  | case1 | case2 => exact hinv
  | case3 _ _ _ _ _ _ ih => exact ih hinv
  | case4 _ n _ vis es _ ih =>
    refine ih fun i => ?_
    simp only [List.mem_append, List.mem_map, hinv i, List.mem_cons, exists_eq_or_imp]

theorem mem_pass_iff (E : List CallEdge) (near far : CallEdge → Tid) {f : Nat} (hf : E.length + 1 < f)
    (s : Tid) (i : Nat) :
    i ∈ (pass (fun n => E.filter fun e => decide (near e = n)) far f [s] [] []).2 ↔
      ∃ e ∈ E, e.w.id = i ∧ Reach (fun n => (E.filter fun e => decide (near e = n)).map far) s (near e) := by
  have hfin := dfs_fuel_sufficient E near (fun n => (E.filter fun e => decide (near e = n)).map far)
    (fun _ => Nat.le_of_eq (List.length_map _)) [s] f (Nat.add_comm .. ▸ hf)
  rw [pass_snd _ _ _ _ _ _ fun i => ⟨fun h => absurd h List.not_mem_nil, fun ⟨_, h, _⟩ => absurd h List.not_mem_nil⟩,
    pass_fst]
  simp only [mem_dfs_iff _ _ _ hfin, List.mem_singleton, exists_eq_left, List.mem_filter, decide_eq_true_eq]
  constructor
  · rintro ⟨_, hr, e, ⟨he, rfl⟩, hi⟩; exact ⟨e, he, hi, hr⟩
  · rintro ⟨e, he, hi, hr⟩; exact ⟨_, hr, e, ⟨he, rfl⟩, hi⟩

theorem fwd_iff (g : CallGraph) (src : Tid) (i : Nat) :
    i ∈ (pass (outEdges g) (·.dst) (passFuel g) [src] [] []).2 ↔
      ∃ e ∈ g.edges, e.w.id = i ∧ GReach g.edges src e.src :=
  mem_pass_iff g.edges (·.src) (·.dst) (Nat.lt_succ_self _) src i

theorem bwd_iff (g : CallGraph) (tgt : Tid) (i : Nat) :
    i ∈ (pass (inEdges g) (·.src) (passFuel g) [tgt] [] []).2 ↔
      ∃ e ∈ g.edges, e.w.id = i ∧ GReach g.edges e.dst tgt := by
  simp only [← reach_preds_iff]
  exact mem_pass_iff g.edges (·.dst) (·.src) (Nat.lt_succ_self _) tgt i

/-- petgraph's invariant: the edge with `EdgeIndex` i is the i-th edge -/
def WfIds (g : CallGraph) : Prop := ∀ e ∈ g.edges, g.edges[e.w.id]? = some e

/-- **C24-graph-level.** For every call graph with consistent edge ids and all `src`, `tgt`: the
two DFS passes and the edge-id intersection return exactly the call Tids of the edges whose
source is reachable from `src` and from whose target `tgt` is reachable. -/
theorem findFromNodeToTarget_iff (g : CallGraph) (hg : WfIds g) (src tgt x : Tid) :
    x ∈ findFromNodeToTarget g src tgt ↔
      ∃ e ∈ g.edges, e.w.call = x ∧ GReach g.edges src e.src ∧ GReach g.edges e.dst tgt := by
  simp only [findFromNodeToTarget, List.mem_filterMap]
  constructor
  · rintro ⟨i, hf, hx⟩
    obtain ⟨e, he, rfl, hr1⟩ := (fwd_iff g src i).mp hf
    split at hx
    next hb =>
      obtain ⟨e', he', hid, hr2⟩ := (bwd_iff g tgt _).mp hb
      -- same id, same edge
      obtain rfl : e = e' := Option.some.inj ((hg e he).symm.trans (hid ▸ hg e' he'))
      rw [hg e he] at hx
      exact ⟨e, he, Option.some.inj hx, hr1, hr2⟩
    next => cases hx
  · rintro ⟨e, he, hx, hr1, hr2⟩
    refine ⟨e.w.id, (fwd_iff g src _).mpr ⟨e, he, rfl, hr1⟩, ?_⟩
    rw [if_pos ((bwd_iff g tgt _).mpr ⟨e, he, rfl, hr2⟩), hg e he, Option.map_some, hx]

/-- **C24-on-path.** The same, phrased with explicit paths: `x` is returned iff some chain of
call-graph edges from `src` to `tgt` contains an edge whose call Tid is `x`. -/
theorem findFromNodeToTarget_on_path (g : CallGraph) (hg : WfIds g) (src tgt x : Tid) :
    x ∈ findFromNodeToTarget g src tgt ↔
      ∃ es, Path g.edges src es tgt ∧ ∃ e ∈ es, e.w.call = x := by
  rw [findFromNodeToTarget_iff g hg]
  constructor
  · rintro ⟨e, he, hx, h1, h2⟩
    obtain ⟨es, hp, hm⟩ := on_path_iff.mpr ⟨he, h1, h2⟩
    exact ⟨es, hp, e, hm, hx⟩
  · rintro ⟨es, hp, e, hm, hx⟩
    obtain ⟨he, h1, h2⟩ := on_path_iff.mp ⟨es, hp, hm⟩
    exact ⟨e, he, hx, h1, h2⟩

/-- **C24-panic.** The query panics exactly when the source or the target is not a function of
the program (node of the graph); otherwise it returns. -/
theorem findCallSequences_none_iff (g : CallGraph) (src tgt : Tid) :
    findCallSequencesToTarget g src tgt = none ↔ src ∉ g.nodes ∨ tgt ∉ g.nodes := by
  unfold findCallSequencesToTarget
  split
  next h => simp [h.1, h.2]
  next h => simp only [true_iff]; exact Decidable.not_and_iff_or_not.mp h

theorem findCallSequences_some (g : CallGraph) (src tgt : Tid) (h1 : src ∈ g.nodes) (h2 : tgt ∈ g.nodes) :
    findCallSequencesToTarget g src tgt = some (findFromNodeToTarget g src tgt) := by
  simp [findCallSequencesToTarget, h1, h2]

theorem edges_getElem? (p : Program) (i : Nat) :
    (getProgramCallgraph p).edges[i]? =
      ((p.subs.flatMap (callsOfSub (p.subs.map (·.tid))))[i]?).map
        (fun r => (⟨r.1, r.2.1, ⟨i, r.2.2⟩⟩ : CallEdge)) := by
  simp only [getProgramCallgraph, List.getElem?_map, List.getElem?_zipIdx]
  cases (p.subs.flatMap (callsOfSub (p.subs.map (·.tid))))[i]? <;> simp

/-- **C24-edge-ids.** The edge ids of the constructed graph are the positions in the edge list. -/
theorem wfIds_getProgramCallgraph (p : Program) : WfIds (getProgramCallgraph p) := by
  intro e he
  obtain ⟨i, hi⟩ := List.getElem?_of_mem he
  have h := edges_getElem? p i
  rw [hi] at h
  cases hr : (p.subs.flatMap (callsOfSub (p.subs.map (·.tid))))[i]? with
  | none => rw [hr] at h; simp at h
  | some r =>
    rw [hr] at h
    simp at h
    subst h
    exact hi

/-- **C24-one-edge-per-call.** Reading off (source, target, call Tid) of the edges in id order gives
exactly the list of `Jmp::Call`s with internal target, in program order: one edge per call. -/
theorem edges_triples (p : Program) :
    (getProgramCallgraph p).edges.map (fun e => (e.src, e.dst, e.w.call)) =
      p.subs.flatMap (callsOfSub (p.subs.map (·.tid))) := by
  apply List.ext_getElem?
  intro i
  rw [List.getElem?_map, edges_getElem?]
  cases (p.subs.flatMap (callsOfSub (p.subs.map (·.tid))))[i]? <;> simp

theorem nodes_getProgramCallgraph (p : Program) : (getProgramCallgraph p).nodes = p.subs.map (·.tid) := rfl

theorem mem_callsOfSub {nodes : List Tid} {s : Term Sub} {a b t : Tid} :
    (a, b, t) ∈ callsOfSub nodes s ↔
      s.tid = a ∧ ∃ blk ∈ s.term.blocks, ∃ j ∈ blk.term.jmps, j.tid = t ∧ (∃ ret, j.term = .Call b ret) ∧ b ∈ nodes := by
  simp only [callsOfSub, List.mem_filterMap, List.mem_flatMap]
  constructor
  · rintro ⟨j, ⟨blk, hb, hj⟩, h⟩
    split at h
    next target ret heq =>
      obtain ⟨hn, h⟩ := Option.ite_none_right_eq_some.mp h
      cases h
      exact ⟨rfl, blk, hb, j, hj, rfl, ⟨ret, heq⟩, hn⟩
    next => cases h
  · rintro ⟨rfl, blk, hb, j, hj, rfl, ⟨ret, heq⟩, hn⟩
    exact ⟨j, ⟨blk, hb, hj⟩, by rw [heq]; exact if_pos hn⟩

theorem mem_calls_iff (p : Program) (a b t : Tid) :
    (a, b, t) ∈ p.subs.flatMap (callsOfSub (p.subs.map (·.tid))) ↔
      ∃ e ∈ (getProgramCallgraph p).edges, e.src = a ∧ e.dst = b ∧ e.w.call = t := by
  simp only [← edges_triples, List.mem_map, Prod.mk.injEq]

/-- **C24-edges.** The graph has an edge `a → b` carrying call Tid `t` iff `t` is a direct call from
function `a` to the internal function `b`. -/
theorem edge_iff_directCall (p : Program) (a b t : Tid) :
    (∃ e ∈ (getProgramCallgraph p).edges, e.src = a ∧ e.dst = b ∧ e.w.call = t) ↔ DirectCall p a b t := by
  simp only [← mem_calls_iff, List.mem_flatMap, mem_callsOfSub, DirectCall, List.mem_map]

theorem mem_callees (p : Program) (a b : Tid) :
    b ∈ callees p a ↔ b ∈ succs (getProgramCallgraph p).edges a := by
  have h : b ∈ callees p a ↔ ∃ t, (a, b, t) ∈ p.subs.flatMap (callsOfSub (p.subs.map (·.tid))) := by
    simp only [callees, List.mem_filterMap, Option.ite_none_right_eq_some, Option.some.injEq, Prod.exists]
    constructor
    · rintro ⟨_, _, t, hr, rfl, rfl⟩; exact ⟨t, hr⟩
    · rintro ⟨t, hr⟩; exact ⟨a, b, t, hr, rfl, rfl⟩
  simp only [h, mem_calls_iff, mem_succs]
  constructor
  · rintro ⟨_, e, he, h1, h2, _⟩; exact ⟨e, he, h1, h2⟩
  · rintro ⟨e, he, h1, h2⟩; exact ⟨_, e, he, h1, h2, rfl⟩

theorem callReach_iff (p : Program) (a b : Tid) :
    CallReach p a b ↔ GReach (getProgramCallgraph p).edges a b :=
  ⟨Reach.congr (fun x y h => (mem_callees p x y).mp h), Reach.congr (fun x y h => (mem_callees p x y).mpr h)⟩

/-- **C24 (main theorem).** For every program `p` and all functions `src`, `tgt` of `p`: the
call-sequence query on the program's call graph returns, and it returns exactly the Tids of the
direct calls between internal functions that lie on some call-graph path from `src` to `tgt`. -/
theorem callSequences_exact (p : Program) (src tgt : Tid)
    (hs : src ∈ p.subs.map (·.tid)) (ht : tgt ∈ p.subs.map (·.tid)) :
    ∃ r, findCallSequencesToTarget (getProgramCallgraph p) src tgt = some r ∧
      ∀ x, x ∈ r ↔ OnCallPath p src tgt x := by
  refine ⟨_, findCallSequences_some _ src tgt hs ht, ?_⟩
  intro x
  rw [findFromNodeToTarget_iff _ (wfIds_getProgramCallgraph p)]
  simp only [OnCallPath, callReach_iff]
  constructor
  · rintro ⟨e, he, hx, h1, h2⟩
    exact ⟨e.src, e.dst, (edge_iff_directCall p _ _ _).mp ⟨e, he, rfl, rfl, hx⟩, h1, h2⟩
  · rintro ⟨a, b, hd, h1, h2⟩
    obtain ⟨e, he, rfl, rfl, hx⟩ := (edge_iff_directCall p _ _ _).mpr hd
    exact ⟨e, he, hx, h1, h2⟩

/-- **C24-panic (program level).** The query panics iff source or target is not a function. -/
theorem callSequences_panic_iff (p : Program) (src tgt : Tid) :
    findCallSequencesToTarget (getProgramCallgraph p) src tgt = none ↔
      src ∉ p.subs.map (·.tid) ∨ tgt ∉ p.subs.map (·.tid) :=
  findCallSequences_none_iff _ src tgt

theorem mem_closeN_of_mem (next : Tid → List Tid) (k : Nat) (S : List Tid) : ∀ x ∈ S, x ∈ closeN next k S := by
  induction k generalizing S with
  | zero => intro x hx; exact hx
  | succ k ih =>
    intro x hx
    exact ih _ x (List.mem_eraseDups.mpr (List.mem_append_left _ hx))

theorem closeN_sound (next : Tid → List Tid) (k : Nat) (S : List Tid) :
    ∀ x ∈ closeN next k S, ∃ s ∈ S, Reach next s x := by
  induction k generalizing S with
  | zero => intro x hx; exact ⟨x, hx, .refl x⟩
  | succ k ih =>
    intro x hx
    obtain ⟨s, hs, hr⟩ := ih _ x hx
    rcases List.mem_append.mp (List.mem_eraseDups.mp hs) with h | h
    · exact ⟨s, h, hr⟩
    · obtain ⟨a, ha, hsa⟩ := List.mem_flatMap.mp h
      exact ⟨a, ha, Reach.head hsa hr⟩

theorem closedB_complete (next : Tid → List Tid) (S : List Tid) (h : closedB next S = true)
    {a b : Tid} (ha : a ∈ S) (hr : Reach next a b) : b ∈ S := by
  simp only [closedB, List.all_eq_true, decide_eq_true_eq] at h
  exact hr.closed (P := (· ∈ S)) (fun x y hx => h x hx y) ha

theorem mem_closeN_iff {next : Tid → List Tid} {k : Nat} {S : List Tid} (h : closedB next (closeN next k S) = true)
    (x : Tid) : x ∈ closeN next k S ↔ ∃ s ∈ S, Reach next s x :=
  ⟨closeN_sound next k S x, fun ⟨s, hs, hr⟩ => closedB_complete _ _ h (mem_closeN_of_mem next k S s hs) hr⟩

/-- **C24-spec.** Whenever the executable specification answers, its answer is the declarative
one (same right-hand side as `findFromNodeToTarget_iff`). -/
theorem specResult_iff (g : CallGraph) (src tgt : Tid) (r : List Tid) (h : specResult g src tgt = some r)
    (x : Tid) :
    x ∈ r ↔ ∃ e ∈ g.edges, e.w.call = x ∧ GReach g.edges src e.src ∧ GReach g.edges e.dst tgt := by
  simp only [specResult] at h
  split at h
  next hc =>
    rw [Bool.and_eq_true] at hc
    cases h
    simp only [List.mem_map, List.mem_filter, Bool.and_eq_true, decide_eq_true_eq, mem_closeN_iff hc.1,
      mem_closeN_iff hc.2, List.mem_singleton, exists_eq_left, reach_preds_iff]
    constructor
    · rintro ⟨e, ⟨he, h1, h2⟩, hx⟩; exact ⟨e, he, hx, h1, h2⟩
    · rintro ⟨e, he, hx, h1, h2⟩; exact ⟨e, ⟨he, h1, h2⟩, hx⟩
  next => cases h

theorem model_eq_spec (g : CallGraph) (hg : WfIds g) (src tgt : Tid) (r : List Tid)
    (h : specResult g src tgt = some r) (x : Tid) : x ∈ findFromNodeToTarget g src tgt ↔ x ∈ r := by
  rw [findFromNodeToTarget_iff g hg, specResult_iff g src tgt r h]

/-! ### non-vacuity: a concrete program

`f0` calls `f1` twice and itself once, `f1` calls `f2` and an extern symbol, `f2` calls `f0`
(cycle) and calls through a pointer, `f3` calls `f0`; nobody calls `f3`. -/

private def mkCall (t tgt : String) : Term Jmp := ⟨⟨t, "UNKNOWN"⟩, .Call ⟨tgt, "UNKNOWN"⟩ none⟩
private def mkSub (t : String) (jmps : List (Term Jmp)) : Term Sub :=
  ⟨⟨t, "UNKNOWN"⟩, { name := t, blocks := [⟨⟨t ++ "_b", "UNKNOWN"⟩, { defs := [], jmps := jmps }⟩] }⟩

def exProgram : Program :=
  { subs := [mkSub "f0" [mkCall "c1" "f1", mkCall "c2" "f1", mkCall "c3" "f0"],
             mkSub "f1" [mkCall "c4" "f2", mkCall "c5" "ext"],
             mkSub "f2" [mkCall "c6" "f0", ⟨⟨"c7", "UNKNOWN"⟩, .CallInd (.Var ⟨"RAX", 8, false⟩) none⟩],
             mkSub "f3" [mkCall "c8" "f0"]]
    externSymbols := [], entryPoints := [] }

example : (getProgramCallgraph exProgram).edges.length = 6 := by decide +kernel
example : findCallSequencesToTarget (getProgramCallgraph exProgram) ⟨"f0", "UNKNOWN"⟩ ⟨"f1", "UNKNOWN"⟩
    = some ([⟨"c6", "UNKNOWN"⟩, ⟨"c4", "UNKNOWN"⟩, ⟨"c1", "UNKNOWN"⟩, ⟨"c2", "UNKNOWN"⟩, ⟨"c3", "UNKNOWN"⟩]) := by decide +kernel
example : findCallSequencesToTarget (getProgramCallgraph exProgram) ⟨"f0", "UNKNOWN"⟩ ⟨"f3", "UNKNOWN"⟩ = some [] := by
  decide +kernel
example : findCallSequencesToTarget (getProgramCallgraph exProgram) ⟨"f0", "UNKNOWN"⟩ ⟨"ext", "UNKNOWN"⟩ = none := by
  decide +kernel
/-- the hypotheses of the main theorem hold for the example, and the statement gives a concrete fact -/
example : OnCallPath exProgram ⟨"f3", "UNKNOWN"⟩ ⟨"f2", "UNKNOWN"⟩ ⟨"c4", "UNKNOWN"⟩ := by
  obtain ⟨r, h1, h2⟩ := callSequences_exact exProgram ⟨"f3", "UNKNOWN"⟩ ⟨"f2", "UNKNOWN"⟩
    (by decide +kernel) (by decide +kernel)
  have hr : some r = some [⟨"c6", "UNKNOWN"⟩, ⟨"c4", "UNKNOWN"⟩, ⟨"c1", "UNKNOWN"⟩, ⟨"c2", "UNKNOWN"⟩,
      ⟨"c3", "UNKNOWN"⟩, ⟨"c8", "UNKNOWN"⟩] := h1.symm.trans (by decide +kernel)
  cases hr
  exact (h2 _).mp (by decide +kernel)

end CweModel.C24
