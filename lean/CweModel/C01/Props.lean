/-
C01 — Constant folding of IR operations agrees with P-Code semantics.

  "Whenever the analyzer computes the value of an integer operation (arithmetic, bitwise, shifts,
   comparisons, carry/borrow flags, piece/subpiece, extensions, popcount, leading-zero count) on known
   operand values, the result is exactly the value the Ghidra P-Code reference semantics define for
   those operands. For operations it does not support (floating point, multiplication/division wider
   than 8 bytes, division by zero) it reports 'unknown' instead of a value; it never returns a wrong value."

`Impl.*` (Base/Bv.lean) is the model of `bitvector.rs`, `Ref.*` the reference semantics written as
arithmetic on `toNat`/`toInt`. The level of `BitVec` (one kernel lemma per operation, the overflow-checked helpers) is
C01/Kernels.lean; here the API level, `Bitvector::bin_op / un_op / cast / subpiece` on sized values. The theorems hold
for EVERY width `w` (not only 8/16/32/64), with two exceptions that mirror the code: `smulFlag_eq` (Kernels) is for
`w ≤ 64`, and `cast_eq_ref` needs `a.w < 2 ^ 64` (the PopCount/LzCount casts go through a `u64`).
-/
import CweModel.C01.Kernels
import CweModel.C01.Sizes
import CweModel.Base.IRInst

namespace CweModel.C01
open CweModel CweModel.IR BitVec

variable {w : Nat}

theorem sameW_congr {a b : Bv} {f g : {w : Nat} → BitVec w → BitVec w → Res}
    (h : ∀ {w : Nat} (x y : BitVec w), f x y = g x y) : sameW a b f = sameW a b g := by
  have : @f = @g := by funext w x y; exact h x y
  rw [this]

theorem divArm_eq {a b : Bv} (h : a.w = b.w) {f g : {w : Nat} → BitVec w → BitVec w → BitVec w}
    (hfg : ∀ {w : Nat} (x y : BitVec w), f x y = g x y) :
    (sameWErr a b fun x y => if y == 0 then .unknown else valV (f x y)) =
      sameW a b fun x y => if y.toNat = 0 then .unknown else valV (g x y) := by
  unfold sameWErr sameW
  simp only [dif_pos h, hfg]
  generalize h ▸ b.v = y
  by_cases hy : y = 0
  · rw [hy]; rfl
  · rw [if_neg (by simpa using hy), if_neg fun (h0 : y.toNat = 0) => hy (BitVec.eq_of_toNat_eq h0)]

/-- operand sizes for which the operation is defined (everything else is a caller bug that makes
the real code panic or return `Err`; the property does not speak about it) -/
def WellSizedBin (op : BinOpType) (a b : Bv) : Prop :=
  match op with
  | .Piece => True
  | .IntLeft | .IntRight | .IntSRight => b.toNat < 2 ^ 64
  | _ => a.w = b.w

/-- **C01-binop.** For every binary operation and all operands of admissible sizes — of EVERY bit
width — the model of `Bitvector::bin_op` returns exactly the P-Code reference result: the reference
value where one is defined, `unknown` for float operations, 64+-bit mult/div and division by zero. -/
theorem binOp_eq_ref (op : BinOpType) (a b : Bv) (h : WellSizedBin op a b) :
    Impl.binOp op a b = Ref.binOp op a b := by
  -- the bitwise and the float arms are the same term on both sides
  cases op <;> dsimp only [Impl.binOp, Ref.binOp, WellSizedBin] at h ⊢
  case Piece => rw [piece_eq]
  case IntEqual => exact sameW_congr fun x y => congrArg valB (eq_eq x y)
  case IntNotEqual => exact sameW_congr fun x y => congrArg valB (ne_eq x y)
  case IntLess => exact sameW_congr fun x y => congrArg valB (less_eq x y)
  case IntSLess => exact sameW_congr fun x y => congrArg valB (sless_eq x y)
  case IntLessEqual => exact sameW_congr fun x y => congrArg valB (lessEq_eq x y)
  case IntSLessEqual => exact sameW_congr fun x y => congrArg valB (slessEq_eq x y)
  case IntAdd => exact sameW_congr fun x y => congrArg valV (add_eq x y)
  case IntSub => exact sameW_congr fun x y => congrArg valV (sub_eq x y)
  case IntCarry => exact sameW_congr fun x y => congrArg valB (carry_eq x y)
  case IntSCarry => exact sameW_congr fun x y => congrArg valB (scarry_eq x y)
  case IntSBorrow => exact sameW_congr fun x y => congrArg valB (sborrow_eq x y)
  case IntLeft => rw [shl_eq, Ref.shl_clamp]
  case IntRight => rw [shr_eq, Ref.shr_clamp]
  case IntSRight => rw [sar_eq, Ref.sar_clamp]
  case IntMult => rw [sameW_congr fun x y => congrArg valV (mul_eq x y)]
  case IntDiv => rw [divArm_eq h udiv_eq]
  case IntRem => rw [divArm_eq h urem_eq]
  case IntSDiv => rw [divArm_eq h sdiv_eq]
  case IntSRem => rw [divArm_eq h srem_eq]

/-- **C01-unop.** `Bitvector::un_op` = reference for every width (BoolNegate: on booleans, and the
same out-of-domain behaviour elsewhere). -/
theorem unOp_eq_ref (op : UnOpType) (a : Bv) : Impl.unOp op a = Ref.unOp op a := by
  cases op <;> simp only [Impl.unOp, Ref.unOp]
  case Int2Comp => rw [neg_eq]
  case IntNegate => rw [not_eq]
  case BoolNegate =>
    have h0 : (a.v == 0) = decide (a.toNat = 0) := by
      rw [Bool.eq_iff_iff, beq_iff_eq, decide_eq_true_iff]; exact BitVec.toNat_inj.symm
    have h1 : (a == Bv.ofNat 8 1) = decide (a.w = 8 ∧ a.toNat = 1) := by
      rw [Bool.decide_and]; rfl
    simp only [h0, h1, decide_eq_true_eq]

/-- **C01-cast.** `Bitvector::cast` = reference (extensions for every width pair, popcount/lzcount
through the 64-bit detour, `unknown` for the float casts). -/
theorem cast_eq_ref (op : CastOpType) (bytes : Nat) (a : Bv) (hw : a.w < 2 ^ 64) :
    Impl.cast op bytes a = Ref.cast op bytes a := by
  cases op <;> simp only [Impl.cast, Ref.cast]
  case IntZExt => rw [zext_eq]
  case IntSExt =>
    split
    · next h => rw [sext_eq _ _ h]
    · rfl
  case PopCount => rw [popcountCast_eq _ _ hw]
  case LzCount => rw [lzcountCast_eq _ _ hw]

/-- **C01-subpiece.** `Bitvector::subpiece` = reference for every width, byte offset and size: the extracted bytes
where they lie inside the operand, the panic of `into_checked_lshr` / `into_truncate` where they do not. -/
theorem subpiece_eq_ref (low size : Nat) (a : Bv) : Impl.subpieceOp low size a = Ref.subpieceOp low size a := by
  simp only [Impl.subpieceOp, Ref.subpieceOp, subpiece_eq]

/-- answered `unknown` above 64 bit -/
def wideOps : List BinOpType := [.IntMult, .IntDiv, .IntRem, .IntSDiv, .IntSRem]

/-- answered `unknown` for a zero divisor -/
def divOps : List BinOpType := [.IntDiv, .IntRem, .IntSDiv, .IntSRem]

def Unsupported (op : BinOpType) (a b : Bv) : Prop :=
  op.isFloat = true ∨ (op ∈ wideOps ∧ a.w > 64) ∨ (op ∈ divOps ∧ b.toNat = 0)

theorem not_unsupported {op : BinOpType} {a b : Bv} (hf : op.isFloat = false)
    (hw : wideOps.contains op = false ∨ ¬a.w > 64) (hd : divOps.contains op = false ∨ b.toNat ≠ 0) :
    ¬Unsupported op a b := by
  rintro (h | ⟨h, h'⟩ | ⟨h, h'⟩)
  · exact absurd (hf.symm.trans h) nofun
  · exact hw.elim (fun e => absurd (e.symm.trans (List.contains_iff_mem.mpr h)) nofun) (· h')
  · exact hd.elim (fun e => absurd (e.symm.trans (List.contains_iff_mem.mpr h)) nofun) (· h')

def binOpW (op : BinOpType) (aw bw : Nat) : Nat :=
  match op with
  | .Piece => aw + bw
  | .IntEqual | .IntNotEqual | .IntLess | .IntSLess | .IntLessEqual | .IntSLessEqual
  | .IntCarry | .IntSCarry | .IntSBorrow
  | .FloatEqual | .FloatNotEqual | .FloatLess | .FloatLessEqual => 8
  | _ => aw

/-- What each outcome of an arm says, `W` being "the sizes are admissible" and `U` "the operation is unsupported":
a value only if `W ∧ ¬U`, and then of width `n`; `unknown` only if `U`; `panic` only if `¬W`. -/
def Spec (R : Res) (W U : Prop) (n : Nat) : Prop :=
  match R with
  | .val r => W ∧ ¬U ∧ r.w = n
  | .unknown => U
  | .panic => ¬W

theorem Spec.val {W U : Prop} (r : Bv) (hW : W) (hU : ¬U) : Spec (.val r) W U r.w := ⟨hW, hU, rfl⟩

theorem Spec.sameW {w v : Nat} {x : BitVec w} {y : BitVec v} {f : {w : Nat} → BitVec w → BitVec w → Res} {U : Prop}
    {n : Nat} (h : ∀ e : w = v, Spec (f x (e ▸ y)) (w = v) U n) : Spec (sameW ⟨w, x⟩ ⟨v, y⟩ f) (w = v) U n := by
  unfold CweModel.sameW
  by_cases e : w = v
  · rw [dif_pos e]; exact h e
  · rw [dif_neg e]; exact e

theorem Spec.ite_unknown {c W U : Prop} [Decidable c] {R : Res} {n : Nat} (hc : c → U) (h : ¬c → Spec R W U n) :
    Spec (if c then .unknown else R) W U n := by
  split
  · exact hc ‹_›
  · exact h ‹_›

theorem Spec.ite_panic {c U : Prop} [Decidable c] {R : Res} {n : Nat} (h : c → Spec R c U n) :
    Spec (if c then R else .panic) c U n := by
  split
  · exact h ‹_›
  · exact ‹_›

/-- the one place where the arms of `Ref.binOp` are looked at for their shape -/
theorem ref_binOp_spec (op : BinOpType) (a b : Bv) :
    Spec (Ref.binOp op a b) (WellSizedBin op a b) (Unsupported op a b) (binOpW op a.w b.w) := by
  obtain ⟨w, x⟩ := a
  obtain ⟨v, y⟩ := b
  cases op <;> dsimp only [Ref.binOp, WellSizedBin, binOpW]
  case Piece => exact .val _ trivial (not_unsupported rfl (.inl rfl) (.inl rfl))
  case IntEqual | IntNotEqual | IntLess | IntSLess | IntLessEqual | IntSLessEqual | IntCarry | IntSCarry | IntSBorrow =>
    exact .sameW fun e => .val _ e (not_unsupported rfl (.inl rfl) (.inl rfl))
  case IntAdd | IntSub | IntXOr | BoolXOr | IntAnd | BoolAnd | IntOr | BoolOr =>
    exact .sameW fun e => .val _ e (not_unsupported rfl (.inl rfl) (.inl rfl))
  case IntLeft | IntRight | IntSRight =>
    exact .ite_panic fun h => .val _ h (not_unsupported rfl (.inl rfl) (.inl rfl))
  case IntMult =>
    exact .ite_unknown (fun h => .inr (.inl ⟨by decide, h⟩)) fun h =>
      .sameW fun e => .val _ e (not_unsupported rfl (.inr h) (.inl rfl))
  case IntDiv | IntRem | IntSDiv | IntSRem =>
    refine .ite_unknown (fun h => .inr (.inl ⟨by decide, h⟩)) fun h => .sameW fun e => ?_
    subst e
    exact .ite_unknown (fun h0 => .inr (.inr ⟨by decide, h0⟩)) fun h0 =>
      .val _ rfl (not_unsupported rfl (.inr h) (.inr h0))
  all_goals exact .inl rfl

/-- **C01-unknown-iff-unsupported.** On admissible sizes the reference (hence, by `binOp_eq_ref`, the
model of the code) reports `unknown` exactly for float operations, multiplication/division wider
than 64 bit and division by zero — and never panics. -/
theorem ref_binOp_unknown_iff (op : BinOpType) (a b : Bv) (h : WellSizedBin op a b) :
    (Ref.binOp op a b = .unknown ↔
      op.isFloat = true ∨
      (op ∈ [BinOpType.IntMult, .IntDiv, .IntRem, .IntSDiv, .IntSRem] ∧ a.w > 64) ∨
      (op ∈ [BinOpType.IntDiv, .IntRem, .IntSDiv, .IntSRem] ∧ b.toNat = 0)) ∧
    Ref.binOp op a b ≠ .panic := by
  have hs := ref_binOp_spec op a b
  cases hR : Ref.binOp op a b <;> rw [hR] at hs
  · exact ⟨⟨nofun, fun hu => absurd hu hs.2.1⟩, nofun⟩
  · exact ⟨⟨fun _ => hs, fun _ => rfl⟩, nofun⟩
  · exact absurd h hs

theorem ref_binOp_w {op : BinOpType} {a b r : Bv} (h : Ref.binOp op a b = .val r) :
    r.w = binOpW op a.w b.w := by
  have hs := ref_binOp_spec op a b
  rw [h] at hs
  exact hs.2.2

theorem ref_binOp_wellSized {op : BinOpType} {a b r : Bv} (h : Ref.binOp op a b = .val r) : WellSizedBin op a b := by
  have hs := ref_binOp_spec op a b
  rw [h] at hs
  exact hs.1

theorem of_ite_panic {c : Prop} [Decidable c] {x : Res} {r : Bv}
    (h : (if c then x else .panic) = Res.val r) : c ∧ x = .val r := by
  split at h
  · next hc => exact ⟨hc, h⟩
  · cases h

theorem ref_unOp_w {op : UnOpType} {a r : Bv} (h : Ref.unOp op a = .val r) :
    r.w = match op with | .BoolNegate => 8 | _ => a.w := by
  cases op <;> dsimp only [Ref.unOp] at h
  case IntNegate | Int2Comp => exact valV_w h
  case BoolNegate => split at h; exact valB_w h; exact valB_w (of_ite_panic h).2
  all_goals cases h

theorem ref_cast_w {op : CastOpType} {s : Nat} {a r : Bv} (h : Ref.cast op s a = .val r) : r.w = 8 * s := by
  cases op <;> dsimp only [Ref.cast] at h
  case IntZExt | IntSExt => exact valV_w (of_ite_panic h).2
  case PopCount | LzCount => exact valV_w h
  all_goals cases h

theorem ref_subpiece_w {lb s : Nat} {a r : Bv} (h : Ref.subpieceOp lb s a = .val r) : r.w = 8 * s :=
  valV_w (of_ite_panic h).2

/-- **C01-size.** Whenever the reference yields a value on byte-sized operands, its size is the one
`Expression::bytesize` / `bin_op_bytesize` predict for the operation. -/
theorem ref_binOp_size (op : BinOpType) (a b : Bv) (r : Bv) (ha : a.w = 8 * a.bytes) (hb : b.w = 8 * b.bytes)
    (hbool : op ∈ [BinOpType.BoolXOr, .BoolAnd, .BoolOr] → a.bytes = 1)
    (h : Ref.binOp op a b = .val r) : r.bytes = binOpBytesize op a.bytes b.bytes := by
  have hr := ref_binOp_w h
  unfold Bv.bytes at ha hb hbool ⊢
  rw [hr]
  -- by width class; for the classes `lhs` and `one` both sides are the same term
  cases op <;> dsimp only [binOpW, binOpBytesize]
  case Piece => omega
  case BoolXOr | BoolAnd | BoolOr => exact hbool (by simp)

/-- **C01-domain.** `BitvectorDomain::bin_op` on two known values returns `Value` of the reference
result, `Top` of the predicted size when the reference is `unknown`; with a `Top` operand it returns
`Top` of the predicted size. -/
theorem domain_binOp_spec (op : BinOpType) (a b : Bv)
    (hsz : binSizeOk op a.bytes b.bytes = true) (h : WellSizedBin op a b) :
    BvDomain.binOp op (.value a) (.value b) =
      match Ref.binOp op a b with
      | .val v => .dom (.value v)
      | .unknown => .dom (.top (binOpBytesize op a.bytes b.bytes))
      | .panic => .panic := by
  unfold BvDomain.binOp
  simp only [BvDomain.bytesize, hsz, Bool.not_true, Bool.false_eq_true, if_false]
  rw [binOp_eq_ref op a b h]
  cases Ref.binOp op a b <;> rfl

theorem domain_binOp_top (op : BinOpType) (a b : BvDomain)
    (hsz : binSizeOk op a.bytesize b.bytesize = true)
    (ht : (∃ n, a = .top n) ∨ (∃ n, b = .top n)) :
    BvDomain.binOp op a b = .dom (.top (binOpBytesize op a.bytesize b.bytesize)) := by
  unfold BvDomain.binOp
  simp only [hsz, Bool.not_true, Bool.false_eq_true, if_false]
  rcases ht with ⟨n, rfl⟩ | ⟨n, rfl⟩
  · rfl
  · cases a <;> rfl

/-! ### non-vacuity and regression witnesses -/

-- the defect repaired by the `fix:` commit (D1): 0x00 SBORROW 0x80 must be 1
example : Ref.sborrow (0x00#8) (0x80#8) = true := by decide
example : Impl.sborrow (0x00#8) (0x80#8) = true := by decide
-- the unrepaired formula (`!signed_self.is_positive()`) is refuted by that witness
example : ¬ (let x := 0x00#8; let y := 0x80#8; let r := x - y
    ((r.msb && !(!x.msb) && y.msb) || (!r.msb && x.msb && !y.msb)) = Ref.sborrow x y) := by decide
example : WellSizedBin .IntSDiv (Bv.ofNat 8 0x80) (Bv.ofNat 8 0xff) := rfl
example : Ref.sdiv (0x80#8) (0xff#8) = 0x80#8 := by decide
example : Ref.sar (0x80#8) 200 = 0xff#8 := by decide
example : Ref.piece (0xab#8) (0xcd#8) = 0xabcd#16 := by decide

end CweModel.C01
