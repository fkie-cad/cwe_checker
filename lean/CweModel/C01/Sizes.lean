/-
C01 — the size tables REGENERATED from the Rust source on every run (`extract/c01_sizes.py` →
`Gen/C01Sizes.lean`) agree with the model: `binOpBytesize` (C01/Model.lean, used by the domain
theorems) and `Expression.bytesize` (Base/IR.lean, used by every IR-level property).
A change of `bin_op_bytesize` or `Expression::bytesize` in the Rust code changes the generated
table and breaks these theorems at `lake build`.
-/
import CweModel.C01.Model
import CweModel.Gen.C01Sizes

namespace CweModel.C01
open CweModel.IR CweModel.Gen.C01Sizes

def applyClass : SizeClass → Nat → Nat → Nat
  | .sum, l, r => l + r
  | .lhs, l, _ => l
  | .one, _, _ => 1

def lookup (t : List (BinOpType × SizeClass)) (op : BinOpType) : Option SizeClass :=
  (t.find? (·.1 == op)).map (·.2)

/-- the generated list has every variant at the position of its declaration -/
theorem binOpVariants_complete : ∀ op : BinOpType, op ∈ binOpVariants := fun op =>
  List.mem_of_getElem? (i := op.ctorIdx) (by cases op <;> rfl)

/-- **C01-size-table (translator).** the model's `binOpBytesize` is the table extracted from
`RegisterDomain::bin_op_bytesize` -/
theorem binOpBytesize_eq_generated (op : BinOpType) (l r : Nat) :
    ∃ c, lookup binOpBytesizeTable op = some c ∧ binOpBytesize op l r = applyClass c l r := by
  cases op <;> exact ⟨_, rfl, rfl⟩

/-- both Rust functions agree with each other on every operation -/
theorem generated_tables_agree : binOpBytesizeTable = exprBytesizeTable := by decide

theorem bytesize_binOp (op : BinOpType) (l r : Expression) :
    (Expression.BinOp op l r).bytesize = binOpBytesize op l.bytesize r.bytesize := by
  cases op <;> rfl

/-- **C01-expr-size-table (translator).** `Expression.bytesize` of the IR model is the table extracted
from `Expression::bytesize` -/
theorem exprBytesize_eq_generated (op : BinOpType) (l r : Expression) :
    ∃ c, lookup exprBytesizeTable op = some c ∧
      (Expression.BinOp op l r).bytesize = applyClass c l.bytesize r.bytesize := by
  rw [← generated_tables_agree, bytesize_binOp]
  exact binOpBytesize_eq_generated op _ _

theorem unOpBytesize_eq_generated (op : UnOpType) (a : Expression) :
    (Expression.UnOp op a).bytesize = if unOpSizeOne.contains op then 1 else a.bytesize := by
  cases op <;> rfl

end CweModel.C01
