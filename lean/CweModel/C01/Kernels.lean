/-
C01 — the level of `BitVec`: every operation of the model `Impl.*` of `bitvector.rs` against the reference formula `Ref.*`
(arithmetic on `toNat`/`toInt`), for every width; clamping the shift amount; the overflow-checked helpers of
`BitvectorExtended`, whose tests are the reference's carry and borrow flags and core's `smulOverflow` (`smulFlag_eq` for
`w ≤ 64`: above, `signed_mult_with_overflow_flag` returns `Err`). The interval domain (C02) rests its own copies of these
helpers on the statements here. The API level (`Bitvector::bin_op` … on sized values) is C01/Props.lean.
-/
import CweModel.C01.Model

namespace CweModel.C01
open CweModel CweModel.IR BitVec

variable {w : Nat}

theorem carry_core {M a b : Nat} (ha : a < M) (hb : b < M) :
    ((a + b) % M < a ∨ (a + b) % M < b) ↔ a + b ≥ M := by
  by_cases h : a + b < M
  · rw [Nat.mod_eq_of_lt h]; omega
  · rw [Nat.mod_eq_sub_mod (by omega), Nat.mod_eq_of_lt (by omega)]; omega

theorem carry_eq (x y : BitVec w) : Impl.carry x y = Ref.carry x y := by
  simp only [Impl.carry, Ref.carry, BitVec.ult_eq_decide, BitVec.toNat_add, ← Bool.decide_or]
  exact decide_eq_decide.mpr (carry_core x.isLt y.isLt)

theorem scarry_eq (x y : BitVec w) : Impl.scarry x y = Ref.scarry x y := by
  show _ = x.saddOverflow y
  simp only [Impl.scarry, BitVec.saddOverflow_eq]
  cases (x + y).msb <;> cases x.msb <;> cases y.msb <;> rfl

theorem sborrow_eq (x y : BitVec w) : Impl.sborrow x y = Ref.sborrow x y := by
  show _ = x.ssubOverflow y
  simp only [Impl.sborrow, BitVec.ssubOverflow_eq]
  cases (x - y).msb <;> cases x.msb <;> cases y.msb <;> rfl

theorem less_eq (x y : BitVec w) : x.ult y = Ref.less x y := BitVec.ult_eq_decide
theorem lessEq_eq (x y : BitVec w) : x.ule y = Ref.lessEq x y := BitVec.ule_eq_decide
theorem sless_eq (x y : BitVec w) : x.slt y = Ref.sless x y := BitVec.slt_eq_decide
theorem slessEq_eq (x y : BitVec w) : x.sle y = Ref.slessEq x y := BitVec.sle_eq_decide
theorem eq_eq (x y : BitVec w) : (x == y) = Ref.eq x y := by
  rw [Ref.eq, Bool.eq_iff_iff, beq_iff_eq, decide_eq_true_iff, BitVec.toNat_inj]
theorem ne_eq (x y : BitVec w) : (x != y) = !Ref.eq x y := congrArg (!·) (eq_eq x y)

/- A reference formula is `ofNat` (`ofInt`) of an expression in `toNat` (`toInt`) of the operands; where core
states `toNat` (`toInt`) of its operation as that expression, the lemma is `ofNat_toNat` (`ofInt_toInt`) read
backwards. -/
theorem add_eq (x y : BitVec w) : x + y = Ref.add x y := by
  rw [Ref.add, BitVec.ofNat_add, BitVec.ofNat_toNat, BitVec.ofNat_toNat, BitVec.setWidth_eq, BitVec.setWidth_eq]
theorem mul_eq (x y : BitVec w) : x * y = Ref.mul x y := by
  rw [Ref.mul, BitVec.ofNat_mul, BitVec.ofNat_toNat, BitVec.ofNat_toNat, BitVec.setWidth_eq, BitVec.setWidth_eq]
theorem udiv_eq (x y : BitVec w) : x / y = Ref.udiv x y := by
  rw [Ref.udiv, ← BitVec.toNat_udiv, BitVec.ofNat_toNat, BitVec.setWidth_eq]
theorem urem_eq (x y : BitVec w) : x % y = Ref.urem x y := by
  rw [Ref.urem, ← BitVec.toNat_umod, BitVec.ofNat_toNat, BitVec.setWidth_eq]
theorem not_eq (x : BitVec w) : ~~~x = Ref.not x := by
  rw [Ref.not, ← BitVec.toNat_not, BitVec.ofNat_toNat, BitVec.setWidth_eq]
theorem zext_eq (x : BitVec w) (v : Nat) : x.setWidth v = Ref.zext x v := (BitVec.ofNat_toNat v x).symm

theorem sub_eq (x y : BitVec w) : x - y = Ref.sub x y := by
  apply BitVec.eq_of_toInt_eq; rw [Ref.sub, BitVec.toInt_sub, BitVec.toInt_ofInt]
theorem sdiv_eq (x y : BitVec w) : x.sdiv y = Ref.sdiv x y := by
  apply BitVec.eq_of_toInt_eq; rw [Ref.sdiv, BitVec.toInt_sdiv, BitVec.toInt_ofInt]
theorem srem_eq (x y : BitVec w) : x.srem y = Ref.srem x y := by
  rw [Ref.srem, ← BitVec.toInt_srem, BitVec.ofInt_toInt]
theorem neg_eq (x : BitVec w) : -x = Ref.neg x := by
  rw [Ref.neg, BitVec.ofInt_neg, BitVec.ofInt_toInt]
theorem sext_eq (x : BitVec w) (v : Nat) (h : w ≤ v) : x.signExtend v = Ref.sext x v := by
  rw [Ref.sext, ← BitVec.toInt_signExtend_of_le h, BitVec.ofInt_toInt]

theorem shl_eq (x : BitVec w) (n : Nat) : Impl.shl x n = Ref.shl x n := by
  have h : Ref.shl x n = x <<< n := by
    apply BitVec.eq_of_toNat_eq; rw [Ref.shl, BitVec.toNat_ofNat, BitVec.toNat_shiftLeft, Nat.shiftLeft_eq]
  rw [h, Impl.shl]
  split
  · rfl
  · exact (BitVec.shiftLeft_eq_zero (by omega)).symm

theorem shr_eq (x : BitVec w) (n : Nat) : Impl.shr x n = Ref.shr x n := by
  rw [Ref.shr, ← Nat.shiftRight_eq_div_pow, ← BitVec.toNat_ushiftRight, BitVec.ofNat_toNat, BitVec.setWidth_eq,
    Impl.shr]
  split
  · rfl
  · exact (BitVec.ushiftRight_eq_zero (by omega)).symm

/-- beyond the width `sshiftRight` itself gives all sign bits, so the model is `sshiftRight` throughout -/
theorem sar_eq (x : BitVec w) (n : Nat) : Impl.sar x n = Ref.sar x n := by
  have h : Ref.sar x n = x.sshiftRight n := by
    rw [BitVec.sshiftRight_eq, Int.shiftRight_eq_div_pow, Int.natCast_pow]; rfl
  rw [h, Impl.sar]
  split
  · rfl
  · cases hm : x.msb
    · rw [BitVec.sshiftRight_eq_of_msb_false hm, BitVec.ushiftRight_eq_zero (by omega)]; rfl
    · rw [BitVec.sshiftRight_eq_of_msb_true hm, BitVec.ushiftRight_eq_zero (by omega), BitVec.not_zero,
        BitVec.zero_sub, BitVec.neg_one_eq_allOnes]; rfl

theorem ref_piece_eq_append {w₁ w₂ : Nat} (x : BitVec w₁) (y : BitVec w₂) : Ref.piece x y = x ++ y := by
  rw [Ref.piece, ← Nat.shiftLeft_eq, Nat.shiftLeft_add_eq_or_of_lt y.isLt, ← BitVec.toNat_append,
    BitVec.ofNat_toNat, BitVec.setWidth_eq]

theorem piece_eq {w₁ w₂ : Nat} (x : BitVec w₁) (y : BitVec w₂) : Impl.piece x y = Ref.piece x y := by
  rw [ref_piece_eq_append, BitVec.append_def, BitVec.shiftLeftZeroExtend_eq, BitVec.setWidth'_eq]; rfl

theorem subpiece_eq (x : BitVec w) (low size : Nat) : Impl.subpiece x low size = Ref.subpiece x low size := by
  rw [Ref.subpiece, ← Nat.shiftRight_eq_div_pow, ← BitVec.toNat_ushiftRight, BitVec.ofNat_toNat]; rfl

theorem clz_toNat_le (x : BitVec w) : x.clz.toNat ≤ w := by
  have h := @BitVec.clz_le w x
  rw [BitVec.le_def] at h
  simpa [Nat.mod_eq_of_lt (Nat.lt_two_pow_self : w < 2 ^ w)] using h

/-- the 64-bit detour of the `PopCount`/`LzCount` casts loses nothing (widths are `usize`) -/
theorem resize64 (n v : Nat) (h : n < 2 ^ 64) : (BitVec.ofNat 64 n).setWidth v = BitVec.ofNat v n := by
  apply BitVec.eq_of_toNat_eq
  rw [BitVec.toNat_setWidth, BitVec.toNat_ofNat, BitVec.toNat_ofNat, Nat.mod_eq_of_lt h]

theorem popcountCast_eq (x : BitVec w) (v : Nat) (hw : w < 2 ^ 64) :
    Impl.popcountCast x v = BitVec.ofNat v (Ref.popcount x) :=
  resize64 _ v (Nat.lt_of_le_of_lt (BitVec.toNat_cpop_le x) hw)

theorem lzcountCast_eq (x : BitVec w) (v : Nat) (hw : w < 2 ^ 64) :
    Impl.lzcountCast x v = BitVec.ofNat v (Ref.lzcount x) :=
  resize64 _ v (Nat.lt_of_le_of_lt (clz_toNat_le x) hw)

/-- the three shift models have the form `if n < w then f n else c` -/
theorem ite_min {α : Type} (f : Nat → α) (c : α) (n w : Nat) :
    (if min n w < w then f (min n w) else c) = if n < w then f n else c := by
  by_cases h : n < w
  · rw [Nat.min_eq_left (Nat.le_of_lt h)]
  · rw [Nat.min_eq_right (Nat.le_of_not_lt h), if_neg (Nat.lt_irrefl w), if_neg h]

theorem Ref.shl_clamp (x : BitVec w) (n : Nat) : Ref.shl x (min n w) = Ref.shl x n := by
  rw [← shl_eq, ← shl_eq]; exact ite_min (x <<< ·) _ n w

theorem Ref.shr_clamp (x : BitVec w) (n : Nat) : Ref.shr x (min n w) = Ref.shr x n := by
  rw [← shr_eq, ← shr_eq]; exact ite_min (x >>> ·) _ n w

theorem Ref.sar_clamp (x : BitVec w) (n : Nat) : Ref.sar x (min n w) = Ref.sar x n := by
  rw [← sar_eq, ← sar_eq]; exact ite_min x.sshiftRight _ n w

theorem two_pow_pos (a : Nat) : (0 : Int) < 2 ^ a := Int.pow_pos (by omega)

theorem two_pow_pred (hw : w ≠ 0) : (2 : Int) ^ w = 2 * 2 ^ (w - 1) := by
  rw [← Int.pow_succ', Nat.sub_one_add_one hw]

theorem bmod_wrap (w : Nat) (s : Int) (h1 : -2 ^ w ≤ s) (h2 : s < 2 ^ w) :
    s.bmod (2 ^ w) = s ∨ s.bmod (2 ^ w) = s - 2 ^ w ∨ s.bmod (2 ^ w) = s + 2 ^ w := by
  have hc : ((2 ^ w : Nat) : Int) = 2 ^ w := Int.natCast_pow 2 w
  rw [Int.bmod_def, hc]
  by_cases h : 0 ≤ s
  · rw [Int.emod_eq_of_lt h h2]; split
    · exact .inl rfl
    · exact .inr (.inl rfl)
  · rw [← Int.add_emod_right, Int.emod_eq_of_lt (by omega) (by omega)]; split
    · exact .inr (.inr rfl)
    · exact .inl (Int.add_sub_cancel _ _)

theorem checked_match {α : Type} (m c : Bool) (r : α) :
    (match m, c with | true, true | false, false => none | _, _ => some r) = if m == c then none else some r := by
  cases m <;> cases c <;> rfl

theorem wrap_cases {P s r : Int} (hr : -P ≤ r) (hr' : r < P) (h : r = s ∨ r = s - 2 * P ∨ r = s + 2 * P) :
    (s ≥ P ∧ r = s - 2 * P) ∨ (s < -P ∧ r = s + 2 * P) ∨ (-P ≤ s ∧ s < P ∧ r = s) := by
  rcases h with h | h | h
  · exact .inr (.inr ⟨h ▸ hr, h ▸ hr', h⟩)
  · exact .inl ⟨by omega, h⟩
  · exact .inr (.inl ⟨by omega, h⟩)

theorem toInt_add_cases (x y : BitVec w) (hw : w ≠ 0) :
    (x.toInt + y.toInt ≥ 2 ^ (w - 1) ∧ (x + y).toInt = x.toInt + y.toInt - 2 ^ w) ∨
    (x.toInt + y.toInt < -2 ^ (w - 1) ∧ (x + y).toInt = x.toInt + y.toInt + 2 ^ w) ∨
    (-2 ^ (w - 1) ≤ x.toInt + y.toInt ∧ x.toInt + y.toInt < 2 ^ (w - 1) ∧ (x + y).toInt = x.toInt + y.toInt) := by
  have hx := BitVec.le_toInt x; have hx' := @BitVec.toInt_lt w x
  have hy := BitVec.le_toInt y; have hy' := @BitVec.toInt_lt w y
  have hs := bmod_wrap w (x.toInt + y.toInt) (by rw [two_pow_pred hw]; omega) (by rw [two_pow_pred hw]; omega)
  rw [← BitVec.toInt_add, two_pow_pred hw] at hs
  rw [two_pow_pred hw]
  exact wrap_cases (BitVec.le_toInt _) BitVec.toInt_lt hs

theorem toInt_sub_cases (x y : BitVec w) (hw : w ≠ 0) :
    (x.toInt - y.toInt ≥ 2 ^ (w - 1) ∧ (x - y).toInt = x.toInt - y.toInt - 2 ^ w) ∨
    (x.toInt - y.toInt < -2 ^ (w - 1) ∧ (x - y).toInt = x.toInt - y.toInt + 2 ^ w) ∨
    (-2 ^ (w - 1) ≤ x.toInt - y.toInt ∧ x.toInt - y.toInt < 2 ^ (w - 1) ∧ (x - y).toInt = x.toInt - y.toInt) := by
  have hx := BitVec.le_toInt x; have hx' := @BitVec.toInt_lt w x
  have hy := BitVec.le_toInt y; have hy' := @BitVec.toInt_lt w y
  have hs := bmod_wrap w (x.toInt - y.toInt) (by rw [two_pow_pred hw]; omega) (by rw [two_pow_pred hw]; omega)
  rw [← BitVec.toInt_sub, two_pow_pred hw] at hs
  rw [two_pow_pred hw]
  exact wrap_cases (BitVec.le_toInt _) BitVec.toInt_lt hs

/-- arithmetic core of the checked addition, `r` being `a + b` wrapped into `[-P, P)`: without overflow
`a ≤ a + b` says `b ≥ 0`; a wrapped sum lies on the other side of `a` -/
theorem sle_add_core {P W a b r : Int} (ha : -P ≤ a) (ha' : a < P) (hb : -P ≤ b) (hb' : b < P) (hW : W = 2 * P)
    (h : (a + b ≥ P ∧ r = a + b - W) ∨ (a + b < -P ∧ r = a + b + W) ∨ (-P ≤ a + b ∧ a + b < P ∧ r = a + b)) :
    (b < 0 ↔ a ≤ r) ↔ (a + b ≥ P ∨ a + b < -P) := by omega

theorem sle_add (x y : BitVec w) : (y.msb == x.sle (x + y)) = Ref.scarry x y := by
  by_cases hw : w = 0
  · subst hw; rw [BitVec.of_length_zero (x := x), BitVec.of_length_zero (x := y)]; rfl
  rw [Bool.eq_iff_iff, beq_iff_eq, BitVec.msb_eq_toInt, BitVec.sle_eq_decide, decide_eq_decide, Ref.scarry,
    Bool.or_eq_true, decide_eq_true_iff, decide_eq_true_iff]
  exact sle_add_core (BitVec.le_toInt x) BitVec.toInt_lt (BitVec.le_toInt y) BitVec.toInt_lt (two_pow_pred hw)
    (toInt_add_cases x y hw)

/-- `x = (x - y) + y`: the subtraction overflows exactly when this addition does -/
theorem sub_sle (x y : BitVec w) : (y.msb == (x - y).sle x) = Ref.sborrow x y := by
  have h := sle_add (x - y) y
  rw [BitVec.sub_add_cancel] at h
  rw [h]
  show (x - y).saddOverflow y = x.ssubOverflow y
  rw [BitVec.saddOverflow_eq, BitVec.ssubOverflow_eq, BitVec.sub_add_cancel]
  cases (x - y).msb <;> cases x.msb <;> cases y.msb <;> rfl

/-- **C01-sadd-checked.** `signed_add_overflow_checked` returns the sum exactly when the signed
addition does not overflow. -/
theorem saddChecked_eq (x y : BitVec w) :
    Impl.saddChecked x y = if Ref.scarry x y then none else some (Ref.add x y) := by
  rw [← sle_add, ← add_eq]; exact checked_match _ _ _

theorem ssubChecked_eq (x y : BitVec w) :
    Impl.ssubChecked x y = if Ref.sborrow x y then none else some (Ref.sub x y) := by
  rw [← sub_sle, ← sub_eq]; exact checked_match _ _ _

theorem toInt_neg_one (hw : w ≠ 0) : (-1#w).toInt = -1 := by
  rw [BitVec.neg_one_eq_allOnes, BitVec.toInt_allOnes, if_pos (Nat.pos_of_ne_zero hw)]

/-- if dividing the wrapped product by `x` gives back `y`, the product did not wrap: it differs from the
exact product by the remainder of that division, smaller than `|x| < 2^w`, and by a multiple of `2^w` -/
theorem toInt_mul_of_sdiv_eq {x y : BitVec w} (hx0 : x.toInt ≠ 0) (hx1 : x ≠ -1#w)
    (h : (x * y).sdiv x = y) : (x * y).toInt = x.toInt * y.toInt := by
  have hdm := Int.mul_tdiv_add_tmod (x * y).toInt x.toInt
  rw [← BitVec.toInt_sdiv_of_ne_or_ne _ _ (.inr hx1), h] at hdm
  have hd : ((2 ^ w : Nat) : Int) ∣ (x * y).toInt - x.toInt * y.toInt := by
    rw [BitVec.toInt_mul]; exact Int.dvd_bmod_sub_self
  have ht : ((x * y).toInt.tmod x.toInt).natAbs < x.toInt.natAbs := by
    rw [Int.natAbs_tmod]; exact Nat.mod_lt _ (Int.natAbs_pos.mpr hx0)
  have ha : x.toInt.natAbs < 2 ^ w := by
    have := BitVec.two_mul_toInt_lt (x := x); have := BitVec.le_two_mul_toInt (x := x)
    have hc : ((2 ^ w : Nat) : Int) = 2 ^ w := Int.natCast_pow 2 w
    omega
  apply Int.sub_eq_zero.mp
  apply Int.eq_zero_of_dvd_of_natAbs_lt_natAbs hd
  rw [Int.natAbs_natCast, Int.sub_eq_iff_eq_add'.mpr hdm.symm]
  exact Nat.lt_trans ht ha

/-- the overflow test of `signed_mult_with_overflow_flag` for a nonzero first factor -/
theorem smulOverflow_eq (hw : w ≠ 0) {x : BitVec w} (hx0 : x ≠ 0#w) (y : BitVec w) :
    x.smulOverflow y = ((x == -1#w && y == BitVec.intMin w) || ((x * y).sdiv x != y)) := by
  have hy := BitVec.le_toInt y; have hy' := @BitVec.toInt_lt w y
  have hmin := BitVec.toInt_intMin_of_pos (Nat.pos_of_ne_zero hw)
  have hxi : x.toInt ≠ 0 := fun h0 => hx0 (BitVec.eq_of_toInt_eq (h0.trans BitVec.toInt_zero.symm))
  cases hov : x.smulOverflow y
  · -- no overflow: the product is exact, so the quotient is `y`, and `-1 * MIN` is excluded
    have hr := BitVec.toInt_mul_of_not_smulOverflow (x := x) (y := y) (by simp [hov])
    simp only [BitVec.smulOverflow, Bool.or_eq_false_iff, decide_eq_false_iff_not] at hov
    have hne : x * y ≠ BitVec.intMin w ∨ x ≠ -1#w := by
      by_cases hx1 : x = -1#w
      · refine .inl fun hm => ?_
        have := congrArg BitVec.toInt hm
        rw [hr, hmin, hx1, toInt_neg_one hw] at this
        omega
      · exact .inr hx1
    have hs : (x * y).sdiv x = y := BitVec.eq_of_toInt_eq (by
      rw [BitVec.toInt_sdiv_of_ne_or_ne _ _ hne, hr, Int.mul_tdiv_cancel_left _ hxi])
    have hsp : (x == -1#w && y == BitVec.intMin w) = false := by
      rw [Bool.and_eq_false_iff, beq_eq_false_iff_ne, beq_eq_false_iff_ne]
      by_cases hx1 : x = -1#w
      · refine .inr fun hy => ?_
        rw [hx1, hy, toInt_neg_one hw, hmin] at hov
        omega
      · exact .inl hx1
    rw [hsp, hs, bne_self_eq_false]; rfl
  · -- overflow: `-1 * y` overflows only for `y = MIN`, the case repaired by the `fix:` commit;
    -- otherwise the division check detects it
    by_cases hx1 : x = -1#w
    · have hym : y = BitVec.intMin w := by
        apply BitVec.eq_of_toInt_eq
        simp only [BitVec.smulOverflow, Bool.or_eq_true, decide_eq_true_eq] at hov
        rw [hx1, toInt_neg_one hw] at hov
        omega
      rw [hx1, hym, beq_self_eq_true, beq_self_eq_true]; rfl
    · have hs : (x * y).sdiv x ≠ y := fun h => by
        have hr := toInt_mul_of_sdiv_eq hxi hx1 h
        have h1 := BitVec.le_toInt (x * y); have h2 := @BitVec.toInt_lt w (x * y)
        simp only [BitVec.smulOverflow, Bool.or_eq_true, decide_eq_true_eq] at hov
        omega
      rw [(bne_iff_ne).mpr hs, Bool.or_true]

/-- **C01-smul-flag.** `signed_mult_with_overflow_flag` (widths up to 64 bit) returns the wrapped
product and reports overflow exactly when the mathematical product of the signed values does not
fit — including `-1 * MIN`, the case repaired by the `fix:` commit. -/
theorem smulFlag_eq (x y : BitVec w) (hw : w ≤ 64) :
    Impl.smulFlag x y = some (Ref.mul x y, x.smulOverflow y) := by
  by_cases hw0 : w = 0
  · subst hw0; rw [BitVec.of_length_zero (x := x), BitVec.of_length_zero (x := y)]; rfl
  unfold Impl.smulFlag
  by_cases hx0 : x = 0#w
  · have h0 : (0#w).smulOverflow y = false := by
      have := two_pow_pos (w - 1)
      simp only [BitVec.smulOverflow, BitVec.toInt_zero, Int.zero_mul, Bool.or_eq_false_iff,
        decide_eq_false_iff_not]
      omega
    rw [hx0, if_pos (beq_self_eq_true _), ← mul_eq, BitVec.zero_mul, h0]
  · rw [if_neg (by simpa using hx0), if_neg (by omega), ← mul_eq, smulOverflow_eq hw0 hx0]

end CweModel.C01
