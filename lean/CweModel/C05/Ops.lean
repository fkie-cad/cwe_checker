/-
C05 — every single `MemRegion` operation (except `merge_inner`, see `Merge.lean`) refines the
corresponding operation of the reference cell store and preserves the invariant:

  `Inv r → pre → (∀ x, x ∈ modelOp r ↔ x ∈ Spec.op r) ∧ Inv (modelOp r)`.
-/
import CweModel.C05.Lemmas

namespace CweModel.C05
open CweModel.MemRegion

variable {V : Type} [ValueDomain V]

theorem Spec.mem_delete {s : Store V} {lo hi : Int} {x : Int × V} :
    x ∈ Spec.delete s lo hi ↔ x ∈ s ∧ ¬ Ov x lo hi := by
  simp [Spec.delete, List.mem_filter, ← overlaps_iff]

theorem Spec.mem_write {s : Store V} {p : Int} {v : V} {x : Int × V} :
    x ∈ Spec.write s p v ↔ (x ∈ s ∧ ¬ Ov x p (p + isize v)) ∨ (isTop v = false ∧ x = (p, v)) := by
  unfold Spec.write
  rw [List.mem_append, Spec.mem_delete]
  cases isTop v <;> simp

theorem isSlot_iff {p : Int} {n : Nat} {c : Int × V} : isSlot p n c = true ↔ c.1 = p ∧ size c.2 = n := by
  simp [isSlot]

theorem Spec.writeTop_cases (s : Store V) (p : Int) (n : Nat) :
    Spec.writeTop s p n = s.filterMap (fun c => if isSlot p n c then weaken c else some c) ∨
    Spec.writeTop s p n = Spec.delete s p (p + n) := by
  unfold Spec.writeTop
  by_cases h : s.any (isSlot p n) = true
  · exact .inl (if_pos h)
  · exact .inr (if_neg h)

/-- result of `insert_at_byte_index` when the size assertion holds -/
def writeCell (r : Region V) (v : V) (p : Int) : Region V :=
  if isTop v then clearInterval r p (isize v) else BMap.insert (clearInterval r p (isize v)) p v

theorem insertAtByteIndex_eq (r : Region V) {v : V} (p : Int) (hsz : 0 < size v) :
    insertAtByteIndex r v p = some (writeCell r v p) := by
  have : isize v > 0 := Int.natCast_pos.mpr hsz
  unfold insertAtByteIndex writeCell
  cases isTop v <;> simp [this]

theorem insertAtByteIndex_eq_none (r : Region V) {v : V} (p : Int) (hsz : ¬ 0 < size v) :
    insertAtByteIndex r v p = none := by
  have : ¬ isize v > 0 := fun h => hsz (Int.natCast_pos.mp h)
  simp [insertAtByteIndex, this]

theorem mem_writeCell {r : Region V} (h : Inv r) {v : V} {p : Int} (hsz : 0 < size v) {x : Int × V} :
    x ∈ writeCell r v p ↔ x ∈ Spec.write r p v := by
  have hpos : 0 < isize v := Int.natCast_pos.mpr hsz
  rw [Spec.mem_write]
  unfold writeCell
  cases hv : isTop v
  · rw [if_neg Bool.false_ne_true, BMap.mem_insert (inv_clearInterval h _ _).sorted,
      mem_clearInterval h hpos]
    refine or_congr ⟨And.left, fun hx => ⟨hx, fun hk => hx.2 ⟨by omega, ?_⟩⟩⟩ (and_iff_right rfl).symm
    have := h.pos hx.1
    omega
  · rw [if_pos rfl, mem_clearInterval h hpos]
    exact (or_iff_left fun hh => Bool.noConfusion hh.1).symm

theorem inv_writeCell {r : Region V} (h : Inv r) {v : V} (p : Int) (hsz : 0 < size v) :
    Inv (writeCell r v p) := by
  have hmem := fun x => (mem_writeCell h hsz (p := p) (x := x)).trans Spec.mem_write
  have hpos : 0 < isize v := Int.natCast_pos.mpr hsz
  have hci := inv_clearInterval h p (isize v)
  have hs : BMap.Sorted (writeCell r v p) := by
    unfold writeCell
    split
    · exact hci.sorted
    · exact hci.sorted.insert p v
  refine inv_of_sorted hs ?_ ?_ ?_
  · intro x hx y hy hlt
    rcases (hmem x).mp hx with ⟨hx, hox⟩ | ⟨_, rfl⟩ <;> rcases (hmem y).mp hy with ⟨hy, hoy⟩ | ⟨_, rfl⟩
    · exact h.lt_disjoint hx hy hlt
    · have := h.pos hx; simp only [Ov] at hox hlt ⊢; omega
    · have := h.pos hy; simp only [Ov] at hoy hlt ⊢; omega
    · exact absurd hlt (Int.lt_irrefl _)
  · intro x hx
    rcases (hmem x).mp hx with ⟨hx, _⟩ | ⟨_, rfl⟩
    · exact h.posSizes x hx
    · exact hsz
  · intro x hx
    rcases (hmem x).mp hx with ⟨hx, _⟩ | ⟨ht, rfl⟩
    · exact h.noTop x hx
    · exact ht

theorem remove_eq (r : Region V) (p : Int) {n : Int} (hn : 0 < n) :
    MemRegion.remove r p n = some (clearInterval r p n) := by
  simp [MemRegion.remove, hn]

theorem mem_clearInterval_spec {r : Region V} (h : Inv r) {p n : Int} (hn : 0 < n) {x : Int × V} :
    x ∈ clearInterval r p n ↔ x ∈ Spec.delete r p (p + n) := by
  rw [mem_clearInterval h hn, Spec.mem_delete]

theorem mem_mergeWriteTop {r : Region V} (h : Inv r) {p : Int} {n : Nat} (hn : 0 < n) {x : Int × V} :
    x ∈ mergeWriteTop r p n ↔ x ∈ Spec.writeTop r p n := by
  have hn' : (0 : Int) < n := Int.natCast_pos.mpr hn
  have hany : r.any (isSlot p n) = true ↔ ∃ v, BMap.get r p = some v ∧ size v = n := by
    rw [List.any_eq_true]
    constructor
    · rintro ⟨c, hc, hs⟩
      obtain ⟨rfl, hsz⟩ := isSlot_iff.mp hs
      exact ⟨c.2, BMap.get_of_mem h.sorted hc, hsz⟩
    · rintro ⟨v, hg, hsz⟩
      exact ⟨(p, v), BMap.mem_of_get hg, isSlot_iff.mpr ⟨rfl, hsz⟩⟩
  unfold mergeWriteTop Spec.writeTop
  cases hg : BMap.get r p with
  | none =>
    rw [hg] at hany
    rw [if_neg fun ha => nomatch hany.mp ha]
    exact mem_clearInterval_spec h hn'
  | some prev =>
    rw [hg] at hany
    dsimp only
    by_cases hsz : size prev = n
    · have hprev := BMap.mem_of_get hg
      rw [if_pos hsz, if_pos (hany.mpr ⟨prev, rfl, hsz⟩)]
      exact mem_storeMerged_weaken h.sorted hprev fun c hc =>
        ⟨fun hs => h.key_inj hc hprev (isSlot_iff.mp hs).1, fun hc => hc ▸ (isSlot_iff (c := (p, prev))).mpr ⟨rfl, hsz⟩⟩
    · rw [if_neg hsz, if_neg fun ha => by obtain ⟨v, hv, hvn⟩ := hany.mp ha; cases hv; exact hsz hvn]
      exact mem_clearInterval_spec h hn'

theorem sorted_mergeWriteTop {r : Region V} (h : Inv r) (p : Int) (n : Nat) :
    BMap.Sorted (mergeWriteTop r p n) := by
  unfold mergeWriteTop
  split
  · split
    · exact sorted_storeMerged h.sorted _ _
    · exact (inv_clearInterval h _ _).sorted
  · exact (inv_clearInterval h _ _).sorted

theorem Spec.weakenIf_source [LawfulValueDomain V] {s : Store V} {P : Int × V → Bool} {x : Int × V}
    (hno : ∀ c ∈ s, isTop c.2 = false)
    (hx : x ∈ s.filterMap (fun c => if P c then weaken c else some c)) :
    isTop x.2 = false ∧ ∃ c ∈ s, c.1 = x.1 ∧ size c.2 = size x.2 := by
  rcases mem_weakenIf.mp hx with ⟨hx, _⟩ | ⟨c, hc, _, hw⟩
  · exact ⟨hno x hx, x, hx, rfl, rfl⟩
  · have := weaken_source hw
    exact ⟨this.1, c, hc, this.2⟩

theorem Spec.writeTop_source [LawfulValueDomain V] {s : Store V} {p : Int} {n : Nat} {x : Int × V}
    (hno : ∀ c ∈ s, isTop c.2 = false) (hx : x ∈ Spec.writeTop s p n) :
    isTop x.2 = false ∧ ∃ c ∈ s, c.1 = x.1 ∧ size c.2 = size x.2 := by
  rcases Spec.writeTop_cases s p n with h | h <;> rw [h] at hx
  · exact Spec.weakenIf_source hno hx
  · have := (Spec.mem_delete.mp hx).1
    exact ⟨hno x this, x, this, rfl, rfl⟩

theorem inv_mergeWriteTop [LawfulValueDomain V] {r : Region V} (h : Inv r) (p : Int) {n : Nat}
    (hn : 0 < n) : Inv (mergeWriteTop r p n) :=
  inv_of_sources h (sorted_mergeWriteTop h p n)
    (fun _ hx => Spec.writeTop_source h.noTop ((mem_mergeWriteTop h hn).mp hx))

theorem sorted_mergePrevWithTop {r : Region V} (hs : BMap.Sorted r) (p : Int) :
    BMap.Sorted (mergePrevWithTop r p) := by
  unfold mergePrevWithTop
  split
  · split
    · split
      · exact sorted_storeMerged hs _ _
      · exact hs
    · exact hs
  · exact hs

/-- the first block of `merge_values_intersecting_range_with_top` weakens the cell reaching
across `p`: the reference top-write to the EMPTY interval `[p, p)` -/
theorem mem_mergePrevWithTop {r : Region V} (h : Inv r) {p : Int} {x : Int × V} :
    x ∈ mergePrevWithTop r p ↔ x ∈ Spec.weakenRange r p p := by
  unfold mergePrevWithTop Spec.weakenRange
  have hnone : (∀ y ∈ r, ¬ Ov y p p) →
      (x ∈ r ↔ x ∈ r.filterMap (fun c => if overlaps c p p then weaken c else some c)) := fun hno =>
    (mem_weakenIf.trans
      ⟨fun hx => hx.elim And.left fun ⟨c, hc, hov, _⟩ => absurd (overlaps_iff.mp hov) (hno c hc),
        fun hx => .inl ⟨hx, Bool.eq_false_iff.mpr (mt overlaps_iff.mp (hno x hx))⟩⟩).symm
  cases hlb : BMap.lastBelow r p with
  | none => exact hnone fun y hy hh => BMap.lastBelow_eq_none hlb y hy hh.1
  | some c =>
    obtain ⟨hc, hcp, huniq⟩ := h.lastBelow_eq_some hlb
    dsimp only
    by_cases hov : c.1 + isize c.2 > p
    · rw [if_pos hov, BMap.get_of_mem h.sorted hc]
      exact mem_storeMerged_weaken h.sorted hc fun y hy =>
        ⟨fun hy' => huniq y hy (overlaps_iff.mp hy'), fun hy' => hy' ▸ overlaps_iff.mpr ⟨hcp, hov⟩⟩
    · rw [if_neg hov]
      exact hnone fun y hy hh => hov (huniq y hy hh ▸ hh.2)

/-- the region after `merge_values_intersecting_range_with_top(s, e)` for `s ≤ e` -/
def weakenedRange (r : Region V) (s e : Int) : Region V :=
  ((BMap.range (mergePrevWithTop r s) s e).map (fun c => (c.1, merge c.2 (topOf c.2)))).foldl
    (fun m c => storeMerged m c.1 c.2) (mergePrevWithTop r s)

theorem mergeValues_eq (r : Region V) {s e : Int} (hse : ¬ e < s) :
    mergeValuesIntersectingRangeWithTop r s e = some (weakenedRange r s e) := by
  simp [mergeValuesIntersectingRangeWithTop, weakenedRange, hse]

theorem markInterval_eq (r : Region V) {s e : Int} {n : Nat} (hse : s < e + (n : Int)) :
    markIntervalValuesAsTop r s e n = some (weakenedRange r s (e + (n : Int))) :=
  mergeValues_eq r (by omega)

/-- Two weakening passes, over the cell reaching across `s` and over the cells starting in
`[s, e)`, amount to one pass over the cells sharing a byte with `[s, e)`. -/
theorem weakenedRange_spec [LawfulValueDomain V] {r : Region V} (h : Inv r) {s e : Int} (hse : s < e) :
    BMap.Sorted (weakenedRange r s e) ∧ ∀ x, x ∈ weakenedRange r s e ↔ x ∈ Spec.weakenRange r s e := by
  obtain ⟨hs, hm⟩ := foldl_weaken (sorted_mergePrevWithTop h.sorted s)
    (fun c => decide (s ≤ c.1) && decide (c.1 < e))
  refine ⟨hs, fun x => (hm x).trans ?_⟩
  rw [List.mem_filterMap_congr (fun _ => mem_mergePrevWithTop h)]
  unfold Spec.weakenRange
  rw [List.filterMap_filterMap]
  suffices hpt : ∀ c ∈ r, ((if overlaps c s s then weaken c else some c).bind fun c =>
      if (decide (s ≤ c.1) && decide (c.1 < e)) = true then weaken c else some c) =
      if overlaps c s e then weaken c else some c by
    rw [List.mem_filterMap, List.mem_filterMap]
    exact exists_congr fun c => and_congr_right fun hc => by rw [hpt c hc]
  intro c hc
  have hpos := h.pos hc
  by_cases h1 : overlaps c s s = true
  · -- weakened by the first pass, and still starts below `s`
    have h1' := overlaps_iff.mp h1
    rw [if_pos h1, if_pos (overlaps_iff.mpr ⟨Int.lt_trans h1'.1 hse, h1'.2⟩)]
    cases hw : weaken c with
    | none => rfl
    | some y =>
      have hk := (weaken_source hw).2.1
      have : ¬ s ≤ y.1 := by have := h1'.1; omega
      simp [this]
  · have h1' : ¬ (c.1 < s ∧ s < c.1 + isize c.2) := fun hh => h1 (overlaps_iff.mpr hh)
    have : (decide (s ≤ c.1) && decide (c.1 < e)) = overlaps c s e := by
      rw [Bool.eq_iff_iff, overlaps_iff, Bool.and_eq_true, decide_eq_true_eq, decide_eq_true_eq]
      exact ⟨fun hh => ⟨hh.2, by omega⟩, fun hh => ⟨by have := hh.2; omega, hh.1⟩⟩
    rw [if_neg h1, Option.bind_some, this]

theorem inv_weakenedRange [LawfulValueDomain V] {r : Region V} (h : Inv r) {s e : Int} (hse : s < e) :
    Inv (weakenedRange r s e) :=
  inv_of_sources h (weakenedRange_spec h hse).1
    (fun x hx => Spec.weakenIf_source h.noTop (((weakenedRange_spec h hse).2 x).mp hx))

theorem mem_clearTopValues {r : Region V} {x : Int × V} :
    x ∈ clearTopValues r ↔ x ∈ r ∧ isTop x.2 = false := by
  simp [clearTopValues, BMap.retain, List.mem_filter]

theorem clearTopValues_sublist (r : Region V) : (clearTopValues r).Sublist r := List.filter_sublist

theorem mem_clearTopValues_inv {r : Region V} (h : Inv r) {x : Int × V} :
    x ∈ clearTopValues r ↔ x ∈ r := by
  rw [mem_clearTopValues]; exact ⟨fun hx => hx.1, fun hx => ⟨hx, h.noTop x hx⟩⟩

theorem mem_markAll {r : Region V} {x : Int × V} :
    x ∈ markAllValuesAsTop r ↔ x ∈ Spec.weakenAll r := by
  unfold markAllValuesAsTop Spec.weakenAll
  rw [mem_clearTopValues, List.mem_map, List.mem_filterMap]
  constructor
  · rintro ⟨⟨c, hc, rfl⟩, ht⟩; exact ⟨c, hc, weaken_eq_some.mpr ⟨ht, rfl⟩⟩
  · rintro ⟨c, hc, hw⟩
    obtain ⟨ht, rfl⟩ := weaken_eq_some.mp hw
    exact ⟨⟨c, hc, rfl⟩, ht⟩

omit [ValueDomain V] in
theorem sorted_map_keys {r : Region V} (hs : BMap.Sorted r) (f : Int × V → Int × V)
    (hf : ∀ c, (f c).1 = c.1) : BMap.Sorted (r.map f) := by
  unfold BMap.Sorted
  rw [List.pairwise_map]
  exact hs.imp (fun {a b} hab => by rw [hf a, hf b]; exact hab)

theorem inv_markAll [LawfulValueDomain V] {r : Region V} (h : Inv r) : Inv (markAllValuesAsTop r) := by
  refine inv_of_sources h ?_ ?_
  · have : BMap.Sorted (r.map (fun c => (c.1, merge c.2 (topOf c.2)))) :=
      sorted_map_keys h.sorted _ (fun _ => rfl)
    exact this.sublist (clearTopValues_sublist _)
  · intro x hx
    obtain ⟨c, hc, hw⟩ := List.mem_filterMap.mp (mem_markAll.mp hx)
    have := weaken_source hw
    exact ⟨this.1, c, hc, this.2⟩

theorem mem_scrub [LawfulValueDomain V] {r : Region V} (h : Inv r) {p : Int} {x : Int × V} :
    x ∈ clearTopValues (pokeTop r p) ↔ x ∈ Spec.dropAt r p := by
  unfold pokeTop Spec.dropAt
  rw [mem_clearTopValues, List.mem_map, List.mem_filter]
  constructor
  · rintro ⟨⟨c, hc, rfl⟩, ht⟩
    by_cases hk : c.1 = p
    · simp only [hk, if_true] at ht
      rw [LawfulValueDomain.topOf_eq, LawfulValueDomain.isTop_newTop] at ht; cases ht
    · simp only [hk, if_false]; exact ⟨hc, by simpa using hk⟩
  · rintro ⟨hx, hk⟩
    have hk : ¬ x.1 = p := by simpa using hk
    exact ⟨⟨x, hx, by simp [hk]⟩, h.noTop x hx⟩

theorem inv_scrub [LawfulValueDomain V] {r : Region V} (h : Inv r) (p : Int) :
    Inv (clearTopValues (pokeTop r p)) := by
  refine inv_of_sources h ?_ ?_
  · refine (sorted_map_keys h.sorted _ (fun c => ?_)).sublist (clearTopValues_sublist _)
    split <;> rfl
  · intro x hx
    have := (mem_scrub h).mp hx
    have hx' := (List.mem_filter.mp this).1
    exact ⟨h.noTop x hx', x, hx', rfl, rfl⟩

omit [ValueDomain V] in
theorem Spec.shift_zero (s : Store V) : Spec.shift s 0 = s := by
  simp [Spec.shift]

theorem addOffset_spec {r : Region V} (h : Inv r) (d : Int) :
    BMap.Sorted (addOffsetToAllIndices r d) ∧
    ∀ x, x ∈ addOffsetToAllIndices r d ↔ x ∈ Spec.shift r d := by
  unfold addOffsetToAllIndices
  by_cases hd : d = 0
  · rw [if_pos hd, hd, Spec.shift_zero]
    exact ⟨h.sorted, fun _ => Iff.rfl⟩
  · rw [if_neg hd]
    obtain ⟨hs, hm⟩ := BMap.foldl_insert (fun c : Int × V => c.1 + d) (fun c => c.2)
      (m := []) List.Pairwise.nil (h.sorted.imp fun hab => by omega)
    refine ⟨hs, fun x => (hm x).trans ?_⟩
    rw [Spec.shift, List.mem_map]
    exact ⟨fun hx => hx.elim (fun hx => nomatch hx.1) fun ⟨c, hc, hx⟩ => ⟨c, hc, hx.symm⟩,
      fun ⟨c, hc, hx⟩ => .inr ⟨c, hc, hx.symm⟩⟩

theorem inv_addOffset {r : Region V} (h : Inv r) (d : Int) : Inv (addOffsetToAllIndices r d) := by
  obtain ⟨hs, hm⟩ := addOffset_spec h d
  have hm' : ∀ x ∈ addOffsetToAllIndices r d, ∃ c ∈ r, (c.1 + d, c.2) = x := fun x hx =>
    List.mem_map.mp ((hm x).mp hx)
  refine inv_of_sorted hs ?_ ?_ ?_
  · intro x hx y hy hlt
    obtain ⟨c, hc, rfl⟩ := hm' x hx
    obtain ⟨c', hc', rfl⟩ := hm' y hy
    have := h.lt_disjoint hc hc' (Int.lt_of_add_lt_add_right hlt)
    show c.1 + d + isize c.2 ≤ c'.1 + d
    omega
  · intro x hx
    obtain ⟨c, hc, rfl⟩ := hm' x hx
    exact h.posSizes c hc
  · intro x hx
    obtain ⟨c, hc, rfl⟩ := hm' x hx
    exact h.noTop c hc

end CweModel.C05
