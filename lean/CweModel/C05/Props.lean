/-
C05 — property theorems. Statement of the property:

  After any sequence of writes, removals, top-writes, offset shifts and merges on an abstract
  memory region, no two stored cells overlap and no stored cell is the unknown value. A read at
  an offset with a size returns the value last written there with exactly that offset and size
  unless a later operation touched an overlapping byte, and the unknown value otherwise; a merge
  keeps only cells that both inputs hold at the same offset with the same size (merged) or that
  overlap nothing in the other input.

Preconditions made explicit (`Pre`): sizes are positive (`insert_at_byte_index` and `remove` assert
it), top-write intervals are non-empty, the other operand of a merge satisfies the invariant, and
the offsets of both operands are not below `i64::MIN` (`LowerBounded`; `merge_inner` starts its
running range end at `i64::MIN`).

Positions are `Int`s in the model. The last section ("positions representable in i64") ties this
to the code, whose positions are i64 values: the repaired interval arithmetic of `mem_region.rs`
(interval ends in i128, range `position..` when `position + size` exceeds `i64::MAX`) is
modelled literally (`stepI64`) and proved equal to the `Int` model for ALL i64 positions —
including those at and next to `i64::MAX` — under the explicit hypotheses `KeysI64`/`OpI64`.
-/
import CweModel.C05.Merge

namespace CweModel.C05
open CweModel.MemRegion

instance : LawfulValueDomain BvVal where
  size_newTop _ := rfl
  isTop_newTop _ := rfl
  topOf_eq _ := rfl
  size_merge a b _ := by
    show BvVal.size (if a = b then a else .top a.size) = a.size
    split <;> rfl

instance : LawfulValueDomain TaintVal where
  size_newTop _ := rfl
  isTop_newTop _ := rfl
  topOf_eq _ := rfl
  size_merge a b h := by
    cases a <;> cases b <;> first | rfl | exact h.symm

instance : LawfulValueDomain DataVal where
  size_newTop _ := rfl
  isTop_newTop _ := rfl
  topOf_eq _ := rfl
  size_merge _ _ _ := rfl

/-- merging a value with itself gives the value (needed only for the `self == other`
short-circuit of `AbstractDomain::merge` on regions) -/
class IdemMerge (V : Type) [ValueDomain V] : Prop where
  merge_idem : ∀ v : V, merge v v = v

instance : IdemMerge BvVal := ⟨fun v => by show (if v = v then v else _) = v; simp⟩
instance : IdemMerge TaintVal := ⟨fun v => by cases v <;> rfl⟩
instance : IdemMerge DataVal := ⟨fun v => by
  obtain ⟨s, a, f⟩ := v
  show DataVal.mk _ _ _ = _
  congr
  · cases a with
    | none => rfl
    | some l => show some (if l = l then l else _) = some l; simp
  · simp⟩

variable {V : Type} [ValueDomain V]

/-- `Spec.pre` as a proposition and, for a merge into `r`, the invariant of the operand and
`LowerBounded` of both -/
def Pre (r : Region V) : Op V → Prop
  | .insert _ v => 0 < size v
  | .remove _ n => 0 < n
  | .mergeWriteTop _ n => 0 < n
  | .markInterval s e n => s < e + (n : Int)
  | .merge other => Inv other ∧ LowerBounded other ∧ LowerBounded r
  | _ => True

def PreAll [DecidableEq V] (r : Region V) : List (Op V) → Prop
  | [] => True
  | op :: ops => Pre r op ∧ ∀ r', step r op = some r' → PreAll r' ops

theorem Pre.specPre {r : Region V} {op : Op V} (h : Pre r op) : Spec.pre op = true := by
  cases op <;> simp_all [Pre, Spec.pre]

/-- two cell lists hold the same cells (the reference store is unsorted) -/
def SameCells (s s' : List (Int × V)) : Prop := ∀ x, x ∈ s ↔ x ∈ s'

omit [ValueDomain V] in
theorem SameCells.refl (s : List (Int × V)) : SameCells s s := fun _ => Iff.rfl
omit [ValueDomain V] in
theorem SameCells.symm {s s' : List (Int × V)} (h : SameCells s s') : SameCells s' s := fun x => (h x).symm
omit [ValueDomain V] in
theorem SameCells.trans {s s' s'' : List (Int × V)} (h : SameCells s s') (h' : SameCells s' s'') :
    SameCells s s'' := fun x => (h x).trans (h' x)

omit [ValueDomain V] in
theorem SameCells.filter {s s' : List (Int × V)} (h : SameCells s s') (p : Int × V → Bool) :
    SameCells (s.filter p) (s'.filter p) := fun x => by simp [List.mem_filter, h x]

omit [ValueDomain V] in
theorem SameCells.filterMap {s s' : List (Int × V)} (h : SameCells s s') (f : Int × V → Option (Int × V)) :
    SameCells (s.filterMap f) (s'.filterMap f) := fun _ => List.mem_filterMap_congr h f

omit [ValueDomain V] in
theorem SameCells.any {s s' : List (Int × V)} (h : SameCells s s') (p : Int × V → Bool) :
    s.any p = s'.any p := by
  rw [Bool.eq_iff_iff, List.any_eq_true, List.any_eq_true]
  exact ⟨fun ⟨c, hc, hp⟩ => ⟨c, (h c).mp hc, hp⟩, fun ⟨c, hc, hp⟩ => ⟨c, (h c).mpr hc, hp⟩⟩

/-- the operations of the reference store only depend on the SET of cells of the store -/
theorem Spec.step_congr {s s' : Store V} (h : SameCells s s') (op : Op V) :
    SameCells (Spec.step s op) (Spec.step s' op) := by
  cases op with
  | insert p v =>
    intro x; simp only [Spec.step, Spec.write, Spec.delete, List.mem_append, (h.filter _) x]
  | remove p n => exact h.filter _
  | mergeWriteTop p n =>
    rw [Spec.step, Spec.step, Spec.writeTop, Spec.writeTop, h.any]
    by_cases ha : s'.any (isSlot p n) = true
    · rw [if_pos ha, if_pos ha]; exact h.filterMap _
    · rw [if_neg ha, if_neg ha]; exact h.filter _
  | markInterval st e n => exact h.filterMap _
  | markAll => exact h.filterMap _
  | addOffset d =>
    intro x; simp only [Spec.step, Spec.shift, List.mem_map]
    exact ⟨fun ⟨c, hc, hf⟩ => ⟨c, (h c).mp hc, hf⟩, fun ⟨c, hc, hf⟩ => ⟨c, (h c).mpr hc, hf⟩⟩
  | scrub p => exact h.filter _
  | clearTop => exact h
  | merge other =>
    intro x
    simp only [Spec.step, Spec.merge, List.mem_append, (h.filterMap _) x, h.any]

theorem Spec.run_congr {s s' : Store V} (h : SameCells s s') (ops : List (Op V)) :
    SameCells (Spec.run s ops) (Spec.run s' ops) := by
  induction ops generalizing s s' with
  | nil => exact h
  | cons op ops ih => exact ih (Spec.step_congr h op)

theorem Spec.mem_merge {a b : Region V} (ha : Inv a) (hb : Inv b) (x : Int × V) :
    x ∈ Spec.merge a b ↔ isTop x.2 = false ∧
      ((∃ va vb, (x.1, va) ∈ a ∧ (x.1, vb) ∈ b ∧ size va = size vb ∧ x.2 = ValueDomain.merge va vb) ∨
       (∃ va, (x.1, va) ∈ a ∧ (∀ d ∈ b, cellsOverlap (x.1, va) d = false) ∧
          x.2 = ValueDomain.merge va (newTop (size va))) ∨
       (∃ vb, (x.1, vb) ∈ b ∧ (∀ c ∈ a, cellsOverlap (x.1, vb) c = false) ∧
          x.2 = ValueDomain.merge vb (newTop (size vb)))) :=
  Spec.mem_merge_iff ha.posSizes hb.posSizes (fun _ hd _ hd' => hb.key_inj hd hd') x

theorem Spec.merge_self [IdemMerge V] {r : Region V} (h : Inv r) : SameCells (Spec.merge r r) r := by
  intro x
  rw [Spec.mem_merge h h]
  constructor
  · rintro ⟨_, ⟨va, vb, hca, hcb, _, hx⟩ | ⟨va, hca, hno, _⟩ | ⟨vb, hcb, hno, _⟩⟩
    · cases h.key_inj hcb hca rfl
      rw [IdemMerge.merge_idem] at hx
      rw [show x = (x.1, va) from Prod.ext rfl hx]
      exact hca
    · exact absurd rfl (key_ne_of_noOverlap (h.posSizes _ hca) (h.posSizes _ hca) (hno _ hca))
    · exact absurd rfl (key_ne_of_noOverlap (h.posSizes _ hcb) (h.posSizes _ hcb) (hno _ hcb))
  · intro hx
    exact ⟨h.noTop x hx, .inl ⟨x.2, x.2, hx, hx, rfl, (IdemMerge.merge_idem x.2).symm⟩⟩

theorem Spec.merge_congr_right {a : Store V} {b b' : Store V}
    (hu : ∀ d ∈ b, ∀ d' ∈ b, d.1 = d'.1 → d = d') (h : SameCells b b') :
    SameCells (Spec.merge a b) (Spec.merge a b') := by
  -- `find?` does not depend on the order: at most one cell of `b` is in the slot of `c`
  have hfind : ∀ c : Int × V, b.find? (sameSlot c) = b'.find? (sameSlot c) := fun c =>
    have huniq : ∀ y ∈ b, ∀ y' ∈ b, sameSlot c y = true → sameSlot c y' = true → y = y' :=
      fun y hy y' hy' hs hs' =>
        hu y hy y' hy' ((sameSlot_iff.mp hs).1.symm.trans (sameSlot_iff.mp hs').1)
    Option.ext fun d => by
      rw [List.find?_eq_some_iff_unique huniq, h d, List.find?_eq_some_iff_unique
        fun y hy y' hy' => huniq y ((h y).mpr hy) y' ((h y').mpr hy')]
  intro x
  unfold Spec.merge
  simp only [List.mem_append, hfind, h.any, (h.filterMap _) x]

/-- **C05-step.** Under the preconditions an operation does not panic, re-establishes the
invariant (no two cells overlap, no stored cell is the unknown value) and yields exactly the
cells of the reference cell store. -/
theorem step_refines [LawfulValueDomain V] [IdemMerge V] [DecidableEq V] {r : Region V}
    (h : Inv r) (op : Op V) (hpre : Pre r op) :
    ∃ r', step r op = some r' ∧ Inv r' ∧ SameCells r' (Spec.step r op) := by
  cases op with
  | insert p v =>
    exact ⟨_, insertAtByteIndex_eq r p hpre, inv_writeCell h p hpre, fun x => mem_writeCell h hpre⟩
  | remove p n =>
    exact ⟨_, remove_eq r p hpre, inv_clearInterval h p n, fun x => mem_clearInterval_spec h hpre⟩
  | mergeWriteTop p n =>
    exact ⟨_, rfl, inv_mergeWriteTop h p hpre, fun x => mem_mergeWriteTop h hpre⟩
  | markInterval s e n =>
    exact ⟨_, markInterval_eq r hpre, inv_weakenedRange h hpre, (weakenedRange_spec h hpre).2⟩
  | markAll => exact ⟨_, rfl, inv_markAll h, fun x => mem_markAll⟩
  | addOffset d => exact ⟨_, rfl, inv_addOffset h d, (addOffset_spec h d).2⟩
  | scrub p => exact ⟨_, rfl, inv_scrub h p, fun x => mem_scrub h⟩
  | clearTop =>
    exact ⟨_, rfl, inv_of_sublist h (clearTopValues_sublist r), fun x => mem_clearTopValues_inv h⟩
  | merge other =>
    obtain ⟨ho, hbo, hbr⟩ := hpre
    refine ⟨mergeRegions r other, rfl, ?_⟩
    unfold mergeRegions
    by_cases heq : r = other
    · subst heq
      rw [if_pos rfl]
      exact ⟨h, (Spec.merge_self h).symm⟩
    · rw [if_neg heq]
      exact ⟨inv_mergeInner_lb h ho hbr hbo, fun x => mem_mergeInner_lb h ho hbr hbo⟩

theorem run_cons [DecidableEq V] {r r1 : Region V} {op : Op V} (h : step r op = some r1)
    (ops : List (Op V)) : run r (op :: ops) = run r1 ops := by
  rw [run, h]
  rfl

theorem run_append [DecidableEq V] (r : Region V) (ops1 ops2 : List (Op V)) :
    run r (ops1 ++ ops2) = (run r ops1).bind (fun r' => run r' ops2) := by
  induction ops1 generalizing r with
  | nil => rfl
  | cons op ops ih =>
    show (step r op).bind _ = ((step r op).bind _).bind _
    cases step r op with
    | none => rfl
    | some r' => exact ih r'

theorem PreAll.append [DecidableEq V] {r : Region V} {ops1 ops2 : List (Op V)}
    (h : PreAll r (ops1 ++ ops2)) {r1 : Region V} (hr : run r ops1 = some r1) : PreAll r1 ops2 := by
  induction ops1 generalizing r with
  | nil => cases hr; exact h
  | cons op ops ih =>
    cases hs : step r op with
    | none => rw [run, hs] at hr; cases hr
    | some r' => rw [run_cons hs] at hr; exact ih (h.2 r' hs) hr

theorem PreAll.prefix [DecidableEq V] {r : Region V} {ops1 ops2 : List (Op V)}
    (h : PreAll r (ops1 ++ ops2)) : PreAll r ops1 := by
  induction ops1 generalizing r with
  | nil => trivial
  | cons op ops ih => exact ⟨h.1, fun r' hr' => ih (h.2 r' hr')⟩

/-! The driver runs the reference store with merge operands that are themselves reference stores
(unsorted): `HistRel` relates the two histories, `run_refines_store` is the refinement theorem
for them, `run_refines` its case of equal histories. -/

/-- the operations agree up to the cells of a merge operand -/
inductive OpRel : Op V → Op V → Prop where
  | same (op : Op V) : OpRel op op
  | merge {o : Region V} {o' : Store V} : Inv o → SameCells o o' → OpRel (.merge o) (.merge o')

inductive HistRel : List (Op V) → List (Op V) → Prop where
  | nil : HistRel [] []
  | cons {op op' : Op V} {ops ops' : List (Op V)} : OpRel op op' → HistRel ops ops' →
      HistRel (op :: ops) (op' :: ops')

theorem HistRel.refl (ops : List (Op V)) : HistRel ops ops := by
  induction ops with
  | nil => exact .nil
  | cons op ops ih => exact .cons (.same op) ih

theorem Spec.step_congr_rel {s s' : Store V} (h : SameCells s s') {op op' : Op V} (hr : OpRel op op') :
    SameCells (Spec.step s op) (Spec.step s' op') := by
  cases hr with
  | same => exact Spec.step_congr h _
  | merge ho hoo =>
    exact (Spec.step_congr h _).trans
      (Spec.merge_congr_right (fun d hd d' hd' hk => ho.key_inj hd hd' hk) hoo)

/-- **C05-refinement'** — as `run_refines`, the reference store using its own merge operands -/
theorem run_refines_store [LawfulValueDomain V] [IdemMerge V] [DecidableEq V] (ops sops : List (Op V))
    (hrel : HistRel ops sops) :
    ∀ {r : Region V} {s : Store V}, Inv r → SameCells r s → PreAll r ops →
      ∃ r', run r ops = some r' ∧ Inv r' ∧ SameCells r' (Spec.run s sops) := by
  induction hrel with
  | nil => intro r s h hs _; exact ⟨r, rfl, h, hs⟩
  | cons hop _ ih =>
    intro r s h hs hpre
    obtain ⟨r1, hstep, hinv1, hsame1⟩ := step_refines h _ hpre.1
    obtain ⟨r', hrun, hinv', hsame'⟩ :=
      ih hinv1 (hsame1.trans (Spec.step_congr_rel hs hop)) (hpre.2 r1 hstep)
    exact ⟨r', (run_cons hstep _).trans hrun, hinv', hsame'⟩

/-- **C05-refinement.** For EVERY history that meets the preconditions, started in a region
satisfying the invariant (in particular the empty region): no operation panics, the invariant
holds at the end, and the region holds exactly the cells of the reference cell store run on
the same history (from any store holding the same cells). -/
theorem run_refines [LawfulValueDomain V] [IdemMerge V] [DecidableEq V] (ops : List (Op V)) :
    ∀ {r : Region V} {s : Store V}, Inv r → SameCells r s → PreAll r ops →
      ∃ r', run r ops = some r' ∧ Inv r' ∧ SameCells r' (Spec.run s ops) :=
  run_refines_store ops ops (HistRel.refl ops)

/-- **C05-invariant.** After any sequence of operations that meets the preconditions, on the empty
region (`MemRegion::new`), no two stored cells overlap and no stored cell is the unknown value; the
cells are those of the reference store. -/
theorem run_new_refines [LawfulValueDomain V] [IdemMerge V] [DecidableEq V] (ops : List (Op V))
    (hpre : PreAll (MemRegion.new : Region V) ops) :
    ∃ r, run (MemRegion.new : Region V) ops = some r ∧ Inv r ∧ SameCells r (Spec.run [] ops) :=
  run_refines ops inv_nil (SameCells.refl _) hpre

theorem get_of_mem {r : Region V} (h : BMap.Sorted r) {p : Int} {v : V} (hm : (p, v) ∈ r) :
    get r p (size v) = v := by
  simp [MemRegion.get, BMap.get_of_mem h hm]

theorem get_of_no_slot {r : Region V} {p : Int} {n : Nat} (hno : ∀ v, size v = n → (p, v) ∉ r) :
    get r p n = newTop n :=
  ((get_cases r p n).resolve_right fun ⟨v, hg, hsz, _⟩ => hno v hsz (BMap.mem_of_get hg)).1

theorem get_eq_read_of_sorted {r : Region V} (h : BMap.Sorted r) {s : Store V} (hs : SameCells r s) (p : Int)
    (n : Nat) : get r p n = Spec.read s p n := by
  unfold Spec.read
  cases hf : s.find? (isSlot p n) with
  | some c =>
    obtain ⟨rfl, rfl⟩ := isSlot_iff.mp (List.find?_some hf)
    exact get_of_mem h ((hs c).mpr (List.mem_of_find?_eq_some hf))
  | none =>
    exact get_of_no_slot fun v hv hm =>
      List.find?_eq_none.mp hf _ ((hs _).mp hm) (isSlot_iff.mpr ⟨rfl, hv⟩)

theorem get_eq_read {r : Region V} (h : Inv r) {s : Store V} (hs : SameCells r s) (p : Int) (n : Nat) :
    get r p n = Spec.read s p n := get_eq_read_of_sorted h.sorted hs p n

omit [ValueDomain V] in
theorem getUnsized_eq_read_of_sorted {r : Region V} (h : BMap.Sorted r) {s : Store V} (hs : SameCells r s)
    (p : Int) : getUnsized r p = Spec.readUnsized s p := by
  unfold getUnsized Spec.readUnsized
  cases hf : s.find? (fun c => decide (c.1 = p)) with
  | some c =>
    have hk : c.1 = p :=
      of_decide_eq_true (List.find?_some (p := fun c : Int × V => decide (c.1 = p)) hf)
    exact hk ▸ BMap.get_of_mem h ((hs c).mpr (List.mem_of_find?_eq_some hf))
  | none =>
    exact BMap.get_eq_none.mpr fun x hx hk =>
      List.find?_eq_none.mp hf x ((hs x).mp hx) (decide_eq_true hk)

theorem getUnsized_eq_read {r : Region V} (h : Inv r) {s : Store V} (hs : SameCells r s) (p : Int) :
    getUnsized r p = Spec.readUnsized s p := getUnsized_eq_read_of_sorted h.sorted hs p

/-- `op` may change the cell stored in slot (p, n) -/
def Touches : Op V → Int → Nat → Prop
  | .insert q w, p, n => q < p + n ∧ p < q + size w
  | .remove q m, p, n => q < p + n ∧ p < q + m
  | .mergeWriteTop q m, p, n => q < p + n ∧ p < q + m
  | .markInterval st e m, p, n => st < p + n ∧ p < e + m
  | .markAll, _, _ => True
  | .addOffset d, _, _ => d ≠ 0
  | .scrub q, p, _ => q = p
  | .clearTop, _, _ => False
  | .merge _, _, _ => True

/-- `op` destroys whatever is stored in slot (p, n): a write or removal of a range sharing a
byte with `[p, p + n)` that is not a write of a known value to exactly this slot, or a scrub at `p` -/
def Clobbers : Op V → Int → Nat → Prop
  | .insert q w, p, n => (q < p + n ∧ p < q + size w) ∧ ¬ (q = p ∧ size w = n ∧ isTop w = false)
  | .remove q m, p, n => q < p + n ∧ p < q + m
  | .scrub q, p, _ => q = p
  | _, _, _ => False

/-- `op` may create a cell in slot (p, n): a write to exactly this slot, a shift, a merge -/
def Produces : Op V → Int → Nat → Prop
  | .insert q w, p, n => q = p ∧ size w = n
  | .addOffset d, _, _ => d ≠ 0
  | .merge _, _, _ => True
  | _, _, _ => False

theorem overlaps_slot {c : Int × V} {p : Int} {n : Nat} (hk : c.1 = p) (hsz : size c.2 = n)
    (lo hi : Int) : overlaps c lo hi = true ↔ lo < p + n ∧ p < hi := by
  subst hk hsz
  exact overlaps_iff.trans And.comm

theorem mem_weakenIf_slot [LawfulValueDomain V] {s : Store V} {P : Int × V → Bool} {p : Int} {v : V}
    (hP : ∀ c : Int × V, c.1 = p → size c.2 = size v → P c = false) :
    (p, v) ∈ s.filterMap (fun c => if P c then weaken c else some c) ↔ (p, v) ∈ s := by
  rw [mem_weakenIf]
  refine ⟨fun h => h.elim And.left fun ⟨c, _, hPc, hw⟩ => ?_, fun hm => .inl ⟨hm, hP _ rfl rfl⟩⟩
  have hsrc := weaken_source hw
  rw [hP c hsrc.2.1 hsrc.2.2] at hPc
  cases hPc

theorem Spec.slot_frame [LawfulValueDomain V] {s : Store V} {op : Op V} {p : Int} {n : Nat}
    (hn : 0 < n) (hpre : Spec.pre op = true) (hnt : ¬ Touches op p n) {v : V} (hv : size v = n) :
    (p, v) ∈ Spec.step s op ↔ (p, v) ∈ s := by
  have hn' : (0 : Int) < n := Int.natCast_pos.mpr hn
  cases op with
  | insert q w =>
    have hw : (0 : Int) < size w := Int.natCast_pos.mpr (of_decide_eq_true hpre)
    rw [Spec.step, Spec.mem_write, ← overlaps_iff, overlaps_slot rfl hv]
    refine ⟨fun h => h.elim And.left fun ⟨_, heq⟩ => ?_, fun hm => .inl ⟨hm, hnt⟩⟩
    cases heq
    exact absurd ⟨Int.lt_add_of_pos_right _ hn', Int.lt_add_of_pos_right _ hw⟩ hnt
  | remove q m =>
    rw [Spec.step, Spec.mem_delete, ← overlaps_iff, overlaps_slot rfl hv]
    exact and_iff_left hnt
  | mergeWriteTop q m =>
    rcases Spec.writeTop_cases s q m with h | h <;> rw [Spec.step, h]
    · refine mem_weakenIf_slot fun c hk hsz => Bool.eq_false_iff.mpr fun hs => hnt ?_
      obtain ⟨rfl, rfl⟩ := isSlot_iff.mp hs
      rw [← hk, ← hv, ← hsz]
      exact ⟨Int.lt_add_of_pos_right _ (hsz ▸ hv ▸ hn'), Int.lt_add_of_pos_right _ (hsz ▸ hv ▸ hn')⟩
    · rw [Spec.mem_delete, ← overlaps_iff, overlaps_slot rfl hv]
      exact and_iff_left hnt
  | markInterval st e m =>
    exact mem_weakenIf_slot fun c hk hsz =>
      Bool.eq_false_iff.mpr (mt (overlaps_slot hk (hsz.trans hv) _ _).mp hnt)
  | markAll => exact absurd trivial hnt
  | addOffset d =>
    rw [Spec.step, Decidable.not_not.mp hnt, Spec.shift_zero]
  | scrub q =>
    rw [Spec.step, Spec.dropAt, List.mem_filter]
    exact and_iff_left (bne_iff_ne.mpr fun h => hnt h.symm)
  | clearTop => exact Iff.rfl
  | merge other => exact absurd trivial hnt

theorem Spec.slot_clobbered {s : Store V} {op : Op V} {p : Int} {n : Nat}
    (hc : Clobbers op p n) {v : V} (hv : size v = n) : (p, v) ∉ Spec.step s op := by
  cases op with
  | insert q w =>
    rw [Spec.step, Spec.mem_write, ← overlaps_iff, overlaps_slot rfl hv]
    rintro (⟨_, hno⟩ | ⟨ht, heq⟩)
    · exact hno hc.1
    · cases heq
      exact hc.2 ⟨rfl, hv, ht⟩
  | remove q m =>
    rw [Spec.step, Spec.mem_delete, ← overlaps_iff, overlaps_slot rfl hv]
    exact fun hm => hm.2 hc
  | scrub q =>
    rw [Spec.step, Spec.dropAt, List.mem_filter]
    exact fun hm => bne_iff_ne.mp hm.2 (Eq.symm hc)
  | mergeWriteTop _ _ | markInterval _ _ _ | markAll | addOffset _ | clearTop | merge _ => exact hc.elim

theorem Spec.slot_not_produced [LawfulValueDomain V] {s : Store V} {op : Op V} {p : Int} {n : Nat}
    (hnp : ¬ Produces op p n) (hno : ∀ v, size v = n → (p, v) ∉ s) :
    ∀ v, size v = n → (p, v) ∉ Spec.step s op := by
  intro v hv
  have hweak : ∀ {P : Int × V → Bool}, (p, v) ∉ s.filterMap (fun c => if P c then weaken c else some c) := by
    intro P hm
    rcases mem_weakenIf.mp hm with ⟨hm, _⟩ | ⟨c, hc, _, hw⟩
    · exact hno v hv hm
    · obtain ⟨_, hk, hsz⟩ := weaken_source hw
      have hk : c.1 = p := hk
      exact hno c.2 (hsz.trans hv) (hk ▸ (show (c.1, c.2) ∈ s from hc))
  cases op with
  | insert q w =>
    rw [Spec.step, Spec.mem_write]
    rintro (⟨hm, _⟩ | ⟨_, heq⟩)
    · exact hno v hv hm
    · cases heq
      exact hnp ⟨rfl, hv⟩
  | remove q m => exact fun hm => hno v hv (Spec.mem_delete.mp hm).1
  | mergeWriteTop q m =>
    rcases Spec.writeTop_cases s q m with h | h <;> rw [Spec.step, h]
    · exact hweak
    · exact fun hm => hno v hv (Spec.mem_delete.mp hm).1
  | markInterval st e m => exact hweak
  | markAll => exact hweak (P := fun _ => true)
  | addOffset d =>
    rw [Spec.step, Decidable.not_not.mp hnp, Spec.shift_zero]
    exact hno v hv
  | scrub q => exact fun hm => hno v hv (List.mem_filter.mp hm).1
  | clearTop => exact hno v hv
  | merge other => exact absurd trivial hnp

section histories
variable [LawfulValueDomain V] [IdemMerge V] [DecidableEq V]

theorem run_invariant {Q : Region V → Prop} (ops : List (Op V))
    (hQ : ∀ op ∈ ops, ∀ {r r' : Region V}, Pre r op → SameCells r' (Spec.step r op) → Q r → Q r') :
    ∀ {r : Region V}, Inv r → PreAll r ops → Q r → ∃ r', run r ops = some r' ∧ Inv r' ∧ Q r' := by
  induction ops with
  | nil => intro r h _ hq; exact ⟨r, rfl, h, hq⟩
  | cons op ops ih =>
    intro r h hpre hq
    obtain ⟨r1, hstep, hinv1, hsame1⟩ := step_refines h op hpre.1
    obtain ⟨r', hrun, hr'⟩ := ih (fun o ho => hQ o (List.mem_cons_of_mem _ ho)) hinv1
      (hpre.2 r1 hstep) (hQ op List.mem_cons_self hpre.1 hsame1 hq)
    exact ⟨r', (run_cons hstep ops).trans hrun, hr'⟩

theorem no_slot_run {p : Int} {n : Nat} (ops : List (Op V)) {r : Region V} (h : Inv r)
    (hpre : PreAll r ops) (hnp : ∀ op ∈ ops, ¬ Produces op p n) (hno : ∀ v, size v = n → (p, v) ∉ r) :
    ∃ r', run r ops = some r' ∧ Inv r' ∧ ∀ v, size v = n → (p, v) ∉ r' :=
  run_invariant ops (fun op hop _ _ _ hsame hq v hv hm =>
    Spec.slot_not_produced (hnp op hop) hq v hv ((hsame _).mp hm)) h hpre hno

theorem run_split {r0 : Region V} (h0 : Inv r0) {ops1 ops2 : List (Op V)} {op : Op V}
    (hpre : PreAll r0 (ops1 ++ op :: ops2)) :
    ∃ r1 r2, Pre r1 op ∧ Inv r2 ∧ SameCells r2 (Spec.step r1 op) ∧ PreAll r2 ops2 ∧
      ∀ r, run r2 ops2 = some r → run r0 (ops1 ++ op :: ops2) = some r := by
  obtain ⟨r1, hrun1, hinv1, _⟩ := run_refines ops1 h0 (SameCells.refl _) hpre.prefix
  have hpre2 := hpre.append hrun1
  obtain ⟨r2, hstep, hinv2, hsame2⟩ := step_refines hinv1 op hpre2.1
  refine ⟨r1, r2, hpre2.1, hinv2, hsame2, hpre2.2 r2 hstep, fun r hrun => ?_⟩
  rw [run_append, hrun1, Option.bind_some, run_cons hstep]
  exact hrun

/-- **C05-read-after-write.** In every history: after a write of a known value `v` at offset `p`,
as long as no later operation touches a byte of `[p, p + size v)` (and none shifts or merges),
a read at `p` with size `size v` returns `v`. -/
theorem read_after_write {r0 : Region V} (h0 : Inv r0) (ops1 ops2 : List (Op V)) (p : Int) (v : V)
    (hv : isTop v = false) (hpre : PreAll r0 (ops1 ++ Op.insert p v :: ops2))
    (hnt : ∀ op ∈ ops2, ¬ Touches op p (size v)) :
    ∃ r, run r0 (ops1 ++ Op.insert p v :: ops2) = some r ∧ Inv r ∧ get r p (size v) = v := by
  obtain ⟨r1, r2, hsz, hinv2, hsame2, hpre2, hrun'⟩ := run_split h0 hpre
  have hin : (p, v) ∈ r2 := (hsame2 _).mpr (Spec.mem_write.mpr (.inr ⟨hv, rfl⟩))
  -- operations that do not touch the slot leave the written cell in the region
  obtain ⟨r, hrun, hinv, hin'⟩ := run_invariant (Q := fun r' => (p, v) ∈ r') ops2
    (fun op hop _ _ hpre hsame hq =>
      (hsame _).mpr ((Spec.slot_frame hsz hpre.specPre (hnt op hop) rfl).mpr hq)) hinv2 hpre2 hin
  exact ⟨r, hrun' r hrun, hinv, get_of_mem hinv.sorted hin'⟩

/-- **C05-read-after-clobber.** In every history: after an operation that overwrites or removes
a byte of `[p, p + n)` (other than a write of a known value to exactly this slot), a read at
`p` with size `n` returns the unknown value — until an operation writes exactly this slot again
(or shifts / merges). -/
theorem read_after_clobber {r0 : Region V} (h0 : Inv r0) (ops1 ops2 : List (Op V)) (op : Op V)
    (p : Int) {n : Nat} (hc : Clobbers op p n)
    (hpre : PreAll r0 (ops1 ++ op :: ops2)) (hnp : ∀ o ∈ ops2, ¬ Produces o p n) :
    ∃ r, run r0 (ops1 ++ op :: ops2) = some r ∧ Inv r ∧ get r p n = newTop n := by
  obtain ⟨r1, r2, _, hinv2, hsame2, hpre2, hrun'⟩ := run_split h0 hpre
  obtain ⟨r, hrun, hinv, hno⟩ := no_slot_run ops2 hinv2 hpre2 hnp fun v hv hm =>
    Spec.slot_clobbered hc hv ((hsame2 _).mp hm)
  exact ⟨r, hrun' r hrun, hinv, get_of_no_slot hno⟩

/-- **C05-read-unwritten.** A slot that no operation of the history writes exactly (and no shift
or merge) reads as the unknown value. -/
theorem read_unwritten (ops : List (Op V)) (p : Int) (n : Nat)
    (hpre : PreAll (MemRegion.new : Region V) ops) (hnp : ∀ o ∈ ops, ¬ Produces o p n) :
    ∃ r, run (MemRegion.new : Region V) ops = some r ∧ Inv r ∧ get r p n = newTop n := by
  obtain ⟨r, hrun, hinv, hno⟩ := no_slot_run ops inv_nil hpre hnp (fun _ _ h => nomatch h)
  exact ⟨r, hrun, hinv, get_of_no_slot hno⟩

end histories

/-- **C05-merge.** `merge_inner` keeps exactly: the cells that both inputs hold at the same
offset with the same size (values merged), and the cells of either input that share no byte with
any cell of the other input (merged with the unknown value) — each dropped if the merged value
is the unknown value — and nothing else. -/
theorem mergeInner_cells {a b : Region V} (ha : Inv a) (hb : Inv b) (hba : LowerBounded a)
    (hbb : LowerBounded b) (x : Int × V) :
    x ∈ mergeInner a b ↔ isTop x.2 = false ∧
      ((∃ va vb, (x.1, va) ∈ a ∧ (x.1, vb) ∈ b ∧ size va = size vb ∧ x.2 = merge va vb) ∨
       (∃ va, (x.1, va) ∈ a ∧ (∀ d ∈ b, cellsOverlap (x.1, va) d = false) ∧
          x.2 = merge va (newTop (size va))) ∨
       (∃ vb, (x.1, vb) ∈ b ∧ (∀ c ∈ a, cellsOverlap (x.1, vb) c = false) ∧
          x.2 = merge vb (newTop (size vb)))) :=
  mem_mergeInner_keeps ha hb hba hbb

/-- **C05-merge-invariant.** the public `merge` (with its `self == other` short-cut) preserves the
invariant and yields the cells of the reference merge -/
theorem mergeRegions_refines [LawfulValueDomain V] [IdemMerge V] [DecidableEq V] {a b : Region V}
    (ha : Inv a) (hb : Inv b) (hba : LowerBounded a) (hbb : LowerBounded b) :
    Inv (mergeRegions a b) ∧ SameCells (mergeRegions a b) (Spec.merge a b) := by
  obtain ⟨r', hstep, hinv, hsame⟩ := step_refines ha (Op.merge b) ⟨hb, hbb, hba⟩
  simp only [step, Option.some.injEq] at hstep
  subst hstep
  exact ⟨hinv, hsame⟩

/-- **C05-read-after-top-write.** `merge_write_top` on exactly the slot of a stored cell leaves
`merge v top` there (the unknown value if that is unknown, e.g. whenever top is maximal). -/
theorem get_mergeWriteTop_hit [LawfulValueDomain V] {r : Region V} (h : Inv r) {p : Int} {v : V}
    (hm : (p, v) ∈ r) :
    get (mergeWriteTop r p (size v)) p (size v) =
      if isTop (merge v (topOf v)) then newTop (size v) else merge v (topOf v) := by
  have hg : BMap.get r p = some v := BMap.get_of_mem h.sorted hm
  unfold mergeWriteTop
  simp only [hg, if_true]
  unfold storeMerged
  cases ht : isTop (merge v (topOf v))
  · simp only [Bool.false_eq_true, if_false]
    have := get_of_mem (h.sorted.insert p (merge v (topOf v))) ((BMap.mem_insert h.sorted).mpr (.inr rfl))
    rwa [size_merge_topOf] at this
  · simp only [if_true]
    apply get_of_no_slot
    intro w _ hw
    exact (BMap.mem_remove.mp hw).2 rfl

/-! ### non-vacuity: concrete histories meeting the hypotheses -/

/-- `Spec.pre` for an operation that is not a merge, as a test: then `Pre` holds on every region -/
def Op.simple : Op V → Bool
  | .merge _ => false
  | op => Spec.pre op

theorem Pre.of_simple {r : Region V} {op : Op V} (h : op.simple = true) : Pre r op := by
  cases op with
  | merge o => cases h
  | insert _ v => exact of_decide_eq_true (p := 0 < size v) h
  | remove _ n => exact of_decide_eq_true (p := 0 < n) h
  | mergeWriteTop _ n => exact of_decide_eq_true (p := 0 < n) h
  | markInterval s e n => exact of_decide_eq_true (p := s < e + (n : Int)) h
  | markAll | addOffset _ | scrub _ | clearTop => trivial

theorem PreAll.of_simple [DecidableEq V] {ops : List (Op V)} (h : ∀ op ∈ ops, op.simple = true) :
    ∀ {r : Region V}, PreAll r ops := by
  induction ops with
  | nil => intro _; trivial
  | cons op ops ih =>
    have ⟨hop, hops⟩ := List.forall_mem_cons.mp h
    exact fun {_} => ⟨Pre.of_simple hop, fun _ _ => ih hops⟩

def exOps : List (Op BvVal) :=
  [.insert 0 (.val 4 7), .insert 8 (.val 8 1), .insert 2 (.val 4 9), .mergeWriteTop 20 2,
   .addOffset 0, .remove (-4) 5]

example : run ([] : Region BvVal) exOps = some [(2, .val 4 9), (8, .val 8 1)] := by decide
example : Spec.run ([] : Store BvVal) exOps = [(8, .val 8 1), (2, .val 4 9)] := by decide

theorem exOps_pre : PreAll (MemRegion.new : Region BvVal) exOps :=
  PreAll.of_simple (by decide)

example : ∃ r, run (MemRegion.new : Region BvVal) exOps = some r ∧ Inv r ∧
    SameCells r (Spec.run [] exOps) := run_new_refines exOps exOps_pre

/-- `read_after_write` applies: the value written at 8 survives the later operations -/
example : ∃ r, run (MemRegion.new : Region BvVal) exOps = some r ∧ Inv r ∧
    get r 8 8 = BvVal.val 8 1 :=
  read_after_write (V := BvVal) (r0 := MemRegion.new) inv_nil [Op.insert 0 (BvVal.val 4 7)]
    [Op.insert 2 (BvVal.val 4 9), Op.mergeWriteTop 20 2, Op.addOffset 0, Op.remove (-4) 5]
    8 (BvVal.val 8 1) rfl exOps_pre
    (by
      intro op hop
      simp only [List.mem_cons, List.not_mem_nil, or_false] at hop
      rcases hop with rfl | rfl | rfl | rfl <;> simp [Touches, ValueDomain.size, BvVal.size])

/-- `read_after_clobber` applies: the write at 2 destroys the 4-byte cell at 0 -/
example : ∃ r, run (MemRegion.new : Region BvVal) exOps = some r ∧ Inv r ∧
    get r 0 4 = BvVal.top 4 :=
  read_after_clobber (V := BvVal) (r0 := MemRegion.new) inv_nil
    [Op.insert 0 (BvVal.val 4 7), Op.insert 8 (BvVal.val 8 1)]
    [Op.mergeWriteTop 20 2, Op.addOffset 0, Op.remove (-4) 5] (Op.insert 2 (BvVal.val 4 9)) 0 (n := 4)
    (by simp [Clobbers, ValueDomain.size, BvVal.size]) exOps_pre
    (by
      intro op hop
      simp only [List.mem_cons, List.not_mem_nil, or_false] at hop
      rcases hop with rfl | rfl | rfl <;> simp [Produces])

/-- merge over a domain whose top is not maximal: equal slots are merged, cells overlapping a cell
of the other input are dropped, cells overlapping nothing survive -/
example : mergeInner ([(0, .tainted 4), (8, .tainted 4)] : Region TaintVal)
    [(0, .tainted 4), (10, .tainted 2), (20, .tainted 1)] = [(0, .tainted 4), (20, .tainted 1)] := by
  decide

example : Spec.merge ([(0, .tainted 4), (8, .tainted 4)] : Store TaintVal)
    [(0, .tainted 4), (10, .tainted 2), (20, .tainted 1)] = [(0, .tainted 4), (20, .tainted 1)] := by
  decide

/-- over `BitvectorDomain` (top maximal) only equal values in equal slots survive a merge -/
example : mergeInner ([(0, .val 4 1), (8, .val 4 2), (16, .val 2 3)] : Region BvVal)
    [(0, .val 4 1), (8, .val 4 5), (30, .val 4 4)] = [(0, .val 4 1)] := by decide

/-! ### positions representable in i64 -/

omit [ValueDomain V] in
theorem KeysI64.upper {r : Region V} (h : KeysI64 r) : UpperI64 r := fun c hc => (h c hc).2

omit [ValueDomain V] in
theorem KeysI64.lower {r : Region V} (h : KeysI64 r) : LowerBounded r := fun c hc => (h c hc).1

omit [ValueDomain V] in
theorem UpperI64.sublist {r r' : Region V} (h : UpperI64 r) (hs : r'.Sublist r) : UpperI64 r' :=
  fun c hc => h c (hs.subset hc)

/-- `range(interval_bounds(lo, hi))` = `range(lo..hi)` computed without bounds, on a map whose keys
do not exceed `i64::MAX` -/
theorem rangeI64_eq {α : Type} {m : BMap α} (hm : UpperI64 m) {lo hi : Int} (hhi : i64Min ≤ hi) :
    rangeI64 m lo hi = BMap.range m lo hi := by
  unfold rangeI64 BMap.range
  split
  · rfl
  · rename_i hno
    have hgt : i64Max < hi := by omega
    apply List.filter_congr
    intro c hc
    have := hm c hc
    have hlt : c.1 < hi := by omega
    simp [hlt]

theorem clearIntervalI64_eq {r : Region V} (hu : UpperI64 r) {p n : Int} (h : i64Min ≤ p + n) :
    clearIntervalI64 r p n = clearInterval r p n := by
  simp only [clearIntervalI64, clearInterval, rangeI64_eq (hu.sublist (clearPrev_sublist r p)) h]

/-- **C05-clear-overflow (code path).** If `position + size` exceeds `i64::MAX`, the repaired
`clear_interval` clears all cells from `position` upward … -/
theorem clearIntervalI64_overflow (r : Region V) {p n : Int} (h : i64Max < p + n) :
    clearIntervalI64 r p n = clearFrom r p := by
  have : ¬ (i64Min ≤ p + n ∧ p + n ≤ i64Max) := by omega
  simp only [clearIntervalI64, clearFrom, rangeI64, this, if_false]

/-- **C05-clear-overflow.** … and for a region all of whose positions are ≤ `i64::MAX` that is
the same as clearing `[position, position + size)`: -/
theorem clearFrom_eq_clearInterval {r : Region V} (hu : UpperI64 r) {p n : Int} (h : i64Max < p + n) :
    clearFrom r p = clearInterval r p n := by
  rw [← clearIntervalI64_overflow r h, clearIntervalI64_eq hu (by unfold i64Min; unfold i64Max at h; omega)]

/-- reference store: delete every cell that reaches `lo` or lies above it -/
def Spec.deleteFrom (s : Store V) (lo : Int) : Store V := s.filter (fun c => !decide (lo < c.1 + isize c.2))

/-- **C05-clear-overflow (specification).** For a store all of whose cell positions are
≤ `i64::MAX`, deleting `[p, hi)` equals deleting `[p, ∞)` whenever `hi > i64::MAX`. -/
theorem Spec.delete_eq_deleteFrom {s : Store V} (hu : UpperI64 s) {lo hi : Int} (h : i64Max < hi) :
    Spec.delete s lo hi = Spec.deleteFrom s lo := by
  unfold Spec.delete Spec.deleteFrom
  apply List.filter_congr
  intro c hc
  have := hu c hc
  have hlt : c.1 < hi := by omega
  simp [overlaps, hlt]

theorem mem_clearFrom {r : Region V} (h : Inv r) (hu : UpperI64 r) {p : Int} {x : Int × V} :
    x ∈ clearFrom r p ↔ x ∈ Spec.deleteFrom r p := by
  -- any positive size that reaches beyond `i64::MAX` will do
  have hn : i64Max < p + (max 1 (i64Max + 1 - p)) := by omega
  have hpos : 0 < max 1 (i64Max + 1 - p) := by omega
  rw [clearFrom_eq_clearInterval hu hn, mem_clearInterval_spec h hpos, Spec.delete_eq_deleteFrom hu hn]

/-- the position arguments of the operation are i64 values; an offset shift keeps all positions
inside i64 (`index + offset` is the one sum `mem_region.rs` still computes in i64) -/
def OpI64 (r : Region V) : Op V → Prop
  | .insert p _ => I64 p
  | .remove p _ => I64 p
  | .mergeWriteTop p _ => I64 p
  | .markInterval s e _ => I64 s ∧ I64 e
  | .addOffset d => ∀ c ∈ r, I64 (c.1 + d)
  | .merge other => KeysI64 other
  | _ => True

theorem insertAtByteIndexI64_eq {r : Region V} (hu : UpperI64 r) (v : V) {p : Int} (hp : i64Min ≤ p) :
    insertAtByteIndexI64 r v p = insertAtByteIndex r v p := by
  unfold insertAtByteIndexI64 insertAtByteIndex
  dsimp only
  by_cases hpos : isize v > 0
  · rw [clearIntervalI64_eq hu (Int.le_trans hp (Int.le_add_of_nonneg_right (Int.le_of_lt hpos)))]
  · rw [if_neg hpos, if_neg hpos]

theorem removeI64_eq {r : Region V} (hu : UpperI64 r) {p : Int} (n : Int) (hp : i64Min ≤ p) :
    removeI64 r p n = MemRegion.remove r p n := by
  unfold removeI64 MemRegion.remove
  by_cases hpos : n > 0
  · rw [clearIntervalI64_eq hu (Int.le_trans hp (Int.le_add_of_nonneg_right (Int.le_of_lt hpos)))]
  · rw [if_neg hpos, if_neg hpos]

theorem mergeWriteTopI64_eq {r : Region V} (hu : UpperI64 r) {p : Int} (n : Nat) (hp : i64Min ≤ p) :
    mergeWriteTopI64 r p n = mergeWriteTop r p n := by
  unfold mergeWriteTopI64 mergeWriteTop
  rw [clearIntervalI64_eq hu (Int.le_trans hp (Int.le_add_of_nonneg_right (Int.natCast_nonneg n)))]
  rfl

theorem markIntervalValuesAsTopI64_eq {r : Region V} (h : Inv r) (hu : UpperI64 r) {s e : Int}
    (n : Nat) (hs : s ≤ i64Max) (he : i64Min ≤ e) :
    markIntervalValuesAsTopI64 r s e n = markIntervalValuesAsTop r s e n := by
  have hlo : i64Min ≤ e + (n : Int) :=
    Int.le_trans he (Int.le_add_of_nonneg_right (Int.natCast_nonneg n))
  unfold markIntervalValuesAsTopI64 markIntervalValuesAsTop mergeValuesIntersectingRangeWithTopI64
    mergeValuesIntersectingRangeWithTop
  dsimp only
  have hup : UpperI64 (mergePrevWithTop r s) := fun x hx => by
    rcases mem_weakenIf.mp ((mem_mergePrevWithTop h).mp hx) with ⟨hx, _⟩ | ⟨c, hc, _, hw⟩
    · exact hu x hx
    · obtain ⟨_, rfl⟩ := weaken_eq_some.mp hw
      exact hu c hc
  rw [rangeI64_eq hup hlo]
  by_cases hlt : e + (n : Int) < s
  · rw [if_pos ⟨⟨hlo, Int.le_trans (Int.le_of_lt hlt) hs⟩, hlt⟩, if_pos hlt]
  · rw [if_neg fun hh => hlt hh.2, if_neg hlt]

/-- **C05-i64.** On a region with positions ≤ `i64::MAX` and for i64 position arguments the
repaired code (`stepI64`: interval ends in i128, unbounded range above `i64::MAX`) is the `Int`
model `step` — including the panics. -/
theorem stepI64_eq_step [DecidableEq V] {r : Region V} (h : Inv r) (hu : UpperI64 r) {op : Op V}
    (hop : OpI64 r op) : stepI64 r op = step r op := by
  cases op with
  | insert p v => exact insertAtByteIndexI64_eq hu v (hop : I64 p).1
  | remove p n => exact removeI64_eq hu n (hop : I64 p).1
  | mergeWriteTop p n => exact congrArg some (mergeWriteTopI64_eq hu n (hop : I64 p).1)
  | markInterval s e n =>
    exact markIntervalValuesAsTopI64_eq h hu n (hop : I64 s ∧ I64 e).1.2 (hop : I64 s ∧ I64 e).2.1
  | markAll | addOffset _ | scrub _ | clearTop | merge _ => rfl

theorem keysI64_step [LawfulValueDomain V] [IdemMerge V] [DecidableEq V] {r r' : Region V} (h : Inv r)
    {op : Op V} (hpre : Pre r op) (hk : KeysI64 r) (hop : OpI64 r op) (hs : step r op = some r') :
    KeysI64 r' := by
  obtain ⟨r'', hs', _, hsame⟩ := step_refines h op hpre
  rw [hs] at hs'
  obtain rfl : r' = r'' := by simpa using hs'
  intro x hx
  have hx := (hsame x).mp hx
  cases op with
  | insert p v =>
    rcases Spec.mem_write.mp hx with ⟨hx, _⟩ | ⟨_, rfl⟩
    · exact hk x hx
    · exact hop
  | remove p n => exact hk x (Spec.mem_delete.mp hx).1
  | mergeWriteTop p n =>
    obtain ⟨_, c, hc, hkc, _⟩ := Spec.writeTop_source h.noTop hx
    rw [← hkc]; exact hk c hc
  | markInterval s e n =>
    obtain ⟨_, c, hc, hkc, _⟩ := Spec.weakenIf_source h.noTop hx
    rw [← hkc]; exact hk c hc
  | markAll =>
    obtain ⟨c, hc, hw⟩ := List.mem_filterMap.mp hx
    rw [← (weaken_source hw).2.1]; exact hk c hc
  | addOffset d =>
    obtain ⟨c, hc, rfl⟩ := List.mem_map.mp hx
    exact hop c hc
  | scrub p => exact hk x (List.mem_filter.mp hx).1
  | clearTop => exact hk x hx
  | merge other =>
    obtain ⟨_, ⟨va, _, hca, _⟩ | ⟨va, hca, _⟩ | ⟨vb, hcb, _⟩⟩ := (Spec.mem_merge h hpre.1 x).mp hx
    · exact hk (x.1, va) hca
    · exact hk (x.1, va) hca
    · exact hop (x.1, vb) hcb

def OpI64All [DecidableEq V] (r : Region V) : List (Op V) → Prop
  | [] => True
  | op :: ops => OpI64 r op ∧ ∀ r', step r op = some r' → OpI64All r' ops

/-- **C05-refinement (repaired code, i64 positions).** For EVERY history whose position arguments
are i64 values (and whose offset shifts stay inside i64) and that meets the preconditions —
nothing is assumed about `position + size`: positions AT `i64::MAX` are included — the repaired
code does not panic, agrees with the `Int` model, keeps the invariant and all positions inside
i64, and holds exactly the cells of the reference cell store. -/
theorem runI64_refines [LawfulValueDomain V] [IdemMerge V] [DecidableEq V] (ops : List (Op V)) :
    ∀ {r : Region V} {s : Store V}, Inv r → KeysI64 r → SameCells r s → PreAll r ops → OpI64All r ops →
      ∃ r', runI64 r ops = some r' ∧ run r ops = some r' ∧ Inv r' ∧ KeysI64 r' ∧
        SameCells r' (Spec.run s ops) := by
  induction ops with
  | nil => intro r s h hk hs _ _; exact ⟨r, rfl, rfl, h, hk, hs⟩
  | cons op ops ih =>
    intro r s h hk hs hpre hop
    obtain ⟨r1, hstep, hinv1, hsame1⟩ := step_refines h op hpre.1
    have hk1 := keysI64_step h hpre.1 hk hop.1 hstep
    obtain ⟨r', hrunI, hrun, hinv', hk', hsame'⟩ :=
      ih hinv1 hk1 (hsame1.trans (Spec.step_congr hs op)) (hpre.2 r1 hstep) (hop.2 r1 hstep)
    refine ⟨r', ?_, (run_cons hstep ops).trans hrun, hinv', hk', hsame'⟩
    rw [runI64, stepI64_eq_step h hk.upper hop.1, hstep]
    exact hrunI

/-- `OpI64` for an operation that is neither a shift nor a merge, as a test: it does not depend
on the region -/
def Op.argsI64 : Op V → Bool
  | .insert p _ | .remove p _ | .mergeWriteTop p _ => decide (I64 p)
  | .markInterval s e _ => decide (I64 s ∧ I64 e)
  | .addOffset _ | .merge _ => false
  | .markAll | .scrub _ | .clearTop => true

omit [ValueDomain V] in
theorem OpI64.of_args {r : Region V} {op : Op V} (h : op.argsI64 = true) : OpI64 r op := by
  cases op with
  | addOffset _ | merge _ => cases h
  | insert p _ | remove p _ | mergeWriteTop p _ => exact of_decide_eq_true (p := I64 p) h
  | markInterval s e _ => exact of_decide_eq_true (p := I64 s ∧ I64 e) h
  | markAll | scrub _ | clearTop => trivial

theorem OpI64All.of_static [DecidableEq V] {ops : List (Op V)} (h : ∀ op ∈ ops, op.argsI64 = true) :
    ∀ {r : Region V}, OpI64All r ops := by
  induction ops with
  | nil => intro _; trivial
  | cons op ops ih =>
    have ⟨hop, hops⟩ := List.forall_mem_cons.mp h
    exact fun {_} => ⟨OpI64.of_args hop, fun _ _ => ih hops⟩

/-- a history AT `i64::MAX`: all interval ends but the first (`= i64::MAX`) and the last exceed
`i64::MAX` -/
def exEdgeOps : List (Op BvVal) :=
  [.insert (i64Max - 8) (.val 8 5), .insert i64Max (.val 8 1), .insert (i64Max - 2) (.val 4 9),
   .mergeWriteTop (i64Max - 1) 8, .insert i64Max (.val 1 2), .markInterval (i64Max - 20) i64Max 4,
   .insert (i64Max - 3) (.val 8 7), .remove (i64Max - 4) 1]

example : runI64 ([] : Region BvVal) exEdgeOps = some [(i64Max - 3, .val 8 7)] := by decide
example : Spec.run ([] : Store BvVal) exEdgeOps = [(i64Max - 3, .val 8 7)] := by decide

theorem exEdgeOps_pre : PreAll (MemRegion.new : Region BvVal) exEdgeOps :=
  PreAll.of_simple (by decide)

theorem exEdgeOps_i64 : OpI64All (MemRegion.new : Region BvVal) exEdgeOps :=
  OpI64All.of_static (by decide)

example : ∃ r, runI64 (MemRegion.new : Region BvVal) exEdgeOps = some r ∧
    run (MemRegion.new : Region BvVal) exEdgeOps = some r ∧ Inv r ∧ KeysI64 r ∧
    SameCells r (Spec.run [] exEdgeOps) :=
  runI64_refines exEdgeOps inv_nil (fun _ h => nomatch h) (SameCells.refl _) exEdgeOps_pre exEdgeOps_i64

end CweModel.C05
