/-
C05 — `merge_inner`: the loop over the zipped map with the running `merged_range_end` keeps
exactly the cells the reference store's declarative `Spec.merge` keeps, and preserves the
invariant.

Both sides are compared with `MergeKeeps`, the statement of the property about merges: the loop
keeps the entries of the zipped map that no other entry overlaps (`Iso`), which for cells means
`MergeKeeps`; the `find?`/`any` code of `Spec.merge` computes `MergeKeeps` as well.
-/
import CweModel.C05.Ops

namespace CweModel.C05
open CweModel.MemRegion

variable {V : Type} [ValueDomain V]

theorem cellsOverlap_iff {c d : Int × V} :
    cellsOverlap c d = true ↔ c.1 < d.1 + isize d.2 ∧ d.1 < c.1 + isize c.2 := by
  simp [cellsOverlap, overlaps]

theorem sameSlot_iff {c d : Int × V} : sameSlot c d = true ↔ c.1 = d.1 ∧ size c.2 = size d.2 := by
  simp [sameSlot]

theorem key_ne_of_noOverlap {c d : Int × V} (hc : 0 < size c.2) (hd : 0 < size d.2)
    (h : cellsOverlap c d = false) : c.1 ≠ d.1 := by
  rw [← Bool.not_eq_true, cellsOverlap_iff] at h
  simp only [isize] at h
  omega

/-- the merge of `a` and `b` keeps the cell `x`; `Spec.mem_merge` and `mergeInner_cells`
(Props.lean) spell this out -/
def MergeKeeps (a b : Store V) (x : Int × V) : Prop :=
  isTop x.2 = false ∧
    ((∃ va vb, (x.1, va) ∈ a ∧ (x.1, vb) ∈ b ∧ size va = size vb ∧ x.2 = merge va vb) ∨
     (∃ va, (x.1, va) ∈ a ∧ (∀ d ∈ b, cellsOverlap (x.1, va) d = false) ∧
        x.2 = merge va (newTop (size va))) ∨
     (∃ vb, (x.1, vb) ∈ b ∧ (∀ c ∈ a, cellsOverlap (x.1, vb) c = false) ∧
        x.2 = merge vb (newTop (size vb))))

theorem Spec.mem_merge_iff {a b : Store V} (hpa : PosSizes a) (hpb : PosSizes b)
    (hu : ∀ d ∈ b, ∀ d' ∈ b, d.1 = d'.1 → d = d') (x : Int × V) :
    x ∈ Spec.merge a b ↔ MergeKeeps a b x := by
  have hfind : ∀ c d, b.find? (sameSlot c) = some d ↔ d ∈ b ∧ sameSlot c d = true := fun c d =>
    List.find?_eq_some_iff_unique fun y hy y' hy' h h' =>
      hu y hy y' hy' ((sameSlot_iff.mp h).1.symm.trans (sameSlot_iff.mp h').1)
  have hslot : ∀ {s t : Store V} {c : Int × V}, PosSizes s → PosSizes t → c ∈ s →
      (∀ d ∈ t, cellsOverlap c d = false) → ∀ d ∈ t, ¬ sameSlot c d = true :=
    fun hs ht hc hno d hd hsl =>
      key_ne_of_noOverlap (hs _ hc) (ht d hd) (hno d hd) (sameSlot_iff.mp hsl).1
  obtain ⟨k, xv⟩ := x
  unfold Spec.merge MergeKeeps
  rw [List.mem_append, List.mem_filterMap, List.mem_filterMap]
  constructor
  · rintro (⟨c, hc, hF⟩ | ⟨d, hd, hG⟩)
    · cases hf : b.find? (sameSlot c) with
      | some d =>
        rw [hf] at hF
        obtain ⟨ht, hx⟩ := keepNonTop_eq_some.mp hF
        obtain ⟨hd, hs⟩ := (hfind c d).mp hf
        obtain ⟨hk, hsz⟩ := sameSlot_iff.mp hs
        cases hx
        exact ⟨ht, .inl ⟨c.2, d.2, hc, by rw [hk]; exact hd, hsz, rfl⟩⟩
      | none =>
        rw [hf] at hF
        by_cases hany : b.any (cellsOverlap c) = true
        · rw [if_pos hany] at hF; cases hF
        · rw [if_neg hany] at hF
          obtain ⟨ht, hx⟩ := keepNonTop_eq_some.mp hF
          cases hx
          exact ⟨ht, .inr (.inl ⟨c.2, hc, List.not_any_iff.mp hany, rfl⟩)⟩
    · by_cases hs : a.any (sameSlot d) = true
      · rw [if_pos hs] at hG; cases hG
      · by_cases hany : a.any (cellsOverlap d) = true
        · rw [if_neg hs, if_pos hany] at hG; cases hG
        · rw [if_neg hs, if_neg hany] at hG
          obtain ⟨ht, hx⟩ := keepNonTop_eq_some.mp hG
          cases hx
          exact ⟨ht, .inr (.inr ⟨d.2, hd, List.not_any_iff.mp hany, rfl⟩)⟩
  · rintro ⟨ht, ⟨va, vb, hca, hcb, hsz, rfl⟩ | ⟨va, hca, hno, rfl⟩ | ⟨vb, hcb, hno, rfl⟩⟩
    · refine .inl ⟨(k, va), hca, ?_⟩
      rw [(hfind (k, va) (k, vb)).mpr ⟨hcb, sameSlot_iff.mpr ⟨rfl, hsz⟩⟩]
      exact keepNonTop_eq_some.mpr ⟨ht, rfl⟩
    · refine .inl ⟨(k, va), hca, ?_⟩
      rw [List.find?_eq_none.mpr (hslot hpa hpb hca hno)]
      dsimp only
      rw [if_neg (List.not_any_iff.mpr hno)]
      exact keepNonTop_eq_some.mpr ⟨ht, rfl⟩
    · refine .inr ⟨(k, vb), hcb, ?_⟩
      rw [if_neg fun hs => (List.any_eq_true.mp hs).elim fun c hc => hslot hpb hpa hcb hno c hc.1 hc.2,
        if_neg (List.not_any_iff.mpr hno)]
      exact keepNonTop_eq_some.mpr ⟨ht, rfl⟩

/-- an entry of the `zipped` map of `merge_inner` -/
abbrev ZEntry (V : Type) := Int × (Option V × Option V)

def rangeEnd (e : ZEntry V) : Int := computeRangeEnd e.1 e.2.1 e.2.2

def outVal (e : ZEntry V) : Option V := mergeOrMergeWithTop e.2.1 e.2.2

omit [ValueDomain V] in
theorem zip_spec {a b : Region V} (ha : BMap.Sorted a) (hb : BMap.Sorted b) :
    BMap.Sorted (zipRegions a b) ∧
    ∀ e, e ∈ zipRegions a b ↔ e.2 = (BMap.get a e.1, BMap.get b e.1) ∧ e.2 ≠ (none, none) := by
  obtain ⟨hs1, hm1⟩ := BMap.foldl_insert (fun c : Int × V => c.1)
    (fun c => ((some c.2, BMap.get b c.1) : Option V × Option V)) (m := []) List.Pairwise.nil
    (ha.imp Int.ne_of_lt)
  -- the second loop inserts the entries of `b` whose key is not in `a`
  obtain ⟨hs2, hm2⟩ := BMap.foldl_insert (l := b.filter (fun c => !BMap.containsKey a c.1))
    (fun c : Int × V => c.1) (fun c => ((none, some c.2) : Option V × Option V)) hs1
    ((hb.sublist List.filter_sublist).imp Int.ne_of_lt)
  unfold zipRegions
  rw [← List.foldl_filter]
  refine ⟨hs2, fun e => ?_⟩
  rw [hm2 e, hm1 e]
  constructor
  · rintro (⟨⟨h, _⟩ | ⟨c, hc, rfl⟩, _⟩ | ⟨d, hd, rfl⟩)
    · cases h
    · exact ⟨by rw [BMap.get_of_mem ha hc], nofun⟩
    · obtain ⟨hd, hk⟩ := List.mem_filter.mp hd
      exact ⟨by rw [BMap.not_containsKey.mp hk, BMap.get_of_mem hb hd], nofun⟩
  · obtain ⟨k, l, r⟩ := e
    rintro ⟨hlr, hne⟩
    dsimp only at hlr hne
    obtain ⟨rfl, rfl⟩ := Prod.mk.inj hlr
    cases hga : BMap.get a k with
    | some va =>
      refine .inl ⟨.inr ⟨(k, va), BMap.mem_of_get hga, rfl⟩, fun d hd hk => ?_⟩
      have := BMap.not_containsKey.mp (List.mem_filter.mp hd).2
      rw [show d.1 = k from hk, hga] at this
      cases this
    | none =>
      cases hgb : BMap.get b k with
      | none => rw [hga, hgb] at hne; exact absurd rfl hne
      | some vb =>
        exact .inr ⟨(k, vb), List.mem_filter.mpr ⟨BMap.mem_of_get hgb, BMap.not_containsKey.mpr hga⟩, rfl⟩

omit [ValueDomain V] in
theorem mem_of_mem_zip {a b : Region V} (ha : BMap.Sorted a) (hb : BMap.Sorted b) {e : ZEntry V}
    (he : e ∈ zipRegions a b) (v : V) :
    (e.2.1 = some v → (e.1, v) ∈ a) ∧ (e.2.2 = some v → (e.1, v) ∈ b) := by
  rw [(((zip_spec ha hb).2 e).mp he).1]
  exact ⟨BMap.mem_of_get, BMap.mem_of_get⟩

/-- `merged_values.insert(index, merged)` if `merge_or_merge_with_top` returned a value -/
def pushOut (acc : Region V) (k : Int) : Option V → Region V
  | some m => BMap.insert acc k m
  | none => acc

omit [ValueDomain V] in
theorem mem_pushOut {acc : Region V} (hs : BMap.Sorted acc) {k : Int} (hk : ∀ y ∈ acc, y.1 ≠ k)
    {o : Option V} {x : Int × V} :
    x ∈ pushOut acc k o ↔ x ∈ acc ∨ (o = some x.2 ∧ x.1 = k) := by
  cases o with
  | none => exact (or_iff_left nofun).symm
  | some m =>
    rw [pushOut, BMap.mem_insert hs]
    exact or_congr ⟨And.left, fun hx => ⟨hx, hk x hx⟩⟩
      ⟨fun hx => hx ▸ ⟨rfl, rfl⟩, fun ⟨hm, hk⟩ => Prod.ext hk (Option.some.inj hm).symm⟩

def After (Z : BMap (Option V × Option V)) (e : ZEntry V) : Prop :=
  ∀ e' ∈ Z, e.1 < e'.1 → rangeEnd e ≤ e'.1

/-- one iteration keeps the entry iff it starts at or after the running range end and no later
entry starts inside its range (it is enough to look at the next one) -/
theorem mergeStep_eq {Z : BMap (Option V × Option V)} (hs : BMap.Sorted Z) (mre : Int)
    (e : ZEntry V) (acc : Region V) :
    (mergeStep Z mre e acc = pushOut acc e.1 (outVal e) ∧ (mre ≤ e.1 ∧ After Z e)) ∨
    (mergeStep Z mre e acc = acc ∧ ¬ (mre ≤ e.1 ∧ After Z e)) := by
  unfold mergeStep
  dsimp only
  by_cases h1 : e.1 ≥ mre
  · rw [if_pos h1]
    cases hf : BMap.firstFrom Z (e.1 + 1) with
    | none =>
      exact .inl ⟨rfl, h1, fun e' he' hlt => absurd hlt (BMap.firstFrom_eq_none hf e' he')⟩
    | some f =>
      obtain ⟨hfZ, hflo, hmin⟩ := BMap.firstFrom_eq_some hs hf
      dsimp only
      by_cases h2 : f.1 ≥ computeRangeEnd e.1 e.2.1 e.2.2
      · rw [if_pos h2]
        exact .inl ⟨rfl, h1, fun e' he' hlt => Int.le_trans h2 (hmin e' he' hlt)⟩
      · rw [if_neg h2]
        exact .inr ⟨rfl, fun hh => h2 (hh.2 f hfZ hflo)⟩
  · rw [if_neg h1]
    exact .inr ⟨rfl, fun hh => h1 hh.1⟩

theorem mem_mergeStep {Z : BMap (Option V × Option V)} (hZ : BMap.Sorted Z) {mre : Int}
    {e : ZEntry V} {acc : Region V} (hacc : BMap.Sorted acc) (hk : ∀ y ∈ acc, y.1 ≠ e.1)
    {x : Int × V} :
    x ∈ mergeStep Z mre e acc ↔
      x ∈ acc ∨ ((mre ≤ e.1 ∧ After Z e) ∧ outVal e = some x.2 ∧ x.1 = e.1) := by
  rcases mergeStep_eq hZ mre e acc with ⟨h, hc⟩ | ⟨h, hc⟩ <;> rw [h]
  · rw [mem_pushOut hacc hk]
    exact or_congr_right (and_iff_right hc).symm
  · exact (or_iff_left fun hh => hc hh.1).symm

theorem sorted_mergeStep {Z : BMap (Option V × Option V)} (hZ : BMap.Sorted Z) (mre : Int)
    (e : ZEntry V) {acc : Region V} (hacc : BMap.Sorted acc) :
    BMap.Sorted (mergeStep Z mre e acc) := by
  rcases mergeStep_eq hZ mre e acc with ⟨h, _⟩ | ⟨h, _⟩ <;> rw [h]
  · cases outVal e with
    | none => exact hacc
    | some m => exact hacc.insert e.1 m
  · exact hacc

theorem sorted_mergeLoop {Z : BMap (Option V × Option V)} (hZ : BMap.Sorted Z)
    (todo : List (ZEntry V)) (mre : Int) {acc : Region V} (hacc : BMap.Sorted acc) :
    BMap.Sorted (mergeLoop Z todo mre acc) := by
  induction todo generalizing mre acc with
  | nil => exact hacc
  | cons e todo ih => exact ih _ (sorted_mergeStep hZ mre e hacc)

/-- the loop over the entries `todo`, entered with the running range end `mre`, keeps entry `e`
(`mem_mergeLoop`) -/
def Kept (Z : BMap (Option V × Option V)) (todo : List (ZEntry V)) (mre : Int) (e : ZEntry V) : Prop :=
  (mre ≤ e.1 ∧ ∀ d ∈ todo, d.1 < e.1 → rangeEnd d ≤ e.1) ∧ After Z e

theorem mem_mergeLoop {Z : BMap (Option V × Option V)} (hZ : BMap.Sorted Z) {x : Int × V}
    (todo : List (ZEntry V)) (mre : Int) (acc : Region V) (htodo : BMap.Sorted todo)
    (hacc : BMap.Sorted acc) (hkeys : ∀ y ∈ acc, ∀ e ∈ todo, y.1 ≠ e.1) :
    x ∈ mergeLoop Z todo mre acc ↔
      x ∈ acc ∨ ∃ e ∈ todo, Kept Z todo mre e ∧ outVal e = some x.2 ∧ x.1 = e.1 := by
  induction todo generalizing mre acc with
  | nil => exact (or_iff_left fun ⟨_, h, _⟩ => nomatch h).symm
  | cons e rest ih =>
    have hgt : ∀ r ∈ rest, e.1 < r.1 := htodo.head_lt
    have hstep : ∀ {y}, y ∈ mergeStep Z mre e acc ↔ _ :=
      mem_mergeStep hZ hacc fun y hy => hkeys y hy e List.mem_cons_self
    have hkeys' : ∀ y ∈ mergeStep Z mre e acc, ∀ r ∈ rest, y.1 ≠ r.1 := by
      intro y hy r hr
      rcases hstep.mp hy with hy | ⟨_, _, hk⟩
      · exact hkeys y hy r (List.mem_cons_of_mem _ hr)
      · rw [hk]; exact Int.ne_of_lt (hgt r hr)
    -- nothing in `e :: rest` starts before `e`; the entries of `rest` start after `e`
    have hhead : (mre ≤ e.1 ∧ ∀ d ∈ e :: rest, d.1 < e.1 → rangeEnd d ≤ e.1) ↔ mre ≤ e.1 :=
      and_iff_left fun d hd hlt => by
        rcases List.mem_cons.mp hd with rfl | hd
        · exact absurd hlt (Int.lt_irrefl _)
        · exact absurd hlt (Int.lt_asymm (hgt d hd))
    have htail : ∀ e' ∈ rest,
        ((max mre (rangeEnd e) ≤ e'.1 ∧ ∀ d ∈ rest, d.1 < e'.1 → rangeEnd d ≤ e'.1) ↔
          (mre ≤ e'.1 ∧ ∀ d ∈ e :: rest, d.1 < e'.1 → rangeEnd d ≤ e'.1)) := fun e' he' => by
      rw [Int.max_le, List.forall_mem_cons, imp_iff_right (hgt e' he'), and_assoc]
    rw [mergeLoop, ih _ _ htodo.tail (sorted_mergeStep hZ mre e hacc) hkeys', hstep]
    constructor
    · rintro ((hx | ⟨hc, ho⟩) | ⟨e', he', ⟨hc, ha⟩, ho⟩)
      · exact .inl hx
      · exact .inr ⟨e, List.mem_cons_self, ⟨hhead.mpr hc.1, hc.2⟩, ho⟩
      · exact .inr ⟨e', List.mem_cons_of_mem _ he', ⟨(htail e' he').mp hc, ha⟩, ho⟩
    · rintro (hx | ⟨e', he', ⟨hc, ha⟩, ho⟩)
      · exact .inl (.inl hx)
      · rcases List.mem_cons.mp he' with rfl | he'
        · exact .inl (.inr ⟨⟨hhead.mp hc, ha⟩, ho⟩)
        · exact .inr ⟨e', he', ⟨(htail e' he').mpr hc, ha⟩, ho⟩

/-- entry `e` of the zipped map `Z` overlaps no other entry (and `i64::MIN ≤ index`) -/
abbrev Iso (Z : BMap (Option V × Option V)) (e : ZEntry V) : Prop := Kept Z Z i64Min e

theorem mergeInner_spec {a b : Region V} (ha : BMap.Sorted a) (hb : BMap.Sorted b) :
    BMap.Sorted (mergeInner a b) ∧
    ∀ x, x ∈ mergeInner a b ↔
      ∃ e ∈ zipRegions a b, Iso (zipRegions a b) e ∧ outVal e = some x.2 ∧ x.1 = e.1 := by
  have hZ := (zip_spec ha hb).1
  refine ⟨sorted_mergeLoop hZ _ _ List.Pairwise.nil, fun x => ?_⟩
  rw [mergeInner, mem_mergeLoop hZ _ _ _ hZ List.Pairwise.nil nofun]
  exact or_iff_right nofun

theorem le_rangeEnd {e : ZEntry V} {v : V} (hv : e.2.1 = some v ∨ e.2.2 = some v) :
    e.1 + isize v ≤ rangeEnd e := by
  obtain ⟨k, l, r⟩ := e
  rcases hv with hv | hv <;> cases hv
  · cases r
    · exact Int.le_refl _
    · exact Int.add_le_add_left (Int.le_max_left _ _) k
  · cases l
    · exact Int.le_refl _
    · exact Int.add_le_add_left (Int.le_max_right _ _) k

theorem rangeEnd_eq {e : ZEntry V} (he : e.2 ≠ (none, none)) :
    ∃ v, (e.2.1 = some v ∨ e.2.2 = some v) ∧ rangeEnd e = e.1 + isize v := by
  obtain ⟨k, l | l, r | r⟩ := e
  · exact absurd rfl he
  · exact ⟨r, .inr rfl, rfl⟩
  · exact ⟨l, .inl rfl, rfl⟩
  · rcases Int.le_total (isize l) (isize r) with h | h
    · exact ⟨r, .inr rfl, congrArg (k + ·) (Int.max_eq_right h)⟩
    · exact ⟨l, .inl rfl, congrArg (k + ·) (Int.max_eq_left h)⟩

/-- no cell of `s` that does not start at `k` shares a byte with `[k, E)` -/
def Clear (s : Store V) (k E : Int) : Prop :=
  ∀ y ∈ s, (y.1 < k → y.1 + isize y.2 ≤ k) ∧ (k < y.1 → E ≤ y.1)

theorem iso_iff {a b : Region V} (ha : BMap.Sorted a) (hb : BMap.Sorted b) (e : ZEntry V) :
    Iso (zipRegions a b) e ↔ i64Min ≤ e.1 ∧ Clear a e.1 (rangeEnd e) ∧ Clear b e.1 (rangeEnd e) := by
  obtain ⟨_, hm⟩ := zip_spec ha hb
  constructor
  · rintro ⟨⟨hmin, hbef⟩, haft⟩
    have hA : ∀ y ∈ a, (y.1, some y.2, BMap.get b y.1) ∈ zipRegions a b := fun y hy =>
      (hm _).mpr ⟨by rw [BMap.get_of_mem ha hy], nofun⟩
    have hB : ∀ y ∈ b, (y.1, BMap.get a y.1, some y.2) ∈ zipRegions a b := fun y hy =>
      (hm _).mpr ⟨by rw [BMap.get_of_mem hb hy], fun h => nomatch (Prod.mk.inj h).2⟩
    refine ⟨hmin, fun y hy => ⟨fun hlt => ?_, haft _ (hA y hy)⟩,
      fun y hy => ⟨fun hlt => ?_, haft _ (hB y hy)⟩⟩
    · exact Int.le_trans (le_rangeEnd (e := (y.1, some y.2, BMap.get b y.1)) (.inl rfl))
        (hbef _ (hA y hy) hlt)
    · exact Int.le_trans (le_rangeEnd (e := (y.1, BMap.get a y.1, some y.2)) (.inr rfl))
        (hbef _ (hB y hy) hlt)
  · rintro ⟨hmin, hA, hB⟩
    have hcell : ∀ d ∈ zipRegions a b, ∃ y, (y ∈ a ∨ y ∈ b) ∧ y.1 = d.1 ∧
        rangeEnd d = y.1 + isize y.2 := fun d hd => by
      obtain ⟨v, hv, hE⟩ := rangeEnd_eq ((hm d).mp hd).2
      exact ⟨(d.1, v), hv.imp (mem_of_mem_zip ha hb hd v).1 (mem_of_mem_zip ha hb hd v).2, rfl, hE⟩
    refine ⟨⟨hmin, fun d hd hlt => ?_⟩, fun d hd hlt => ?_⟩ <;>
      obtain ⟨y, hy, hk, hE⟩ := hcell d hd <;> rw [← hk] at hlt
    · rw [hE]
      exact hy.elim (fun hy => (hA y hy).1 hlt) (fun hy => (hB y hy).1 hlt)
    · rw [← hk]
      exact hy.elim (fun hy => (hA y hy).2 hlt) (fun hy => (hB y hy).2 hlt)

theorem clear_self {r : Region V} (h : Inv r) {k : Int} {v : V} (hc : (k, v) ∈ r) :
    Clear r k (k + isize v) :=
  fun _ hy => ⟨h.lt_disjoint (y := (k, v)) hy hc, h.lt_disjoint (x := (k, v)) hc hy⟩

theorem clear_iff_noOverlap {s : Store V} (hs : PosSizes s) {k : Int} {v : V} (hk : ∀ d ∈ s, d.1 ≠ k) :
    Clear s k (k + isize v) ↔ ∀ d ∈ s, cellsOverlap (k, v) d = false := by
  refine forall_congr' fun d => forall_congr' fun hd => ?_
  have := hk d hd
  have := hs d hd
  rw [← Bool.not_eq_true, cellsOverlap_iff]
  simp only [isize]
  constructor <;> intro h <;> omega

theorem mergeOrMergeWithTop_both {l r m : V} :
    mergeOrMergeWithTop (some l) (some r) = some m ↔
      size l = size r ∧ isTop (merge l r) = false ∧ m = merge l r := by
  unfold mergeOrMergeWithTop
  by_cases hsz : size l = size r <;> cases ht : isTop (merge l r) <;> simp [hsz, ht, eq_comm]

theorem mergeOrMergeWithTop_left {e m : V} :
    mergeOrMergeWithTop (some e) none = some m ↔
      isTop (merge e (newTop (size e))) = false ∧ m = merge e (newTop (size e)) := by
  unfold mergeOrMergeWithTop
  cases ht : isTop (merge e (newTop (size e))) <;> simp [ht, eq_comm]

theorem mergeOrMergeWithTop_right {e m : V} :
    mergeOrMergeWithTop none (some e) = some m ↔
      isTop (merge e (newTop (size e))) = false ∧ m = merge e (newTop (size e)) := by
  unfold mergeOrMergeWithTop
  cases ht : isTop (merge e (newTop (size e))) <;> simp [ht, eq_comm]

theorem outVal_eq_some [LawfulValueDomain V] {e : ZEntry V} {m : V} (h : outVal e = some m) :
    isTop m = false ∧ ∃ v, (e.2.1 = some v ∨ e.2.2 = some v) ∧ size m = size v := by
  obtain ⟨k, l | l, r | r⟩ := e
  · cases h
  · obtain ⟨ht, rfl⟩ := mergeOrMergeWithTop_right.mp h
    exact ⟨ht, r, .inr rfl, size_merge_newTop r⟩
  · obtain ⟨ht, rfl⟩ := mergeOrMergeWithTop_left.mp h
    exact ⟨ht, l, .inl rfl, size_merge_newTop l⟩
  · obtain ⟨hsz, ht, rfl⟩ := mergeOrMergeWithTop_both.mp h
    exact ⟨ht, l, .inl rfl, LawfulValueDomain.size_merge _ _ hsz⟩

theorem iso_entry_iff {a b : Region V} (ha : Inv a) (hb : Inv b) (hba : LowerBounded a)
    (hbb : LowerBounded b) (x : Int × V) :
    (∃ e ∈ zipRegions a b, Iso (zipRegions a b) e ∧ outVal e = some x.2 ∧ x.1 = e.1) ↔
      MergeKeeps a b x := by
  obtain ⟨_, hm⟩ := zip_spec ha.sorted hb.sorted
  have hiso := iso_iff ha.sorted hb.sorted
  have hkey : ∀ {s t : Region V} {c : Int × V}, Inv s → Inv t → c ∈ s →
      (∀ d ∈ t, cellsOverlap c d = false) → ∀ d ∈ t, d.1 ≠ c.1 :=
    fun hs ht hc hno d hd => (key_ne_of_noOverlap (hs.posSizes _ hc) (ht.posSizes d hd) (hno d hd)).symm
  obtain ⟨k, xv⟩ := x
  constructor
  · rintro ⟨⟨_, l, r⟩, he, hi, ho, rfl⟩
    obtain ⟨hlr, hne⟩ := (hm _).mp he
    obtain ⟨hl, hr⟩ := Prod.mk.inj hlr
    obtain ⟨_, hA, hB⟩ := (hiso _).mp hi
    cases l <;> cases r
    · exact absurd rfl hne
    · obtain ⟨ht, rfl⟩ := mergeOrMergeWithTop_right.mp ho
      have hcb := BMap.mem_of_get hr.symm
      exact ⟨ht, .inr (.inr ⟨_, hcb, (clear_iff_noOverlap ha.posSizes (BMap.get_eq_none.mp hl.symm)).mp hA, rfl⟩)⟩
    · obtain ⟨ht, rfl⟩ := mergeOrMergeWithTop_left.mp ho
      have hca := BMap.mem_of_get hl.symm
      exact ⟨ht, .inr (.inl ⟨_, hca, (clear_iff_noOverlap hb.posSizes (BMap.get_eq_none.mp hr.symm)).mp hB, rfl⟩)⟩
    · obtain ⟨hsz, ht, rfl⟩ := mergeOrMergeWithTop_both.mp ho
      exact ⟨ht, .inl ⟨_, _, BMap.mem_of_get hl.symm, BMap.mem_of_get hr.symm, hsz, rfl⟩⟩
  · rintro ⟨ht, ⟨va, vb, hca, hcb, hsz, rfl⟩ | ⟨va, hca, hno, rfl⟩ | ⟨vb, hcb, hno, rfl⟩⟩
    · have hE : rangeEnd (k, some va, some vb) = k + isize va := by
        simp only [rangeEnd, computeRangeEnd, isize, hsz]; omega
      refine ⟨(k, some va, some vb),
        (hm _).mpr ⟨by rw [BMap.get_of_mem ha.sorted hca, BMap.get_of_mem hb.sorted hcb], nofun⟩,
        (hiso _).mpr ⟨hba _ hca, ?_, ?_⟩, mergeOrMergeWithTop_both.mpr ⟨hsz, ht, rfl⟩, rfl⟩ <;> rw [hE]
      · exact clear_self ha hca
      · rw [show isize va = isize vb from congrArg Nat.cast hsz]
        exact clear_self hb hcb
    · have hkb := hkey ha hb hca hno
      exact ⟨(k, some va, none),
        (hm _).mpr ⟨by rw [BMap.get_of_mem ha.sorted hca, BMap.get_eq_none.mpr hkb], nofun⟩,
        (hiso _).mpr ⟨hba _ hca, clear_self ha hca,
          (clear_iff_noOverlap hb.posSizes hkb).mpr hno⟩,
        mergeOrMergeWithTop_left.mpr ⟨ht, rfl⟩, rfl⟩
    · have hka := hkey hb ha hcb hno
      exact ⟨(k, none, some vb),
        (hm _).mpr ⟨by rw [BMap.get_of_mem hb.sorted hcb, BMap.get_eq_none.mpr hka], nofun⟩,
        (hiso _).mpr ⟨hbb _ hcb, (clear_iff_noOverlap ha.posSizes hka).mpr hno,
          clear_self hb hcb⟩,
        mergeOrMergeWithTop_right.mpr ⟨ht, rfl⟩, rfl⟩

/-- **`merge_inner` keeps exactly the cells `MergeKeeps` describes.** Only `i64::MIN ≤ position` is
needed of the operands (`LowerBounded`: the loop starts with `merged_range_end = i64::MIN`); cell
ends may exceed `i64::MAX` (the repaired code computes them in i128). -/
theorem mem_mergeInner_keeps {a b : Region V} (ha : Inv a) (hb : Inv b) (hba : LowerBounded a)
    (hbb : LowerBounded b) {x : Int × V} : x ∈ mergeInner a b ↔ MergeKeeps a b x :=
  ((mergeInner_spec ha.sorted hb.sorted).2 x).trans (iso_entry_iff ha hb hba hbb x)

/-- **`merge_inner` = reference merge** (as sets of cells) -/
theorem mem_mergeInner_lb {a b : Region V} (ha : Inv a) (hb : Inv b) (hba : LowerBounded a) (hbb : LowerBounded b)
    {x : Int × V} : x ∈ mergeInner a b ↔ x ∈ Spec.merge a b :=
  (mem_mergeInner_keeps ha hb hba hbb).trans
    (Spec.mem_merge_iff ha.posSizes hb.posSizes (fun _ hd _ hd' => hb.key_inj hd hd') x).symm

theorem lowerBounded_of_bounded {r : Region V} (h : Bounded r) : LowerBounded r := fun c hc => (h c hc).1

theorem mem_mergeInner {a b : Region V} (ha : Inv a) (hb : Inv b) (hba : Bounded a) (hbb : Bounded b)
    {x : Int × V} : x ∈ mergeInner a b ↔ x ∈ Spec.merge a b :=
  mem_mergeInner_lb ha hb (lowerBounded_of_bounded hba) (lowerBounded_of_bounded hbb)

/-- **`merge_inner` establishes the invariant** from sorted operands with positive cell sizes: a kept
entry is isolated, so its cell ends before the next kept one starts. -/
theorem inv_mergeInner_of_sorted [LawfulValueDomain V] {a b : Region V} (sa : BMap.Sorted a) (sb : BMap.Sorted b)
    (pa : PosSizes a) (pb : PosSizes b) : Inv (mergeInner a b) := by
  obtain ⟨hs, hm⟩ := mergeInner_spec sa sb
  refine inv_of_sorted hs ?_ ?_ ?_
  · intro x hx y hy hlt
    obtain ⟨e, _, hiso, ho, hk⟩ := (hm x).mp hx
    obtain ⟨e', he', _, _, hk'⟩ := (hm y).mp hy
    obtain ⟨_, v, hv, hsz⟩ := outVal_eq_some ho
    rw [hk, hk'] at hlt ⊢
    unfold isize
    rw [hsz]
    exact Int.le_trans (le_rangeEnd hv) (hiso.2 e' he' hlt)
  · intro x hx
    obtain ⟨e, he, _, ho, _⟩ := (hm x).mp hx
    obtain ⟨_, v, hv, hsz⟩ := outVal_eq_some ho
    rw [hsz]
    exact hv.elim (fun hv => pa _ ((mem_of_mem_zip sa sb he v).1 hv))
      (fun hv => pb _ ((mem_of_mem_zip sa sb he v).2 hv))
  · intro x hx
    obtain ⟨e, _, _, ho, _⟩ := (hm x).mp hx
    exact (outVal_eq_some ho).1

theorem inv_mergeInner_lb [LawfulValueDomain V] {a b : Region V} (ha : Inv a) (hb : Inv b)
    (hba : LowerBounded a) (hbb : LowerBounded b) : Inv (mergeInner a b) :=
  inv_mergeInner_of_sorted ha.sorted hb.sorted ha.posSizes hb.posSizes

theorem inv_mergeInner [LawfulValueDomain V] {a b : Region V} (ha : Inv a) (hb : Inv b)
    (hba : Bounded a) (hbb : Bounded b) : Inv (mergeInner a b) :=
  inv_mergeInner_of_sorted ha.sorted hb.sorted ha.posSizes hb.posSizes

end CweModel.C05
