/-
C05 — what the BTreeMap operations of the model (`BMap`, `CweModel/Base/MemRegion.lean`) do to the
set of entries, the region invariant as a statement about pairs of cells, and the two building
blocks of the `MemRegion` operations: `clear_interval` and the loop "merge with top, then remove
or insert" (`storeMerged`).
-/
import CweModel.C05.Model
import CweModel.Base.ListLemmas

namespace CweModel.MemRegion

namespace BMap
variable {α : Type}

theorem Sorted.key_inj {m : BMap α} (hs : Sorted m) {x y : Int × α} (hx : x ∈ m) (hy : y ∈ m)
    (h : x.1 = y.1) : x = y := by
  rcases List.pairwise_mem_cases hs hx hy with h' | h' | h'
  · exact h'
  · omega
  · omega

theorem Sorted.sublist {m m' : BMap α} (hs : Sorted m) (h : m'.Sublist m) : Sorted m' :=
  List.Pairwise.sublist h hs

theorem Sorted.tail {c : Int × α} {m : BMap α} (hs : Sorted (c :: m)) : Sorted m :=
  (List.pairwise_cons.mp hs).2

theorem Sorted.head_lt {c : Int × α} {m : BMap α} (hs : Sorted (c :: m)) : ∀ x ∈ m, c.1 < x.1 :=
  (List.pairwise_cons.mp hs).1

theorem get_cons (c : Int × α) (m : BMap α) (k : Int) :
    get (c :: m) k = if c.1 = k then some c.2 else get m k := rfl

theorem get_eq_none {m : BMap α} {k : Int} : get m k = none ↔ ∀ x ∈ m, x.1 ≠ k := by
  induction m with
  | nil => exact ⟨nofun, fun _ => rfl⟩
  | cons c m ih =>
    rw [get_cons, List.forall_mem_cons]
    split
    · exact ⟨nofun, fun h => absurd ‹c.1 = k› h.1⟩
    · rw [ih]; exact (and_iff_right ‹¬ c.1 = k›).symm

theorem mem_of_get {m : BMap α} {k : Int} {v : α} (h : get m k = some v) : (k, v) ∈ m := by
  induction m with
  | nil => cases h
  | cons c m ih =>
    rw [get_cons] at h
    split at h
    · cases h; subst k; exact List.mem_cons_self
    · exact List.mem_cons_of_mem _ (ih h)

theorem get_of_mem {m : BMap α} (hs : Sorted m) {k : Int} {v : α} (h : (k, v) ∈ m) :
    get m k = some v := by
  cases hg : get m k with
  | none => exact absurd rfl (get_eq_none.mp hg _ h)
  | some v' => cases hs.key_inj (mem_of_get hg) h rfl; rfl

theorem get_eq_some {m : BMap α} (hs : Sorted m) {k : Int} {v : α} :
    get m k = some v ↔ (k, v) ∈ m := ⟨mem_of_get, get_of_mem hs⟩

theorem containsKey_eq_true {m : BMap α} {k : Int} : containsKey m k = true ↔ ∃ x ∈ m, x.1 = k := by
  unfold containsKey
  cases hg : get m k with
  | none =>
    have := get_eq_none.mp hg
    constructor
    · intro h; simp at h
    · rintro ⟨x, hx, hk⟩; exact absurd hk (this x hx)
  | some v => exact ⟨fun _ => ⟨(k, v), mem_of_get hg, rfl⟩, fun _ => rfl⟩

theorem not_containsKey {m : BMap α} {k : Int} : (!containsKey m k) = true ↔ get m k = none := by
  unfold containsKey
  cases get m k <;> simp

theorem mem_remove {m : BMap α} {k : Int} {x : Int × α} : x ∈ remove m k ↔ x ∈ m ∧ x.1 ≠ k := by
  simp [remove, List.mem_filter]

theorem remove_sublist (m : BMap α) (k : Int) : (remove m k).Sublist m := List.filter_sublist

theorem Sorted.remove {m : BMap α} (hs : Sorted m) (k : Int) : Sorted (remove m k) :=
  hs.sublist (remove_sublist m k)

theorem mem_insert {m : BMap α} (hs : Sorted m) {k : Int} {v : α} {x : Int × α} :
    x ∈ insert m k v ↔ (x ∈ m ∧ x.1 ≠ k) ∨ x = (k, v) := by
  induction m with
  | nil => simp [insert]
  | cons c m ih =>
    obtain ⟨k', v'⟩ := c
    have hlt := hs.head_lt
    unfold insert
    by_cases h1 : k < k'
    · have hne : x ∈ (k', v') :: m → x.1 ≠ k := by
        rintro (_ | ⟨_, hx⟩)
        · exact Int.ne_of_gt h1
        · exact Int.ne_of_gt (Int.lt_trans h1 (hlt x hx))
      rw [if_pos h1, List.mem_cons, or_comm]
      exact or_congr_left ⟨fun hx => ⟨hx, hne hx⟩, And.left⟩
    · rw [if_neg h1]
      by_cases h2 : k = k'
      · subst h2
        rw [if_pos rfl, List.mem_cons, List.mem_cons, or_comm]
        refine or_congr_left ⟨fun hx => ⟨.inr hx, Int.ne_of_gt (hlt x hx)⟩, ?_⟩
        rintro ⟨rfl | hx, hne⟩
        · exact absurd rfl hne
        · exact hx
      · rw [if_neg h2, List.mem_cons, List.mem_cons, ih hs.tail]
        constructor
        · rintro (rfl | ⟨h, hne⟩ | h)
          · exact .inl ⟨.inl rfl, Ne.symm h2⟩
          · exact .inl ⟨.inr h, hne⟩
          · exact .inr h
        · rintro (⟨rfl | h, hne⟩ | h)
          · exact .inl rfl
          · exact .inr (.inl ⟨h, hne⟩)
          · exact .inr (.inr h)

theorem Sorted.insert {m : BMap α} (hs : Sorted m) (k : Int) (v : α) : Sorted (insert m k v) := by
  induction m with
  | nil => exact List.pairwise_singleton _ _
  | cons c m ih =>
    obtain ⟨k', v'⟩ := c
    have hlt := hs.head_lt
    unfold BMap.insert
    by_cases h1 : k < k'
    · rw [if_pos h1]
      refine List.pairwise_cons.mpr ⟨?_, hs⟩
      rintro x (_ | ⟨_, hx⟩)
      · exact h1
      · exact Int.lt_trans h1 (hlt x hx)
    · rw [if_neg h1]
      by_cases h2 : k = k'
      · subst h2
        rw [if_pos rfl]
        exact List.pairwise_cons.mpr ⟨hlt, hs.tail⟩
      · rw [if_neg h2]
        refine List.pairwise_cons.mpr ⟨fun x hx => ?_, ih hs.tail⟩
        rcases (mem_insert hs.tail).mp hx with ⟨hx, _⟩ | rfl
        · exact hlt x hx
        · exact Int.lt_iff_le_and_ne.mpr ⟨Int.not_lt.mp h1, Ne.symm h2⟩

theorem lastBelow_eq_none {m : BMap α} {p : Int} (h : lastBelow m p = none) : ∀ x ∈ m, ¬ x.1 < p := by
  intro x hx hlt
  unfold lastBelow at h
  rw [List.getLast?_eq_none_iff] at h
  have : x ∈ m.filter (fun c => decide (c.1 < p)) := by simp [List.mem_filter, hx, hlt]
  rw [h] at this; cases this

theorem lastBelow_eq_some {m : BMap α} (hs : Sorted m) {p : Int} {c : Int × α}
    (h : lastBelow m p = some c) : c ∈ m ∧ c.1 < p ∧ ∀ x ∈ m, x.1 < p → x.1 ≤ c.1 := by
  obtain ⟨ys, hys⟩ := List.getLast?_eq_some_iff.mp h
  have hmem : ∀ x, x ∈ ys ++ [c] ↔ x ∈ m ∧ x.1 < p := fun x => by
    rw [← hys, List.mem_filter, decide_eq_true_eq]
  have hsf : Sorted (ys ++ [c]) := hys ▸ hs.sublist List.filter_sublist
  have hc := (hmem c).mp (List.mem_append_right _ (List.mem_singleton_self c))
  refine ⟨hc.1, hc.2, fun x hx hlt => ?_⟩
  rcases List.mem_append.mp ((hmem x).mpr ⟨hx, hlt⟩) with hxy | hxc
  · exact Int.le_of_lt ((List.pairwise_append.mp hsf).2.2 x hxy c (List.mem_singleton_self c))
  · exact List.eq_of_mem_singleton hxc ▸ Int.le_refl _

theorem firstFrom_eq_none {m : BMap α} {lo : Int} (h : firstFrom m lo = none) : ∀ x ∈ m, ¬ lo ≤ x.1 := by
  intro x hx
  simpa using List.find?_eq_none.mp h x hx

theorem firstFrom_eq_some {m : BMap α} (hs : Sorted m) {lo : Int} {c : Int × α}
    (h : firstFrom m lo = some c) : c ∈ m ∧ lo ≤ c.1 ∧ ∀ x ∈ m, lo ≤ x.1 → c.1 ≤ x.1 := by
  obtain ⟨hp, as, bs, hm, has⟩ := List.find?_eq_some_iff_append.mp h
  have hp : lo ≤ c.1 := of_decide_eq_true hp
  refine ⟨hm ▸ List.mem_append_right _ List.mem_cons_self, hp, fun x hx hlo => ?_⟩
  rw [hm] at hx hs
  rcases List.mem_append.mp hx with hx | hx
  · have := has x hx
    rw [decide_eq_true hlo] at this
    cases this
  · rcases List.mem_cons.mp hx with rfl | hx
    · exact Int.le_refl _
    · exact Int.le_of_lt ((List.pairwise_cons.mp (List.pairwise_append.mp hs).2.1).1 x hx)

theorem mem_foldl_remove {ks : List Int} {m : BMap α} {x : Int × α} :
    x ∈ ks.foldl (fun m k => remove m k) m ↔ x ∈ m ∧ x.1 ∉ ks := by
  induction ks generalizing m with
  | nil => simp
  | cons k ks ih =>
    simp only [List.foldl_cons, ih, mem_remove, List.mem_cons, not_or]
    constructor
    · rintro ⟨⟨h1, h2⟩, h3⟩; exact ⟨h1, h2, h3⟩
    · rintro ⟨h1, h2, h3⟩; exact ⟨⟨h1, h2⟩, h3⟩

theorem foldl_remove_sublist (ks : List Int) (m : BMap α) :
    (ks.foldl (fun m k => remove m k) m).Sublist m := by
  induction ks generalizing m with
  | nil => simp
  | cons k ks ih => exact (ih _).trans (remove_sublist m k)

/-- a loop of updates `f m c` that each replace whatever `m` holds under the key `key c` by the
entries `Q c`, over items with pairwise different keys -/
theorem foldl_update {β : Type} {f : BMap α → β → BMap α} {key : β → Int} {Q : β → Int × α → Prop}
    (hsorted : ∀ {m : BMap α} (c : β), Sorted m → Sorted (f m c))
    (hmem : ∀ {m : BMap α} (c : β) (x : Int × α), Sorted m → (x ∈ f m c ↔ (x ∈ m ∧ x.1 ≠ key c) ∨ Q c x))
    (hkey : ∀ c x, Q c x → x.1 = key c)
    {l : List β} (hd : l.Pairwise (fun a b => key a ≠ key b)) {m : BMap α} (hs : Sorted m) :
    Sorted (l.foldl f m) ∧
    ∀ x, x ∈ l.foldl f m ↔ (x ∈ m ∧ ∀ c ∈ l, key c ≠ x.1) ∨ ∃ c ∈ l, Q c x := by
  induction l generalizing m with
  | nil => simp [hs]
  | cons b l ih =>
    rw [List.pairwise_cons] at hd
    have ih := ih hd.2 (hsorted b hs)
    refine ⟨ih.1, fun x => ?_⟩
    rw [List.foldl_cons, ih.2 x, hmem b x hs]
    constructor
    · rintro (⟨⟨hx, hne⟩ | hQ, hall⟩ | ⟨c, hc, hQ⟩)
      · exact .inl ⟨hx, List.forall_mem_cons.mpr ⟨Ne.symm hne, hall⟩⟩
      · exact .inr ⟨b, List.mem_cons_self, hQ⟩
      · exact .inr ⟨c, List.mem_cons_of_mem _ hc, hQ⟩
    · rintro (⟨hx, hall⟩ | ⟨c, hc, hQ⟩)
      · have ⟨hb, hall⟩ := List.forall_mem_cons.mp hall
        exact .inl ⟨.inl ⟨hx, Ne.symm hb⟩, hall⟩
      · rcases List.mem_cons.mp hc with rfl | hc
        · exact .inl ⟨.inr hQ, fun c' hc' => hkey c x hQ ▸ (hd.1 c' hc').symm⟩
        · exact .inr ⟨c, hc, hQ⟩

theorem foldl_insert {β : Type} (key : β → Int) (val : β → α) {l : List β} {m : BMap α}
    (hs : Sorted m) (hd : l.Pairwise (fun a b => key a ≠ key b)) :
    Sorted (l.foldl (fun z c => insert z (key c) (val c)) m) ∧
    ∀ x, x ∈ l.foldl (fun z c => insert z (key c) (val c)) m ↔
      (x ∈ m ∧ ∀ c ∈ l, key c ≠ x.1) ∨ ∃ c ∈ l, x = (key c, val c) :=
  foldl_update (fun c hm => hm.insert (key c) (val c)) (fun _ _ hm => mem_insert hm)
    (fun _ _ hx => hx ▸ rfl) hd hs

end BMap

section region
variable {V : Type} [ValueDomain V]

/-- the cell shares a byte with `[lo, hi)` (`Prop` form of `C05.overlaps`) -/
def Ov (c : Int × V) (lo hi : Int) : Prop := c.1 < hi ∧ lo < c.1 + isize c.2

theorem Inv.lt_disjoint {r : Region V} (h : Inv r) {x y : Int × V} (hx : x ∈ r) (hy : y ∈ r)
    (hlt : x.1 < y.1) : x.1 + isize x.2 ≤ y.1 := by
  rcases List.pairwise_mem_cases h.noOverlap hx hy with h' | h' | h'
  · subst h'; omega
  · exact h'
  · have := h.posSizes y hy
    simp only [isize] at h' ⊢; omega

theorem Inv.key_inj {r : Region V} (h : Inv r) {x y : Int × V} (hx : x ∈ r) (hy : y ∈ r)
    (hk : x.1 = y.1) : x = y := h.sorted.key_inj hx hy hk

theorem Inv.pos {r : Region V} (h : Inv r) {x : Int × V} (hx : x ∈ r) : 0 < isize x.2 := by
  have := h.posSizes x hx
  simp only [isize]; omega

theorem sorted_of_noOverlap {r : Region V} (hn : NoOverlap r) (hp : PosSizes r) : BMap.Sorted r :=
  List.Pairwise.imp_of_mem (fun {a b} ha _ hab => by
    have := hp a ha
    simp only [isize] at hab; omega) hn

theorem inv_of_sorted {r : Region V} (hs : BMap.Sorted r)
    (hd : ∀ x ∈ r, ∀ y ∈ r, x.1 < y.1 → x.1 + isize x.2 ≤ y.1)
    (hp : PosSizes r) (ht : NoTopStored r) : Inv r :=
  ⟨hs, List.Pairwise.imp_of_mem (fun {a b} ha hb hab => hd a ha b hb hab) hs, hp, ht⟩

theorem inv_of_sources {r r' : Region V} (hr : Inv r) (hs : BMap.Sorted r')
    (hsrc : ∀ x ∈ r', isTop x.2 = false ∧ ∃ c ∈ r, c.1 = x.1 ∧ size c.2 = size x.2) : Inv r' := by
  refine inv_of_sorted hs ?_ ?_ (fun x hx => (hsrc x hx).1)
  · intro x hx y hy hlt
    obtain ⟨_, cx, hcx, h1, h2⟩ := hsrc x hx
    obtain ⟨_, cy, hcy, h3, _⟩ := hsrc y hy
    rw [← h1, ← h3] at hlt ⊢
    unfold isize
    rw [← h2]
    exact hr.lt_disjoint hcx hcy hlt
  · intro x hx
    obtain ⟨_, cx, hcx, _, h2⟩ := hsrc x hx
    exact h2 ▸ hr.posSizes cx hcx

theorem inv_of_sublist {r r' : Region V} (hr : Inv r) (h : r'.Sublist r) : Inv r' :=
  inv_of_sources hr (hr.sorted.sublist h)
    (fun x hx => ⟨hr.noTop x (h.subset hx), x, h.subset hx, rfl, rfl⟩)

theorem inv_nil : Inv ([] : Region V) :=
  ⟨List.Pairwise.nil, List.Pairwise.nil, fun _ h => (nomatch h), fun _ h => (nomatch h)⟩

theorem get_cases (r : Region V) (p : Int) (n : Nat) :
    (get r p n = newTop n ∧ ∀ v, BMap.get r p = some v → size v ≠ n) ∨
    ∃ v, BMap.get r p = some v ∧ size v = n ∧ get r p n = v := by
  unfold get
  cases hg : BMap.get r p with
  | none => exact .inl ⟨rfl, nofun⟩
  | some e =>
    by_cases hs : size e = n
    · exact .inr ⟨e, rfl, hs, if_pos hs⟩
    · exact .inl ⟨if_neg hs, fun v hv => Option.some.inj hv ▸ hs⟩

theorem clearPrev_sublist (r : Region V) (p : Int) : (clearPrev r p).Sublist r := by
  unfold clearPrev
  cases BMap.lastBelow r p with
  | none => exact List.Sublist.refl _
  | some c =>
    obtain ⟨k, e⟩ := c
    dsimp only
    split
    · exact BMap.remove_sublist _ _
    · exact List.Sublist.refl _

/-- `Ov y p p`, sharing a byte with the EMPTY interval `[p, p)`, says that `y` reaches across `p`;
the last cell starting below `p` is the only one that can. -/
theorem Inv.lastBelow_eq_some {r : Region V} (h : Inv r) {p : Int} {c : Int × V}
    (hlb : BMap.lastBelow r p = some c) : c ∈ r ∧ c.1 < p ∧ ∀ y ∈ r, Ov y p p → y = c := by
  obtain ⟨hc, hcp, hmax⟩ := BMap.lastBelow_eq_some h.sorted hlb
  refine ⟨hc, hcp, fun y hy ⟨h1, h2⟩ => ?_⟩
  have hle := hmax y hy h1
  by_cases hk : y.1 = c.1
  · exact h.key_inj hy hc hk
  · have := h.lt_disjoint hy hc (by omega)
    omega

theorem mem_clearPrev {r : Region V} (h : Inv r) {p : Int} {x : Int × V} :
    x ∈ clearPrev r p ↔ x ∈ r ∧ ¬ Ov x p p := by
  unfold clearPrev
  cases hlb : BMap.lastBelow r p with
  | none => exact ⟨fun hx => ⟨hx, fun hh => BMap.lastBelow_eq_none hlb x hx hh.1⟩, And.left⟩
  | some c =>
    obtain ⟨hc, hcp, huniq⟩ := h.lastBelow_eq_some hlb
    dsimp only
    split
    · rw [BMap.mem_remove]
      refine and_congr_right fun hx => ⟨fun hne hh => hne (congrArg _ (huniq x hx hh)), fun hno hk => hno ?_⟩
      rw [h.key_inj hx hc hk]
      exact ⟨hcp, ‹c.1 + isize c.2 > p›⟩
    · exact ⟨fun hx => ⟨hx, fun hh => ‹¬ c.1 + isize c.2 > p› (huniq x hx hh ▸ hh.2)⟩, And.left⟩

theorem clearInterval_sublist (r : Region V) (p s : Int) : (clearInterval r p s).Sublist r :=
  (BMap.foldl_remove_sublist _ _).trans (clearPrev_sublist r p)

/-- `clear_interval` removes exactly the cells sharing a byte with `[p, p + s)` — although it
only looks at the immediate predecessor of `p` and at the cells starting inside the interval. -/
theorem mem_clearInterval {r : Region V} (h : Inv r) {p s : Int} (hs : 0 < s) {x : Int × V} :
    x ∈ clearInterval r p s ↔ x ∈ r ∧ ¬ Ov x p (p + s) := by
  unfold clearInterval
  simp only [BMap.mem_foldl_remove, mem_clearPrev h, List.mem_map, BMap.range, List.mem_filter,
    Bool.and_eq_true, decide_eq_true_eq, Ov]
  constructor
  · rintro ⟨⟨hx, hprev⟩, hrange⟩
    refine ⟨hx, fun hov => ?_⟩
    by_cases hlt : x.1 < p
    · exact hprev ⟨hlt, hov.2⟩
    · exact hrange ⟨x, ⟨⟨hx, hprev⟩, Int.not_lt.mp hlt, hov.1⟩, rfl⟩
  · rintro ⟨hx, hno⟩
    refine ⟨⟨hx, fun hh => hno ⟨Int.lt_trans hh.1 (Int.lt_add_of_pos_right p hs), hh.2⟩⟩, ?_⟩
    rintro ⟨y, ⟨_, h1, h2⟩, hk⟩
    exact hno ⟨hk ▸ h2, Int.lt_of_le_of_lt (hk ▸ h1) (Int.lt_add_of_pos_right _ (h.pos hx))⟩

theorem inv_clearInterval {r : Region V} (h : Inv r) (p s : Int) : Inv (clearInterval r p s) :=
  inv_of_sublist h (clearInterval_sublist r p s)

end region

section weaken
open CweModel.C05
variable {V : Type} [ValueDomain V]

theorem overlaps_iff {c : Int × V} {lo hi : Int} : overlaps c lo hi = true ↔ Ov c lo hi := by
  simp [overlaps, Ov]

theorem keepNonTop_eq_some {o : Int} {v : V} {x : Int × V} :
    keepNonTop o v = some x ↔ isTop v = false ∧ x = (o, v) := by
  unfold keepNonTop
  cases isTop v <;> simp [eq_comm]

theorem weaken_eq_some {c x : Int × V} :
    weaken c = some x ↔ isTop (merge c.2 (topOf c.2)) = false ∧ x = (c.1, merge c.2 (topOf c.2)) :=
  keepNonTop_eq_some

theorem size_merge_topOf [LawfulValueDomain V] (v : V) : size (merge v (topOf v)) = size v := by
  apply LawfulValueDomain.size_merge
  rw [LawfulValueDomain.topOf_eq, LawfulValueDomain.size_newTop]

theorem size_merge_newTop [LawfulValueDomain V] (v : V) : size (merge v (newTop (size v))) = size v := by
  apply LawfulValueDomain.size_merge
  rw [LawfulValueDomain.size_newTop]

theorem weaken_source [LawfulValueDomain V] {c x : Int × V} (h : weaken c = some x) :
    isTop x.2 = false ∧ c.1 = x.1 ∧ size c.2 = size x.2 := by
  obtain ⟨h1, rfl⟩ := weaken_eq_some.mp h
  exact ⟨h1, rfl, (size_merge_topOf c.2).symm⟩

theorem mem_weakenIf {s : List (Int × V)} {P : Int × V → Bool} {x : Int × V} :
    x ∈ s.filterMap (fun c => if P c then weaken c else some c) ↔
      (x ∈ s ∧ P x = false) ∨ ∃ c ∈ s, P c = true ∧ weaken c = some x := by
  rw [List.mem_filterMap]
  constructor
  · rintro ⟨c, hc, h⟩
    cases hP : P c
    · simp [hP] at h; subst h; exact .inl ⟨hc, hP⟩
    · simp [hP] at h; exact .inr ⟨c, hc, hP, h⟩
  · rintro (⟨hx, hP⟩ | ⟨c, hc, hP, h⟩)
    · exact ⟨x, hx, by simp [hP]⟩
    · exact ⟨c, hc, by simp [hP, h]⟩

theorem mem_storeMerged {m : Region V} (hs : BMap.Sorted m) {k : Int} {v : V} {x : Int × V} :
    x ∈ storeMerged m k v ↔ (x ∈ m ∧ x.1 ≠ k) ∨ (isTop v = false ∧ x = (k, v)) := by
  unfold storeMerged
  cases hv : isTop v
  · simp [BMap.mem_insert hs]
  · simp [BMap.mem_remove]

theorem sorted_storeMerged {m : Region V} (hs : BMap.Sorted m) (k : Int) (v : V) :
    BMap.Sorted (storeMerged m k v) := by
  unfold storeMerged
  split
  · exact hs.remove k
  · exact hs.insert k v

theorem mem_storeMerged_weaken {m : Region V} (hs : BMap.Sorted m) {c : Int × V} (hc : c ∈ m)
    {P : Int × V → Bool} (hP : ∀ y ∈ m, (P y = true ↔ y = c)) {x : Int × V} :
    x ∈ storeMerged m c.1 (merge c.2 (topOf c.2)) ↔
      x ∈ m.filterMap (fun y => if P y then weaken y else some y) := by
  rw [mem_storeMerged hs, mem_weakenIf, ← weaken_eq_some]
  refine or_congr (and_congr_right fun hx => ?_) ?_
  · rw [← Bool.not_eq_true, hP x hx]
    exact ⟨fun hne hx' => hne (hx' ▸ rfl), fun hne hk => hne (hs.key_inj hx hc hk)⟩
  · exact ⟨fun hw => ⟨c, hc, (hP c hc).mpr rfl, hw⟩, fun ⟨y, hy, hPy, hw⟩ => (hP y hy).mp hPy ▸ hw⟩

/-- the loop of `merge_values_intersecting_range_with_top` over the cells of `m` selected by `P`
(collected beforehand) weakens exactly these cells -/
theorem foldl_weaken {m : Region V} (hs : BMap.Sorted m) (P : Int × V → Bool) :
    BMap.Sorted (((m.filter P).map (fun c => (c.1, merge c.2 (topOf c.2)))).foldl
      (fun m c => storeMerged m c.1 c.2) m) ∧
    ∀ x, x ∈ ((m.filter P).map (fun c => (c.1, merge c.2 (topOf c.2)))).foldl
        (fun m c => storeMerged m c.1 c.2) m ↔
      x ∈ m.filterMap (fun c => if P c then weaken c else some c) := by
  rw [List.foldl_map]
  have hd : (m.filter P).Pairwise (fun a b => a.1 ≠ b.1) :=
    (hs.sublist List.filter_sublist).imp Int.ne_of_lt
  obtain ⟨h1, h2⟩ := BMap.foldl_update (Q := fun c x => weaken c = some x)
    (fun c hm => sorted_storeMerged hm c.1 _)
    (fun c x hm => (mem_storeMerged hm).trans (or_congr_right weaken_eq_some.symm))
    (fun c x hw => (weaken_eq_some.mp hw).2 ▸ rfl) hd hs
  refine ⟨h1, fun x => ?_⟩
  rw [h2, mem_weakenIf]
  refine or_congr (and_congr_right fun hx => ⟨fun hall => ?_, fun hP c hc hk => ?_⟩) ?_
  · exact Bool.eq_false_iff.mpr fun hP => hall x (List.mem_filter.mpr ⟨hx, hP⟩) rfl
  · have hc := List.mem_filter.mp hc
    rw [← hs.key_inj hc.1 hx hk, hc.2] at hP
    cases hP
  · simp only [List.mem_filter, and_assoc]

end weaken

end CweModel.MemRegion
