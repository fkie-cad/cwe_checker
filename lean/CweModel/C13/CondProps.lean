/-
C13 — "PI-lite", layer 4, theorems: conditional specialisation is sound on the fragment `condInFrag`
(`specializeConditional_sound`): conditions that are a 1-byte variable (flag / temporary), one of the six integer
comparisons of two different leaves (register or constant, either order, at most 8 bytes), or `BoolNegate`s of these — provided
every register the condition mentions holds an absolute value or a pointer without absolute part (`leavesOk`; the proof
uses only its second half, distinct target identifiers) and no comparison compares two pointers into the same unique
object (`ptrCmpFree`); both are decidable on the state.

Reused: what the bound refinements and `intersect` do to a value (`CondValueProps`, over C04 `addBound_sound` and
`intersect_sound`); `St.eval_sound` (layer 2).

At the end `updateDef_sound`: the `Assign`/`Store`/`Load` arms of `update_def` put together from the theorems of
layers 2 and 3.
-/
import CweModel.C13.CondValueProps

namespace CweModel.C13
open CweModel CweModel.IR CweModel.Itv CweModel.MemRegion

theorem isCmp6_cases {op : BinOpType} (h : isCmp6 op = true) :
    op = .IntEqual ∨ op = .IntNotEqual ∨ op = .IntLess ∨ op = .IntLessEqual ∨ op = .IntSLess ∨ op = .IntSLessEqual := by
  unfold isCmp6 at h
  split at h
  · exact .inl rfl
  · exact .inr (.inl rfl)
  · exact .inr (.inr (.inl rfl))
  · exact .inr (.inr (.inr (.inl rfl)))
  · exact .inr (.inr (.inr (.inr (.inl rfl))))
  · exact .inr (.inr (.inr (.inr (.inr rfl))))
  · cases h

def CmpTrue (op : CmpOp) (a b : Bv) : Prop :=
  match op with
  | .slt => a.toInt < b.toInt
  | .sle => a.toInt ≤ b.toInt
  | .ult => toU a.w a.toInt < toU a.w b.toInt
  | .ule => toU a.w a.toInt ≤ toU a.w b.toInt

theorem CmpTrue.not {op : CmpOp} {a b : Bv} (hw : a.w = b.w) (h : ¬ CmpTrue op a b) : CmpTrue op.swapNeg b a := by
  cases op
  · exact Int.not_lt.mp h
  · exact Int.not_le.mp h
  · show toU b.w b.toInt ≤ toU b.w a.toInt
    rw [← hw]; exact Nat.not_lt.mp h
  · show toU b.w b.toInt < toU b.w a.toInt
    rw [← hw]; exact Nat.not_le.mp h

def CmpHolds (op : BinOpType) (a b : Bv) (bb : Bool) : Prop :=
  match op with
  | .IntEqual => (bb = true ↔ a.toInt = b.toInt)
  | .IntNotEqual => (bb = true ↔ a.toInt ≠ b.toInt)
  | .IntLess => (bb = true ↔ CmpTrue .ult a b)
  | .IntLessEqual => (bb = true ↔ CmpTrue .ule a b)
  | .IntSLess => (bb = true ↔ CmpTrue .slt a b)
  | .IntSLessEqual => (bb = true ↔ CmpTrue .sle a b)
  | _ => True

theorem toInt_eq_iff_toNat_eq {w : Nat} (x y : BitVec w) : x.toInt = y.toInt ↔ x.toNat = y.toNat :=
  BitVec.toInt_inj.trans BitVec.toNat_inj.symm

theorem ref_cmp {op : BinOpType} {a b : Bv} {bb : Bool} (h : Ref.binOp op a b = .val (Bv.ofBool bb)) (hop : isCmp6 op = true) :
    a.w = b.w ∧ CmpHolds op a b bb := by
  rcases isCmp6_cases hop with rfl | rfl | rfl | rfl | rfl | rfl
  all_goals
    simp only [Ref.binOp] at h
    obtain ⟨w, p, q, rfl, rfl, hf⟩ := sameW_inv h
    cases Bv.ofBool_inj (Res.val.inj hf)
    refine ⟨rfl, ?_⟩
  · exact decide_eq_true_iff.trans (toInt_eq_iff_toNat_eq p q).symm
  · show (!decide (p.toNat = q.toNat)) = true ↔ ¬ p.toInt = q.toInt
    rw [toInt_eq_iff_toNat_eq]; simp
  · show decide (p.toNat < q.toNat) = true ↔ toU w p.toInt < toU w q.toInt
    rw [toU_toInt, toU_toInt]; exact decide_eq_true_iff
  · show decide (p.toNat ≤ q.toNat) = true ↔ toU w p.toInt ≤ toU w q.toInt
    rw [toU_toInt, toU_toInt]; exact decide_eq_true_iff
  · exact decide_eq_true_iff
  · exact decide_eq_true_iff

def leafVars : Expression → List Variable
  | .Var x => [x]
  | _ => []

def SameExcept (s s' : MSt) (X : List Variable) : Prop :=
  s'.objs = s.objs ∧ s'.stackId = s.stackId ∧ s'.st.globals = s.st.globals ∧ s'.st.gid = s.st.gid ∧
    ∀ y, y ∉ X → s'.st.getReg y = s.st.getReg y

theorem SameExcept.refl (s : MSt) (X : List Variable) : SameExcept s s X := ⟨rfl, rfl, rfl, rfl, fun _ _ => rfl⟩

theorem SameExcept.trans {s s' s'' : MSt} {X Y : List Variable} (h1 : SameExcept s s' X) (h2 : SameExcept s' s'' Y) :
    SameExcept s s'' (X ++ Y) := by
  obtain ⟨a1, a2, a3, a4, a5⟩ := h1
  obtain ⟨b1, b2, b3, b4, b5⟩ := h2
  refine ⟨b1.trans a1, b2.trans a2, b3.trans a3, b4.trans a4, ?_⟩
  intro y hy
  simp only [List.mem_append, not_or] at hy
  rw [b5 y hy.2, a5 y hy.1]

theorem SameExcept.mono {s s' : MSt} {X Y : List Variable} (h : SameExcept s s' X) (hXY : ∀ y ∈ X, y ∈ Y) :
    SameExcept s s' Y :=
  ⟨h.1, h.2.1, h.2.2.1, h.2.2.2.1, fun y hy => h.2.2.2.2 y fun hm => hy (hXY y hm)⟩

theorem sameExcept_setReg (s : MSt) (x : Variable) (d : DData) :
    SameExcept s ({ s with st := s.st.setReg x d } : MSt) [x] := by
  refine ⟨rfl, rfl, (St.setReg_globals s.st x d).1, (St.setReg_globals s.st x d).2, ?_⟩
  · intro y hy
    show (s.st.setReg x d).getReg y = s.st.getReg y
    rw [St.getReg_setReg]
    have : y ≠ x := by simpa using hy
    simp [this]

/-- the part of `St.WF` the steps of a specialisation carry along: sizes, and the width of absolute parts -/
def St.Sized (t : St) : Prop := ∀ y, (t.getReg y).size = y.size ∧ AbsW (t.getReg y)

theorem sized_of_wf {t : St} (h : t.WF) : t.Sized := by
  intro y
  rcases getReg_cases t y with ⟨e, _⟩ | hm
  · rw [e]; exact ⟨rfl, fun a ha => by cases ha⟩
  · exact ⟨(h _ _ hm).2, absW_of_wf (h _ _ hm).1⟩

theorem sized_setReg {t : St} (h : t.Sized) {x : Variable} {d : DData} (hs : d.size = x.size) (hw : AbsW d) :
    (t.setReg x d).Sized := by
  intro y
  rw [St.getReg_setReg]
  split
  · rename_i hy; subst hy
    split
    · exact ⟨rfl, fun a ha => by cases ha⟩
    · exact ⟨hs, hw⟩
  · exact h y

/-- the invariant along the steps of one specialisation -/
structure Good (ρ : Nat → Int) (σ : Sem.State) (s : MSt) : Prop where
  regs : St.RegsIn ρ s.st σ
  sized : s.st.Sized
  glob : s.st.globals ≠ [] → ρ s.st.gid = 0

theorem Good.of_same {ρ : Nat → Int} {σ : Sem.State} {s s' : MSt} {X : List Variable} (h : Good ρ σ s)
    (hs : SameExcept s s' X) (hr : St.RegsIn ρ s'.st σ) (hz : s'.st.Sized) : Good ρ σ s' :=
  ⟨hr, hz, by rw [hs.2.2.1, hs.2.2.2.1]; exact h.glob⟩

def LeafPre (s : MSt) : Expression → Prop
  | .Var x => ((s.st.getReg x).WF ∧ (s.st.getReg x).size = x.size) ∧ (0 < x.size ∧ x.size ≤ 8) ∧
      valueShapeOk (s.st.eval (.Var x)) = true
  | .Const b _ => 0 < b ∧ b ≤ 8
  | _ => False

theorem leaf_bytesize_pos {s : MSt} {e : Expression} (h : LeafPre s e) : 0 < e.bytesize ∧ e.bytesize ≤ 8 := by
  cases e with
  | Var x => exact h.2.1
  | Const b c => exact h
  | _ => exact absurd h (by simp [LeafPre])

theorem leaf_eval_sound {ρ : Nat → Int} {σ : Sem.State} {s : MSt} (hG : Good ρ σ s) {e : Expression} (hp : LeafPre s e)
    {v : Bv} (hv : Sem.eval σ e = some v) :
    (s.st.eval e).WF ∧ (s.st.eval e).size = e.bytesize ∧ (s.st.eval e).Mem ρ v := by
  cases e with
  | Var x =>
    obtain ⟨h1, h2, h3⟩ := St.replaceIfGlobalPointer_sound (ρ := ρ) s.st hG.glob hp.1.1
    simp only [Sem.eval, Option.some.injEq] at hv
    subst hv
    exact ⟨h1, h2.trans hp.1.2, h3 _ (hG.regs x)⟩
  | Const b c =>
    have hb : (Bv.ofBytes b c).w = 8 * b := rfl
    obtain ⟨w1, w2⟩ := DData.ofBv_wf (Bv.ofBytes b c) hp.1 hb
    obtain ⟨h1, h2, h3⟩ := St.replaceIfGlobalPointer_sound (ρ := ρ) s.st hG.glob w1
    simp only [Sem.eval, Option.some.injEq] at hv
    subst hv
    exact ⟨h1, h2.trans w2, h3 _ (DData.ofBv_mem ρ _ hb)⟩
  | _ => exact absurd hp (by simp [LeafPre])

def StepOk (ρ : Nat → Int) (σ : Sem.State) (s : MSt) (e : Expression) (o : Option MSt) : Prop :=
  ∃ s', o = some s' ∧ St.RegsIn ρ s'.st σ ∧ s'.st.Sized ∧ SameExcept s s' (leafVars e)

theorem StepOk.refl {ρ : Nat → Int} {σ : Sem.State} {s : MSt} (hG : Good ρ σ s) (e : Expression) :
    StepOk ρ σ s e (some s) := ⟨s, rfl, hG.regs, hG.sized, SameExcept.refl _ _⟩

theorem specConst_ok {ρ : Nat → Int} {σ : Sem.State} {s : MSt} (hG : Good ρ σ s) {b c : Nat} {res : DData}
    (hm : res.Mem ρ (Bv.ofBytes b c)) (hw : AbsW res) (hs : res.size = b) :
    StepOk ρ σ s (.Const b c) (specByExpr (.Const b c) s res) := by
  unfold specByExpr
  cases htb : res.tryToBv with
  | none => exact StepOk.refl hG _
  | some p =>
    obtain ⟨w, rb⟩ := p
    obtain ⟨_, _, a, ha, _, _, hwid⟩ := DData.tryToBv_some htb
    simp only
    rw [if_pos ⟨by rw [← hwid, hw a ha, hs], (DData.mem_of_tryToBv htb hm).symm⟩]
    exact StepOk.refl hG _

theorem specVar_ok {ρ : Nat → Int} {σ : Sem.State} {s : MSt} (hG : Good ρ σ s) {x : Variable}
    {res : DData} (hsz : (s.st.eval (.Var x)).size = x.size)
    (h : DData.IntersectOk ρ (s.st.eval (.Var x)) res (σ.getReg x)) :
    StepOk ρ σ s (.Var x) (specByExpr (.Var x) s res) := by
  obtain ⟨r, hr, hrm, hrs, hrw, _⟩ := h
  unfold specByExpr
  rw [hr]
  exact ⟨_, rfl, regsIn_setReg_of (fun w _ => hG.regs w) hrm (hrs.trans hsz), sized_setReg hG.sized (hrs.trans hsz) hrw,
    sameExcept_setReg s x r⟩

theorem valueShapeOk_iff {d : DData} :
    valueShapeOk d = true ↔ (d.rel = [] ∨ d.abs = none) ∧ (d.rel.map (·.1)).Nodup := by
  simp only [valueShapeOk, Bool.and_eq_true, Bool.or_eq_true, List.isEmpty_iff, Option.isNone_iff_eq_none,
    decide_eq_true_eq]

/-- **leaf, kind 1:** the leaf is specialised to the single value it has concretely -/
theorem specLeaf_const {ρ : Nat → Int} {σ : Sem.State} {s : MSt} (hG : Good ρ σ s) {e : Expression} (hp : LeafPre s e)
    {v : Bv} (hv : Sem.eval σ e = some v) :
    StepOk ρ σ s e (specByExpr e s (DData.ofBvI v.w v.toInt)) := by
  obtain ⟨cw, csz, cmem⟩ := leaf_eval_sound hG hp hv
  obtain ⟨hpos, h8⟩ := leaf_bytesize_pos hp
  have hvw : v.w = 8 * e.bytesize := by rw [cmem.1, csz]
  obtain ⟨rwf, rsz⟩ := DData.ofBvI_wf (c := v.toInt) hpos hvw (inRange_toInt v.v)
  have rmem : (DData.ofBvI v.w v.toInt).Mem ρ v := DData.ofBvI_mem hvw
  cases e with
  | Var x =>
    cases Option.some.inj hv
    exact specVar_ok hG csz (DData.intersect_sound cw rwf (rsz.trans csz.symm) (.inl (csz ▸ h8)) cmem (.of_norel rfl rmem))
  | Const b c =>
    cases Option.some.inj hv
    exact specConst_ok hG rmem (absW_of_wf rwf) rsz
  | _ => exact absurd hp (by simp [LeafPre])

/-- **leaf, kind 2:** the leaf is specialised to a bound refinement of its own value, the concrete value
satisfying the comparison -/
theorem specLeaf_bound {ρ : Nat → Int} {σ : Sem.State} {s : MSt} (hG : Good ρ σ s) {e : Expression} (hp : LeafPre s e)
    {v : Bv} (hv : Sem.eval σ e = some v) (k : BoundKind) {bound : Int} (hb : InRange (8 * e.bytesize) bound) (hR : k.holds (8 * e.bytesize) v.toInt bound) :
    ∃ res, (s.st.eval e).withoutHints.addBound k bound = some res ∧ StepOk ρ σ s e (specByExpr e s res) := by
  obtain ⟨cw, csz, cmem⟩ := leaf_eval_sound hG hp hv
  obtain ⟨hpos, h8⟩ := leaf_bytesize_pos hp
  have hwf := DData.withoutHints_wf cw
  have h64 : 8 * (s.st.eval e).withoutHints.size ≤ 64 := by rw [DData.withoutHints_size, csz]; omega
  have hb' : InRange (8 * (s.st.eval e).withoutHints.size) bound := by rw [DData.withoutHints_size, csz]; exact hb
  obtain ⟨res, hres, rmem⟩ := DData.addBound_sound (ρ := ρ) k hwf h64 bound hb' (DData.withoutHints_mem cmem)
    (by rw [DData.withoutHints_size, csz]; exact hR)
  have rwf := DData.addBound_wf hwf h64 hb' hres
  obtain ⟨f1, _, rsz, _⟩ := DData.addBound_some hres
  refine ⟨res, hres, ?_⟩
  cases e with
  | Var x =>
    cases Option.some.inj hv
    exact specVar_ok hG csz (DData.intersect_sound cw rwf rsz (.inl (csz ▸ h8)) cmem
      (.of_addBound (valueShapeOk_iff.mp hp.2.2).2 hres rmem))
  | Const b c =>
    cases Option.some.inj hv
    exact specConst_ok hG rmem (absW_of_wf rwf) (rsz.trans csz)
  | _ => exact absurd hp (by simp [LeafPre])

def StepsOk (ρ : Nat → Int) (σ : Sem.State) (s : MSt) (l r : Expression) (o : Option MSt) : Prop :=
  ∃ s', o = some s' ∧ Good ρ σ s' ∧ SameExcept s s' (leafVars l ++ leafVars r)

theorem StepOk.toSteps_r {ρ : Nat → Int} {σ : Sem.State} {s : MSt} (hG : Good ρ σ s) {l r : Expression} {o : Option MSt}
    (h : StepOk ρ σ s r o) : StepsOk ρ σ s l r o := by
  obtain ⟨s', e, h1, h2, h3⟩ := h
  exact ⟨s', e, hG.of_same h3 h1 h2, h3.mono fun _ => List.mem_append_right _⟩

theorem StepOk.toSteps_l {ρ : Nat → Int} {σ : Sem.State} {s : MSt} (hG : Good ρ σ s) {l r : Expression} {o : Option MSt}
    (h : StepOk ρ σ s l o) : StepsOk ρ σ s l r o := by
  obtain ⟨s', e, h1, h2, h3⟩ := h
  exact ⟨s', e, hG.of_same h3 h1 h2, h3.mono fun _ => List.mem_append_left _⟩

theorem StepsOk.refl {ρ : Nat → Int} {σ : Sem.State} {s : MSt} (hG : Good ρ σ s) (l r : Expression) :
    StepsOk ρ σ s l r (some s) := ⟨s, rfl, hG, SameExcept.refl _ _⟩

theorem StepsOk.swap {ρ : Nat → Int} {σ : Sem.State} {s : MSt} {l r : Expression} {o : Option MSt}
    (h : StepsOk ρ σ s r l o) : StepsOk ρ σ s l r o := by
  obtain ⟨s', e, g, x⟩ := h
  exact ⟨s', e, g, x.mono fun _ hm => List.mem_append.mpr (List.mem_append.mp hm).symm⟩

theorem steps_chain {ρ : Nat → Int} {σ : Sem.State} {s : MSt} {l r : Expression} {o1 : Option MSt}
    (h1 : StepsOk ρ σ s l r o1) (F : MSt → Option MSt)
    (h2 : ∀ s1, Good ρ σ s1 → SameExcept s s1 (leafVars l ++ leafVars r) → StepsOk ρ σ s1 l r (F s1)) :
    StepsOk ρ σ s l r (andThen o1 F) := by
  obtain ⟨s1, e1, g1, x1⟩ := h1
  subst e1
  show StepsOk ρ σ s l r (F s1)
  obtain ⟨s2, e2, g2, x2⟩ := h2 s1 g1 x1
  exact ⟨s2, e2, g2, (x1.trans x2).mono fun _ hm => (List.mem_append.mp hm).elim id id⟩

structure Pair (σ : Sem.State) (s : MSt) (l r : Expression) (vl vr : Bv) : Prop where
  ll : isLeaf l = true
  lr : isLeaf r = true
  ne : l ≠ r
  pl : LeafPre s l
  pr : LeafPre s r
  evl : Sem.eval σ l = some vl
  evr : Sem.eval σ r = some vr
  w : vl.w = vr.w

theorem Pair.symm {σ : Sem.State} {s : MSt} {l r : Expression} {vl vr : Bv} (P : Pair σ s l r vl vr) : Pair σ s r l vr vl :=
  ⟨P.lr, P.ll, fun e => P.ne e.symm, P.pr, P.pl, P.evr, P.evl, P.w.symm⟩

theorem Pair.widths {ρ : Nat → Int} {σ : Sem.State} {s : MSt} {l r : Expression} {vl vr : Bv} (P : Pair σ s l r vl vr)
    (hG : Good ρ σ s) : vl.w = 8 * l.bytesize ∧ vr.w = 8 * r.bytesize ∧ 0 < vl.w := by
  obtain ⟨_, c1, m1⟩ := leaf_eval_sound hG P.pl P.evl
  obtain ⟨_, c2, m2⟩ := leaf_eval_sound hG P.pr P.evr
  have := (leaf_bytesize_pos P.pl).1
  refine ⟨by rw [m1.1, c1], by rw [m2.1, c2], by rw [m1.1, c1]; omega⟩

theorem tryToBv_replace {t : St} {d : DData} {p : Nat × Int} (h : (t.replaceIfGlobalPointer d).tryToBv = some p) :
    t.replaceIfGlobalPointer d = d := by
  unfold St.replaceIfGlobalPointer at h ⊢
  cases hto : St.tryToOffset d with
  | none => rfl
  | some c =>
    rw [hto] at h
    simp only at h ⊢
    by_cases hc : t.globals.contains (toU 64 c) = true
    · rw [if_pos hc] at h ⊢
      cases ha : d.abs with
      | none => rfl
      | some a =>
        rw [ha] at h
        simp [DData.tryToBv, DData.fromTarget] at h
    · rw [if_neg hc]

theorem tryToBv_leaf_sound {ρ : Nat → Int} {σ : Sem.State} {s : MSt} (hG : Good ρ σ s) {e : Expression}
    (hl : isLeaf e = true) {w : Nat} {c : Int} (h : (s.st.eval e).tryToBv = some (w, c)) {v : Bv}
    (hv : Sem.eval σ e = some v) : v.toInt = c ∧ w = v.w := by
  obtain ⟨d, hd, hm, hw⟩ : ∃ d, s.st.eval e = s.st.replaceIfGlobalPointer d ∧ d.Mem ρ v ∧ AbsW d := by
    cases e with
    | Var x => cases Option.some.inj hv; exact ⟨_, rfl, hG.regs x, (hG.sized x).2⟩
    | Const b c0 =>
      cases Option.some.inj hv
      refine ⟨_, rfl, DData.ofBv_mem ρ _ rfl, fun a ha => ?_⟩
      cases Option.some.inj ha
      exact (congrArg (8 * ·) (DData.itvBytes_mul8 (k := b) rfl)).symm
    | _ => simp [isLeaf] at hl
  rw [hd] at h
  rw [tryToBv_replace h] at h
  obtain ⟨_, _, a, ha, _, _, hwid⟩ := DData.tryToBv_some h
  exact ⟨DData.mem_of_tryToBv h hm, by rw [← hwid, hw a ha, hm.1]⟩

/-- `stepIfConst s e F` runs `F` on the constant the state evaluates the leaf `e` to, if it is one; that constant is
the concrete value of `e` (`tryToBv_leaf_sound`), so it is enough that `F` is sound on the concrete value -/
theorem stepIfConst_ok {ρ : Nat → Int} {σ : Sem.State} {s : MSt} (hG : Good ρ σ s) {e e' : Expression}
    (hl : isLeaf e = true) {v : Bv} (hv : Sem.eval σ e = some v) {F : Nat → Int → Option MSt}
    (h : StepOk ρ σ s e' (F v.w v.toInt)) : StepOk ρ σ s e' (stepIfConst s e F) := by
  unfold stepIfConst
  cases ht : (s.st.eval e).tryToBv with
  | none => exact StepOk.refl hG e'
  | some p =>
    obtain ⟨w, b⟩ := p
    obtain ⟨hb, hw⟩ := tryToBv_leaf_sound hG hl ht hv
    simp only
    rw [← hb, hw]
    exact h

theorem leafPre_congr {s s' : MSt} {X : List Variable} (h : SameExcept s s' X) {e : Expression} (hl : isLeaf e = true)
    (hd : ∀ y ∈ leafVars e, y ∉ X) (hp : LeafPre s e) : LeafPre s' e := by
  obtain ⟨_, _, a3, a4, a5⟩ := h
  cases e with
  | Var x =>
    have hx : s'.st.getReg x = s.st.getReg x := a5 x (hd x (by simp [leafVars]))
    have hev : s'.st.eval (.Var x) = s.st.eval (.Var x) := by
      show s'.st.replaceIfGlobalPointer (s'.st.getReg x) = s.st.replaceIfGlobalPointer (s.st.getReg x)
      unfold St.replaceIfGlobalPointer
      rw [hx, a3, a4]
    simp only [LeafPre] at hp ⊢
    rw [hx, hev]; exact hp
  | Const b c => exact hp
  | _ => simp [isLeaf] at hl

theorem leafVars_disjoint {l r : Expression} (hne : l ≠ r) :
    ∀ y ∈ leafVars l, y ∉ leafVars r := by
  intro y hy
  cases l with
  | Var x =>
    simp only [leafVars, List.mem_singleton] at hy; subst hy
    cases r with
    | Var z =>
      simp only [leafVars, List.mem_singleton]
      intro e; exact hne (by rw [e])
    | _ => simp [leafVars]
  | _ => simp [leafVars] at hy

/-- the common shape of the arms on two leaves: if `l` evaluates to a constant a step on `r`, then, in the new state,
if `r` evaluates to a constant a step on `l` -/
theorem constSteps_sound {ρ : Nat → Int} {σ : Sem.State} {s : MSt} {l r : Expression} {vl vr : Bv}
    (hG : Good ρ σ s) (P : Pair σ s l r vl vr) {F1 : Nat → Int → Option MSt} {F2 : MSt → Nat → Int → Option MSt}
    (h1 : StepOk ρ σ s r (F1 vl.w vl.toInt))
    (h2 : ∀ s1, Good ρ σ s1 → LeafPre s1 l → StepOk ρ σ s1 l (F2 s1 vr.w vr.toInt)) :
    StepsOk ρ σ s l r (andThen (stepIfConst s l F1) fun s1 => stepIfConst s1 r (F2 s1)) := by
  -- the state after the step on `r` differs from `s` on the variables of `r` only, so `l` is still a leaf of it
  obtain ⟨s1, e1, r1, z1, x1⟩ := stepIfConst_ok hG P.ll P.evl h1
  rw [e1]
  show StepsOk ρ σ s l r (stepIfConst s1 r (F2 s1))
  have g1 : Good ρ σ s1 := hG.of_same x1 r1 z1
  have p1 : LeafPre s1 l := leafPre_congr x1 P.ll (leafVars_disjoint P.ne) P.pl
  obtain ⟨s2, e2, r2, z2, x2⟩ := stepIfConst_ok g1 P.lr P.evr (h2 s1 g1 p1)
  exact ⟨s2, e2, g1.of_same x2 r2 z2, (x1.trans x2).mono fun _ hm => List.mem_append.mpr (List.mem_append.mp hm).symm⟩

theorem specEqualConsts_sound {ρ : Nat → Int} {σ : Sem.State} {s : MSt} {l r : Expression} {vl vr : Bv}
    (hG : Good ρ σ s) (P : Pair σ s l r vl vr) (heq : vl.toInt = vr.toInt) :
    StepsOk ρ σ s l r (specEqualConsts (specByExpr l) (specByExpr r) s l r) := by
  unfold specEqualConsts
  refine constSteps_sound hG P ?_ fun s1 g1 p1 => ?_
  · rw [heq, P.w]; exact specLeaf_const hG P.pr P.evr
  · rw [← heq, ← P.w]; exact specLeaf_const g1 p1 P.evl

theorem boundStep_ok {ρ : Nat → Int} {σ : Sem.State} {s : MSt} (hG : Good ρ σ s) {e : Expression} (hp : LeafPre s e)
    {v : Bv} (hv : Sem.eval σ e = some v) (k : BoundKind) {bound : Int} (hb : InRange v.w bound)
    (hR : k.holds v.w v.toInt bound) : StepOk ρ σ s e (boundStep (specByExpr e) s e k bound) := by
  obtain ⟨_, c1, m1⟩ := leaf_eval_sound hG hp hv
  have hw : v.w = 8 * e.bytesize := by rw [m1.1, c1]
  obtain ⟨res, hres, hstep⟩ := specLeaf_bound hG hp hv k (bound := bound)
    (by rw [← hw]; exact hb) (by rw [← hw]; exact hR)
  unfold boundStep
  rw [hres]
  exact hstep

theorem specNotEqualConsts_sound {ρ : Nat → Int} {σ : Sem.State} {s : MSt} {l r : Expression} {vl vr : Bv}
    (hG : Good ρ σ s) (P : Pair σ s l r vl vr) (hne : vl.toInt ≠ vr.toInt) :
    StepsOk ρ σ s l r (specNotEqualConsts (specByExpr l) (specByExpr r) s l r) := by
  unfold specNotEqualConsts
  exact constSteps_sound hG P (boundStep_ok hG P.pr P.evr .ne (inRange_of_width P.w) fun e => hne e.symm)
    fun s1 g1 p1 => boundStep_ok g1 p1 P.evl .ne (inRange_of_width P.w.symm) hne

/-- first half of `specialize_by_comparison_op` for a true comparison `a op b` with the constant `a`: the step refines
the right operand by an in-range bound that `b` satisfies -/
theorem specCmpLeftConst_boundStep {op : CmpOp} {a b : Bv} (hw : a.w = b.w) (h0 : 0 < a.w) (hT : CmpTrue op a b) :
    ∃ k bound, InRange b.w bound ∧ k.holds b.w b.toInt bound ∧
      ∀ rec s r, specCmpLeftConst rec s op a.w a.toInt r = boundStep rec s r k bound := by
  have ha : InRange a.w a.toInt := inRange_toInt a.v
  have hb : InRange a.w b.toInt := hw ▸ inRange_toInt b.v
  rw [← hw]
  cases op with
  | slt =>
    have hr := C04.inRange_succ ha hb hT
    have hne : ¬ a.toInt = smax a.w := fun e => by have := hb.2; rw [← e] at this; exact absurd hT (Int.not_lt.mpr this)
    refine ⟨.sge, a.toInt + 1, hr, Int.add_one_le_of_lt hT, fun rec s r => ?_⟩
    simp only [specCmpLeftConst]
    rw [if_neg hne, wrap_of_inRange _ h0 hr]
  | sle => exact ⟨.sge, a.toInt, ha, hT, fun _ _ _ => rfl⟩
  | ult =>
    have hs := toU_succ hT
    have hne : ¬ a.toInt = -1 := fun e => by
      rw [e, show (-1 : Int) + 1 = 0 from rfl, wrap_of_inRange _ h0 (C02.inRange_zero _), toU_zero] at hs
      exact absurd hs (Nat.succ_ne_zero _).symm
    refine ⟨.uge, wrap a.w (a.toInt + 1), wrap_inRange _ h0 _, ?_, fun rec s r => ?_⟩
    · show toU a.w b.toInt ≥ toU a.w (wrap a.w (a.toInt + 1))
      rw [hs]; exact hT
    · simp only [specCmpLeftConst]
      rw [if_neg hne]
  | ule => exact ⟨.uge, a.toInt, ha, hT, fun _ _ _ => rfl⟩

/-- second half, the constant is `b`: the step refines the left operand -/
theorem specCmpRightConst_boundStep {op : CmpOp} {a b : Bv} (hw : a.w = b.w) (h0 : 0 < a.w) (hT : CmpTrue op a b) :
    ∃ k bound, InRange a.w bound ∧ k.holds a.w a.toInt bound ∧
      ∀ rec s l, specCmpRightConst rec s op a.w b.toInt l = boundStep rec s l k bound := by
  have ha : InRange a.w a.toInt := inRange_toInt a.v
  have hb : InRange a.w b.toInt := hw ▸ inRange_toInt b.v
  cases op with
  | slt =>
    have hr := C04.inRange_pred ha hb hT
    have hne : ¬ b.toInt = smin a.w := fun e => by have := ha.1; rw [← e] at this; exact absurd hT (Int.not_lt.mpr this)
    refine ⟨.sle, b.toInt - 1, hr, Int.le_sub_one_of_lt hT, fun rec s l => ?_⟩
    simp only [specCmpRightConst]
    rw [if_neg hne, wrap_of_inRange _ h0 hr]
  | sle => exact ⟨.sle, b.toInt, hb, hT, fun _ _ _ => rfl⟩
  | ult =>
    have hp := toU_pred hT
    have hne : ¬ b.toInt = 0 := fun e => by
      rw [e, toU_zero] at hp
      exact absurd hp (Nat.succ_ne_zero _)
    refine ⟨.ule, wrap a.w (b.toInt - 1), wrap_inRange _ h0 _, ?_, fun rec s l => ?_⟩
    · show toU a.w a.toInt ≤ toU a.w (wrap a.w (b.toInt - 1))
      exact Nat.le_of_lt_succ (by rw [Nat.succ_eq_add_one, hp]; exact hT)
    · simp only [specCmpRightConst]
      rw [if_neg hne]
  | ule => exact ⟨.ule, b.toInt, hb, hT, fun _ _ _ => rfl⟩

/-- **`specialize_by_comparison_op` is sound**: if `l op r` holds concretely, both refinement steps succeed and keep
the concrete state represented -/
theorem specComparisonOp_sound {ρ : Nat → Int} {σ : Sem.State} {s : MSt} {l r : Expression} {vl vr : Bv}
    (hG : Good ρ σ s) (P : Pair σ s l r vl vr) (op : CmpOp) (hT : CmpTrue op vl vr) :
    StepsOk ρ σ s l r (specComparisonOp (specByExpr l) (specByExpr r) s op l r) := by
  obtain ⟨_, _, hw0⟩ := P.widths hG
  obtain ⟨k1, b1, hb1, hR1, e1⟩ := specCmpLeftConst_boundStep P.w hw0 hT
  obtain ⟨k2, b2, hb2, hR2, e2⟩ := specCmpRightConst_boundStep P.w hw0 hT
  unfold specComparisonOp
  refine constSteps_sound hG P ?_ fun s1 g1 p1 => ?_
  · rw [e1]; exact boundStep_ok hG P.pr P.evr k1 hb1 hR1
  · rw [← P.w, e2]; exact boundStep_ok g1 p1 P.evl k2 hb2 hR2

theorem specPointerComparison_free {recL recR : Rec} {s : MSt} {isEq : Bool} {l r : Expression}
    (h : ptrCmpFires s l r = false) : specPointerComparison recL recR s isEq l r = some s := by
  unfold ptrCmpFires at h
  unfold specPointerComparison
  simp only
  cases hl : ((s.st.eval l).withoutHints).getIfUniqueTarget with
  | none => simp
  | some pl =>
    obtain ⟨li, lo⟩ := pl
    cases hr : ((s.st.eval r).withoutHints).getIfUniqueTarget with
    | none => simp
    | some pr =>
      obtain ⟨ri, ro⟩ := pr
      rw [hl, hr] at h
      simp only at h ⊢
      by_cases he : li = ri
      · subst he
        simp only [beq_self_eq_true, Bool.true_and] at h
        simp [h]
      · simp [he]

/-- the two constant steps of an `IntEqual`/`IntNotEqual` arm followed by a pointer comparison that the fragment
switches off -/
theorem andThen_pointerComparison {ρ : Nat → Int} {σ : Sem.State} {s : MSt} {l r : Expression} {o : Option MSt}
    (h : StepsOk ρ σ s l r o) (hfree : ∀ s2, o = some s2 → ptrCmpFires s2 l r = false) (isEq : Bool) :
    StepsOk ρ σ s l r (andThen o fun s => specPointerComparison (specByExpr l) (specByExpr r) s isEq l r) := by
  obtain ⟨s2, rfl, g2, x2⟩ := h
  show StepsOk ρ σ s l r (specPointerComparison (specByExpr l) (specByExpr r) s2 isEq l r)
  rw [specPointerComparison_free (hfree s2 rfl)]
  exact ⟨s2, rfl, g2, x2⟩

/-- `IntEqual` specialised to the truth value `eq` (`IntNotEqual` to `!eq`) -/
theorem specEq_sound {ρ : Nat → Int} {σ : Sem.State} {s : MSt} {l r : Expression} {vl vr : Bv}
    (hG : Good ρ σ s) (P : Pair σ s l r vl vr) {eq : Bool} (hH : eq = true ↔ vl.toInt = vr.toInt)
    (hfree : ptrCmpFree s (.BinOp .IntEqual l r) eq = true) :
    StepsOk ρ σ s l r (if (if eq then (1 : Int) else 0) ≠ 0 then specEqual (specByExpr l) (specByExpr r) s l r
      else specNotEqual (specByExpr l) (specByExpr r) s l r) := by
  simp only [ptrCmpFree] at hfree
  cases eq
  · refine andThen_pointerComparison (specNotEqualConsts_sound hG P fun e => Bool.noConfusion (hH.mpr e)) ?_ false
    intro s2 e2; simpa [e2] using hfree
  · refine andThen_pointerComparison (specEqualConsts_sound hG P (hH.mp rfl)) ?_ true
    intro s2 e2; simpa [e2] using hfree

/-- an order comparison specialised to the truth value `bb`: the comparison itself, or the swapped comparison of the
other strictness -/
theorem specOrd_sound {ρ : Nat → Int} {σ : Sem.State} {s : MSt} {l r : Expression} {vl vr : Bv}
    (hG : Good ρ σ s) (P : Pair σ s l r vl vr) (op : CmpOp) {bb : Bool} (hH : bb = true ↔ CmpTrue op vl vr) :
    StepsOk ρ σ s l r
      (if (if bb then (1 : Int) else 0) = 0 then specComparisonOp (specByExpr r) (specByExpr l) s op.swapNeg r l
        else specComparisonOp (specByExpr l) (specByExpr r) s op l r) := by
  cases bb
  · exact (specComparisonOp_sound hG P.symm op.swapNeg (CmpTrue.not P.w fun e => Bool.noConfusion (hH.mpr e))).swap
  · exact specComparisonOp_sound hG P op (hH.mp rfl)

/-- a comparison is not one of the arithmetic arms of `specialize_by_binop_expression_result` -/
theorem specBinop_cmp {op : BinOpType} (hop : isCmp6 op = true) (recL recR : Rec) (s : MSt) (l r : Expression)
    (res : DData) : specBinop recL recR s op l r res =
      match res.tryToBv with
      | some (w, rb) => specBinopBv recL recR s op l r w rb
      | none => some s := by
  rcases isCmp6_cases hop with rfl | rfl | rfl | rfl | rfl | rfl <;> rfl

theorem tryToBv_bit (b : Bool) : (DData.ofBvI 8 (if b then 1 else 0)).tryToBv = some (8, if b then 1 else 0) := by
  cases b <;> decide

theorem specBinop_cmp_sound {ρ : Nat → Int} {σ : Sem.State} {s : MSt} {op : BinOpType} {l r : Expression} {vl vr : Bv}
    (hG : Good ρ σ s) (P : Pair σ s l r vl vr) (hop : isCmp6 op = true) {bb : Bool}
    (hH : CmpHolds op vl vr bb) (hfree : ptrCmpFree s (.BinOp op l r) bb = true) :
    StepsOk ρ σ s l r (specByExpr (.BinOp op l r) s (DData.ofBvI 8 (if bb then 1 else 0))) := by
  rw [specByExpr, specBinop_cmp hop, tryToBv_bit]
  rcases isCmp6_cases hop with rfl | rfl | rfl | rfl | rfl | rfl
  · exact specEq_sound hG P hH hfree
  · -- `IntNotEqual` to the truth value `bb` is `IntEqual` to `!bb`
    have hH' : (!bb) = true ↔ vl.toInt = vr.toInt := by
      cases bb
      · exact ⟨fun _ => Decidable.not_not.mp fun e => Bool.noConfusion (hH.mpr e), fun _ => rfl⟩
      · exact ⟨fun e => Bool.noConfusion e, fun e => absurd e (hH.mp rfl)⟩
    cases bb <;> exact specEq_sound hG P hH' hfree
  · exact specOrd_sound hG P .ult hH
  · exact specOrd_sound hG P .ule hH
  · exact specOrd_sound hG P .slt hH
  · exact specOrd_sound hG P .sle hH

def CondOk (ρ : Nat → Int) (σ : Sem.State) (s : MSt) (o : Option MSt) : Prop :=
  ∃ s', o = some s' ∧ Good ρ σ s' ∧ s'.objs = s.objs ∧ s'.stackId = s.stackId

theorem StepsOk.cond {ρ : Nat → Int} {σ : Sem.State} {s : MSt} {l r : Expression} {o : Option MSt}
    (h : StepsOk ρ σ s l r o) : CondOk ρ σ s o := by
  obtain ⟨s', e, g, a1, a2, _⟩ := h
  exact ⟨s', e, g, a1, a2⟩

theorem leafPre_of {s : MSt} (hs : s.st.WF) {e : Expression} (hl : isLeaf e = true) (hw : C12.WellSized e)
    (h8 : e.bytesize ≤ 8) (hsh : leafOk s e = true) : LeafPre s e := by
  cases e with
  | Var x =>
    exact ⟨St.getReg_wf hs x hw, ⟨hw, h8⟩, hsh⟩
  | Const b c => exact ⟨hw, h8⟩
  | _ => simp [isLeaf] at hl

theorem binSizes_cmp {op : BinOpType} (hop : isCmp6 op = true) {a b : Nat} (h : C12.binSizesOk op a b) : a = b := by
  rcases isCmp6_cases hop with rfl | rfl | rfl | rfl | rfl | rfl <;> exact h

theorem unOp_bit (b : Bool) :
    (DData.ofBvI 8 (if b then 1 else 0)).unOp .BoolNegate = DData.ofBvI 8 (if (!b) then 1 else 0) := by
  cases b <;> decide

theorem boolNegate_arg {x : Bv} {bb : Bool} (hw : x.w = 8) (h : Ref.unOp .BoolNegate x = .val (Bv.ofBool bb)) :
    x = Bv.ofBool (!bb) := by
  rcases C10.ref_boolNegate_inv h with ⟨hx, e⟩ | ⟨hx, _, e⟩ <;> cases Bv.ofBool_inj e <;> exact Bv.ext' hw hx

/-- **C13-cond-sound (general form).** By induction on the condition. -/
theorem specByExpr_cond_sound {ρ : Nat → Int} {σ : Sem.State} :
    ∀ (c : Expression) (s : MSt) (bb : Bool), Good ρ σ s → s.st.WF → ExprOk c → condFrag c = true →
      leavesOk s c = true → ptrCmpFree s c bb = true → Sem.eval σ c = some (Bv.ofBool bb) →
      CondOk ρ σ s (specByExpr c s (DData.ofBvI 8 (if bb then 1 else 0))) := by
  intro c
  induction c with
  | Var x =>
    intro s bb hG hs hok hfrag hleaves _ hev
    simp only [condFrag, beq_iff_eq] at hfrag
    have hp : LeafPre s (.Var x) := leafPre_of hs rfl hok.1 (by show x.size ≤ 8; omega) hleaves
    have := specLeaf_const hG hp hev
    rw [Bv.ofBool_w, Bv.ofBool_toInt] at this
    exact (this.toSteps_l hG (r := .Var x)).cond
  | BinOp op l r _ _ =>
    intro s bb hG hs hok hfrag hleaves hfree hev
    simp only [condFrag, Bool.and_eq_true, decide_eq_true_eq] at hfrag
    obtain ⟨⟨⟨⟨hop, hll⟩, hlr⟩, hl8⟩, hne⟩ := hfrag
    obtain ⟨hwl, hwr, hsz⟩ := hok.1
    have hsize : l.bytesize = r.bytesize := binSizes_cmp hop hsz
    simp only [leavesOk, Bool.and_eq_true] at hleaves
    obtain ⟨vl, vr, evl, evr, href⟩ := C10.eval_binOp_some.mp hev
    obtain ⟨hw, hH⟩ := ref_cmp href hop
    have P : Pair σ s l r vl vr :=
      ⟨hll, hlr, hne, leafPre_of hs hll hwl hl8 hleaves.1, leafPre_of hs hlr hwr (by omega) hleaves.2, evl, evr, hw⟩
    exact (specBinop_cmp_sound hG P hop hH hfree).cond
  | UnOp op a ih =>
    intro s bb hG hs hok hfrag hleaves hfree hev
    cases op <;> simp only [condFrag] at hfrag <;> try (exact absurd hfrag (by decide))
    -- BoolNegate
    obtain ⟨x, hx, href⟩ := C10.eval_unOp_some.mp hev
    have hoka : ExprOk a := ⟨hok.1.1, hok.2⟩
    have ha1 : a.bytesize = 1 := hok.1.2
    obtain ⟨_, hsz, hm⟩ := St.eval_sound hs hG.glob hG.regs hoka
    have hxw : x.w = 8 := by rw [(hm x hx).1, hsz, ha1]
    have hxb := boolNegate_arg hxw href
    rw [hxb] at hx
    rw [specByExpr, unOp_bit]
    exact ih s (!bb) hG hs hoka hfrag hleaves hfree hx
  | _ =>
    intro s bb _ _ _ hfrag
    simp [condFrag] at hfrag

/-- what `specializeConditional_sound` and the conditional edge of the model transfer share: the specialised state
exists, represents the concrete state, and its global identifier still stands for address 0 -/
theorem specializeConditional_sound_glob {ρ : Nat → Int} {s : MSt} (hs : s.st.WF) (hg : s.st.globals ≠ [] → ρ s.st.gid = 0)
    {σ : Sem.State} (hin : s.In ρ σ) {c : Expression} (hc : ExprOk c) {isTrue : Bool} (h1 : condFrag c = true)
    (h2 : leavesOk s c = true) (h3 : ptrCmpFree s c isTrue = true) (hev : Sem.eval σ c = some (Bv.ofBool isTrue)) :
    ∃ s', specializeConditional s c isTrue = some s' ∧ s'.In ρ σ ∧ (s'.st.globals ≠ [] → ρ s'.st.gid = 0) ∧
      s'.objs = s.objs ∧ s'.stackId = s.stackId := by
  obtain ⟨s', e, g, a1, a2⟩ := specByExpr_cond_sound c s isTrue ⟨hin.1, sized_of_wf hs, hg⟩ hs hc h1 h2 h3 hev
  exact ⟨s', e, ⟨g.regs, hin.2.congr a1 a2⟩, g.glob, a1, a2⟩

/-- the decidable fragment of the theorem: syntactic shape, register shapes, no pointer comparison -/
def condInFrag (s : MSt) (c : Expression) (isTrue : Bool) : Bool :=
  condFrag c && leavesOk s c && ptrCmpFree s c isTrue

/-- **C13-cond-sound.** `Context::specialize_conditional` is a sound transfer of a conditional edge on the fragment:
if the concrete state is represented (registers and stack object), the registers are well-formed, the condition is
well-sized and in the fragment, and the reference interpreter evaluates the condition to the truth value of the branch,
then the specialisation is not "unsatisfiable" and the concrete state is represented by the specialised state (whose
memory objects are unchanged). -/
theorem specializeConditional_sound {ρ : Nat → Int} {s : MSt} (hs : s.WF) (hg : s.st.globals ≠ [] → ρ s.st.gid = 0)
    {σ : Sem.State} (hin : s.In ρ σ) {c : Expression} (hc : ExprOk c) {isTrue : Bool}
    (hfrag : condInFrag s c isTrue = true) (hev : Sem.eval σ c = some (Bv.ofBool isTrue)) :
    ∃ s', specializeConditional s c isTrue = some s' ∧ s'.In ρ σ ∧ s'.objs = s.objs ∧ s'.stackId = s.stackId := by
  simp only [condInFrag, Bool.and_eq_true] at hfrag
  obtain ⟨s', e, h, _, a⟩ := specializeConditional_sound_glob hs.regs hg hin hc hfrag.1.1 hfrag.1.2 hfrag.2 hev
  exact ⟨s', e, h, a⟩

theorem checkNull_of_nullFree {s : MSt} {d : Def} (h : nullFree s d = true) :
    checkDefForNullDereferences s d = some (s, false) := by
  unfold checkDefForNullDereferences
  cases d with
  | Assign x e => rfl
  | Load x a | Store a e =>
    simp only [nullFree] at h ⊢
    cases ha : (s.st.eval a).abs with
    | none => rfl
    | some abs =>
      rw [ha] at h
      simp only at h ⊢
      cases hi : tryToOffsetInterval abs with
      | none => rfl
      | some p =>
        obtain ⟨st, en⟩ := p
        rw [hi] at h
        simp only [Bool.not_eq_true'] at h ⊢
        rw [if_neg (by rw [h]; simp)]

/-- the `Def`s of the proved fragment (next to `nullFree`), on the state before the step: well-sized expressions
(`ExprOk`), and
* `Assign`: the value has the size of the register;
* `Store`: pointer-sized address that evaluates to a pointer into the unique stack object only (`storeFrag`), a value of
  at most 8 bytes, no i64 overflow of `offset + size` (`storeBounded`);
* `Load`: pointer-sized address without absolute part whose targets are the stack, identifiers without object or have
  non-constant offsets (`loadFrag`), a register of 1 to 8 bytes. -/
def DefFrag (s : MSt) : Def → Prop
  | .Assign x e => ExprOk e ∧ e.bytesize = x.size
  | .Store a e => ExprOk a ∧ ExprOk e ∧ a.bytesize = 8 ∧ e.bytesize ≤ 8 ∧ s.storeFrag a = true ∧
      s.storeBounded a e.bytesize = true
  | .Load x a => ExprOk a ∧ a.bytesize = 8 ∧ 0 < x.size ∧ x.size ≤ 8 ∧ s.loadFrag a = true

/-- **C13-update-def.** The `Def::Assign`, `Def::Store` and `Def::Load` arms of `Context::update_def` are sound edge
transfers on the fragment: a represented concrete state (registers and stack object) in which the reference interpreter
executes the `Def` is taken to a state represented by the abstract successor state, which exists and is well-formed. -/
theorem updateDef_sound {ρ : Nat → Int} {s : MSt} (hs : s.WF) (hg : s.st.globals ≠ [] → ρ s.st.gid = 0)
    {σ : Sem.State} (h8 : σ.ptrBytes = 8) (hin : s.In ρ σ) {d : Def} (hnull : nullFree s d = true) (hfrag : DefFrag s d)
    {σ' : Sem.State} {ev : List Sem.Event} (hex : Sem.execDef σ d = some (σ', ev)) :
    ∃ s', updateDef s d = some (some s') ∧ s'.In ρ σ' ∧ s'.WF := by
  unfold updateDef
  rw [checkNull_of_nullFree hnull]
  cases d with
  | Assign x e =>
    obtain ⟨he, hsz⟩ := hfrag
    obtain ⟨v, hev, _, hr⟩ := Sem.execDef_assign.mp hex
    cases hr
    obtain ⟨r1, r2⟩ := St.handleRegisterAssign_sound hs.regs hg hin.1 he hsz hev
    exact ⟨_, rfl, ⟨r1, hin.2⟩, r2, hs.stack⟩
  | Store a e =>
    obtain ⟨ha, he, hab, he8, hsf, hsb⟩ := hfrag
    simp only
    have hbnd : ∀ id o, (s.st.eval a).getIfUniqueTarget = some (id, o) → ∀ y, o.Mem y → y + (e.bytesize : Int) ≤ i64Max := by
      intro id o hut y hy
      unfold MSt.storeBounded at hsb
      rw [hut] at hsb
      simp only [decide_eq_true_eq] at hsb
      have := hy.2.1
      omega
    obtain ⟨s', e1, e2, e3⟩ := handleStore_sound hs hg h8 hin ha he hab he8 hsf hbnd hex
    exact ⟨s', by rw [e1]; rfl, e2, e3⟩
  | Load x a =>
    obtain ⟨ha, hab, hx0, hx8, hlf⟩ := hfrag
    simp only
    obtain ⟨s', e1, e2, e3⟩ := handleLoad_sound hs hg hin ha hab hx0 hx8 hlf hex
    exact ⟨s', by rw [e1]; rfl, e2, e3⟩

/-! ### non-vacuity: the hypotheses are satisfiable and the transfers do something -/
namespace CondEx

def exRSP : Variable := { name := "RSP", size := 8 }
def exRAX : Variable := { name := "RAX", size := 8 }
def exRBX : Variable := { name := "RBX", size := 8 }

/-- `RSP = stack - 16`, `RAX ∈ [0, 10]` -/
def exM : MSt :=
  { st := { regs := [(exRSP, DData.fromTarget 0 (IntervalDomain.single 64 (-16))),
                     (exRAX, DData.ofItv ⟨⟨64, 0, 10, 1⟩, none, none, 0⟩)], globals := [], gid := 1 }
    stackId := 0
    objs := [(0, { unique := true, mem := [] }), (1, { unique := true, mem := [] })] }

def exAddr : Expression := .BinOp .IntAdd (.Var exRSP) (.Const 8 8)

-- store `RAX` at `stack - 8`, load it back into `RBX`: the loaded value is the stored interval
example : ((exM.handleStore exAddr (.Var exRAX)).bind fun s => s.handleLoad exRBX exAddr).map (fun s => s.st.getReg exRBX)
    = some (DData.ofItv ⟨⟨64, 0, 10, 1⟩, none, none, 0⟩) := by decide +kernel
example : exM.storeFrag exAddr = true ∧ exM.storeBounded exAddr 8 = true ∧ nullFree exM (.Store exAddr (.Var exRAX)) = true := by
  decide +kernel

-- the true branch of `RAX <s 5` restricts `RAX` to `[0, 4]`, the false branch to `[5, 10]`
def exCond : Expression := .BinOp .IntSLess (.Var exRAX) (.Const 8 5)
example : (specializeConditional exM exCond true).map (fun s => (s.st.getReg exRAX).abs.map (·.interval))
    = some (some ⟨64, 0, 4, 1⟩) := by decide +kernel
example : (specializeConditional exM exCond false).map (fun s => (s.st.getReg exRAX).abs.map (·.interval))
    = some (some ⟨64, 5, 10, 1⟩) := by decide +kernel
example : condInFrag exM exCond true = true ∧ condInFrag exM exCond false = true := by decide +kernel
-- `RAX == 11` is unsatisfiable in the true branch (and the theorem says: then no represented state takes that branch)
example : specializeConditional exM (.BinOp .IntEqual (.Var exRAX) (.Const 8 11)) true = none := by decide +kernel

def exσ2 : Sem.State := (({ seed := 1 } : Sem.State).setReg exRSP (Bv.ofNat 64 0x7ffd00000ff0)).setReg exRAX (Bv.ofNat 64 3)
def exρ : Nat → Int := fun _ => 0x7ffd00001000

theorem exRAX_wf : (DData.ofItv ⟨⟨64, 0, 10, 1⟩, none, none, 0⟩).WF ∧ (DData.ofItv ⟨⟨64, 0, 10, 1⟩, none, none, 0⟩).size = 8 :=
  DData.ofItv_wf (k := 8) (C02.ofInterval_wf (I := ⟨64, 0, 10, 1⟩) (by decide)) (by decide) rfl

theorem exM_wf : exM.WF := by
  refine ⟨?_, regionOK_nil⟩
  intro v d hm
  simp only [exM, List.mem_cons, Prod.mk.injEq, List.not_mem_nil, or_false] at hm
  rcases hm with ⟨rfl, rfl⟩ | ⟨rfl, rfl⟩
  · exact ⟨exPtr_wf 0 (-16) (by decide), rfl⟩
  · exact ⟨exRAX_wf.1, rfl⟩

theorem exM_in : exM.In exρ exσ2 := by
  refine ⟨?_, fun c hc => absurd hc List.not_mem_nil⟩
  intro v
  unfold exσ2
  rw [Sem.getReg_setReg]
  by_cases h1 : v = exRAX
  · subst h1
    simp only [if_true]
    exact (DData.contains_iff exRAX_wf.1 _).mp (by decide)
  · rw [if_neg h1, Sem.getReg_setReg]
    by_cases h2 : v = exRSP
    · subst h2
      simp only [if_true]
      exact (DData.contains_iff (exPtr_wf 0 (-16) (by decide)) _).mp (by decide)
    · have h1' : ¬ exRAX = v := fun e => h1 e.symm
      have h2' : ¬ exRSP = v := fun e => h2 e.symm
      simp only [h2, if_false, St.getReg, exM, List.find?, h1', h2', decide_false]
      exact ⟨C10.stateWF_default 1 v, Or.inl rfl⟩

-- `specializeConditional_sound` applies to the true branch of `RAX <s 5` at `RAX = 3`
example : ∃ s', specializeConditional exM exCond true = some s' ∧ s'.In exρ exσ2 ∧ s'.objs = exM.objs ∧ s'.stackId = exM.stackId :=
  specializeConditional_sound exM_wf (fun h => absurd rfl h) exM_in (c := exCond)
    ⟨⟨by decide +kernel, by decide +kernel, rfl⟩, trivial, trivial⟩ (by decide +kernel) (by rfl)

-- `updateDef_sound` applies to the store of `RAX` at `stack - 8`
example : ∃ s', updateDef exM (.Store exAddr (.Var exRAX)) = some (some s') ∧
    s'.In exρ (exσ2.writeMem 0x7ffd00000ff8 8 3) ∧ s'.WF :=
  updateDef_sound exM_wf (fun h => absurd rfl h) rfl exM_in (d := .Store exAddr (.Var exRAX)) (by decide +kernel)
    ⟨⟨⟨by decide +kernel, by decide +kernel, rfl⟩, trivial, trivial⟩, ⟨by decide +kernel, trivial⟩, rfl, by decide +kernel, by decide +kernel, by decide +kernel⟩ (by rfl)

end CondEx

end CweModel.C13
