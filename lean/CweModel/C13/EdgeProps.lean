/-
C13 — "PI-lite", layer 6, theorems: the guarded model transfer (`Edge.lean`) satisfies the hypotheses of the
abstract-interpretation meta-theorem (`Fix.sound_of_closed`, Base/Fix.lean) for EVERY input, so every post-fixpoint of the
model transfer of a function describes every concretely reachable machine state (registers and stack memory):
`pi_model_sound_partial`. The executable checks the driver runs on the per-node dump of the REAL analysis imply the
hypotheses (`closedB_sound`, `goodB_sound`).
-/
import CweModel.C13.Edge
import CweModel.C13.CondProps
import CweModel.C13.JoinProps

namespace CweModel.C13
open CweModel CweModel.IR CweModel.Itv CweModel.MemRegion

theorem wfItvB_sound {a : IntervalDomain} (h : wfItvB a = true) : a.WF := by
  unfold wfItvB at h
  simp only [Bool.and_eq_true, decide_eq_true_eq] at h
  obtain ⟨⟨⟨h1, h2⟩, h3⟩, h4⟩ := h
  refine ⟨h1, ?_, ?_, h4⟩
  · intro u hu; rw [hu] at h2; simpa using h2
  · intro l hl; rw [hl] at h3; simpa using h3

theorem wfValB_sound {d : DData} (h : wfValB d = true) : d.WF := by
  unfold wfValB at h
  simp only [Bool.and_eq_true, decide_eq_true_eq, List.all_eq_true, beq_iff_eq] at h
  obtain ⟨⟨h1, h2⟩, h3⟩ := h
  refine ⟨h1, ?_, ?_⟩
  · intro a ha
    rw [ha] at h2
    simp only [Bool.and_eq_true, beq_iff_eq] at h2
    exact ⟨wfItvB_sound h2.1, h2.2⟩
  · intro i o hm
    have := h3 (i, o) hm
    exact ⟨wfItvB_sound this.1, this.2⟩

theorem regsGoodB_sound {t : St} (h : regsGoodB t = true) : t.WF ∧ RegKeys t ∧ Size8 t := by
  unfold regsGoodB at h
  simp only [Bool.and_eq_true, decide_eq_true_eq, List.all_eq_true, beq_iff_eq] at h
  obtain ⟨h1, h2⟩ := h
  refine ⟨?_, h2, ?_⟩
  · intro v d hm
    have := h1 (v, d) hm
    exact ⟨wfValB_sound this.1.1, this.1.2⟩
  · intro v d hm
    exact (h1 (v, d) hm).2

theorem regionGoodB_sound {r : Region DData} (h : regionGoodB r = true) : RegionOK r := by
  unfold regionGoodB at h
  simp only [Bool.and_eq_true, decide_eq_true_eq, List.all_eq_true, Bool.not_eq_true'] at h
  obtain ⟨⟨h1, h2⟩, h3⟩ := h
  refine ⟨⟨h1, h2, ?_, ?_⟩, ?_, ?_⟩
  · intro c hc; exact (h3 c hc).1.1.1.1.1
  · intro c hc; exact (h3 c hc).1.1.1.1.2
  · intro c hc; exact ⟨(h3 c hc).1.2, (h3 c hc).2⟩
  · intro c hc; exact ⟨wfValB_sound (h3 c hc).1.1.1.2, (h3 c hc).1.1.2⟩

structure GoodS (s : MSt) : Prop where
  wf : s.WF
  keys : RegKeys s.st
  size8 : Size8 s.st
  stack : ∃ o, objGet s.objs s.stackId = some o
  objKeys : ObjKeys s.objs

theorem goodB_sound {s : MSt} (h : goodB s = true) : GoodS s := by
  unfold goodB at h
  simp only [Bool.and_eq_true, decide_eq_true_eq] at h
  obtain ⟨⟨h1, h2⟩, h3⟩ := h
  obtain ⟨r1, r2, r3⟩ := regsGoodB_sound h1
  cases ho : objGet s.objs s.stackId with
  | none => rw [ho] at h2; cases h2
  | some o =>
    rw [ho] at h2
    refine ⟨⟨r1, ?_⟩, r2, r3, ⟨o, ho⟩, h3⟩
    rw [stackRegion_of_get ho]
    exact regionGoodB_sound h2

theorem isCountCastB_eq (op : CastOpType) : isCountCastB op = isCountCast op := by cases op <;> rfl

theorem countFitsB_sound (e : Expression) : countFitsB e = true → CountFits e := by
  induction e with
  | BinOp op l r ihl ihr =>
    intro h
    rw [countFitsB, Bool.and_eq_true] at h
    exact ⟨ihl h.1, ihr h.2⟩
  | UnOp op a ih => exact ih
  | Cast op n a ih =>
    intro h
    simp only [countFitsB, isCountCastB_eq, Bool.and_eq_true, Bool.or_eq_true, Bool.not_eq_true', decide_eq_true_eq] at h
    exact ⟨fun hc => h.1.resolve_left (by rw [hc]; exact Bool.noConfusion), ih h.2⟩
  | Subpiece lb n a ih => exact ih
  | Var x => exact fun _ => trivial
  | Const b x => exact fun _ => trivial
  | Unknown d n => exact fun _ => trivial

theorem exprOkB_sound {e : Expression} (h : exprOkB e = true) : ExprOk e := by
  unfold exprOkB at h
  simp only [Bool.and_eq_true, decide_eq_true_eq] at h
  exact ⟨h.1, countFitsB_sound e h.2⟩

theorem defFragB_sound {s : MSt} {d : Def} (h : defFragB s d = true) : nullFree s d = true ∧ DefFrag s d := by
  unfold defFragB at h
  simp only [Bool.and_eq_true] at h
  refine ⟨h.1, ?_⟩
  cases d with
  | Assign x e =>
    simp only [Bool.and_eq_true, beq_iff_eq] at h
    exact ⟨exprOkB_sound h.2.1, h.2.2⟩
  | Store a v =>
    simp only [Bool.and_eq_true, beq_iff_eq, decide_eq_true_eq] at h
    obtain ⟨_, ⟨⟨⟨⟨h1, h2⟩, h3⟩, h4⟩, h5⟩, h6⟩ := h
    exact ⟨exprOkB_sound h1, exprOkB_sound h2, h3, h4, h5, h6⟩
  | Load x a =>
    simp only [Bool.and_eq_true, beq_iff_eq, decide_eq_true_eq] at h
    obtain ⟨_, ⟨⟨⟨h1, h2⟩, h3⟩, h4⟩, h5⟩ := h
    exact ⟨exprOkB_sound h1, h2, h3, h4, h5⟩

theorem condFragB_sound {s : MSt} {c : Expression} {b : Bool} (h : condFragB s c b = true) :
    ExprOk c ∧ condFrag c = true ∧ leavesOk s c = true ∧ ptrCmpFree s c b = true := by
  unfold condFragB at h
  simp only [Bool.and_eq_true] at h
  exact ⟨exprOkB_sound h.1.1.1, h.1.1.2, h.1.2, h.2⟩

theorem getReg_perm {t t' : St} (hp : t.regs.Perm t'.regs) (hk : RegKeys t) (v : Variable) : t'.getReg v = t.getReg v := by
  rcases getReg_cases t' v with ⟨e', hno⟩ | hm'
  · rcases getReg_cases t v with ⟨e, _⟩ | hm
    · rw [e, e']
    · exact absurd (hp.mem_iff.mp hm) (hno _)
  · exact (getReg_of_mem hk (hp.mem_iff.mpr hm')).symm

theorem insertReg_perm (p : Variable × DData) (l : List (Variable × DData)) : (insertReg p l).Perm (p :: l) := by
  induction l with
  | nil => exact List.Perm.refl _
  | cons q rest ih =>
    unfold insertReg
    split
    · exact List.Perm.refl _
    · exact (List.Perm.cons q ih).trans (List.Perm.swap p q rest)

theorem canonRegs_perm (l : List (Variable × DData)) : (canonRegs l).Perm l := by
  induction l with
  | nil => exact List.Perm.refl _
  | cons p rest ih => exact (insertReg_perm p _).trans (List.Perm.cons p ih)

/-- **the concretisation of node values**: `⊤` represents every machine state; a state represents the machine states with
8-byte addresses whose registers and stack memory it describes (`MSt.In`), and it satisfies the executable invariant; the
identifier of the global memory object stands for address 0 -/
def Repr (ρ : Nat → Int) : AV → Sem.State → Prop
  | .top, _ => True
  | .st s, σ => σ.ptrBytes = 8 ∧ goodB s = true ∧ (s.st.globals ≠ [] → ρ s.st.gid = 0) ∧ s.In ρ σ

theorem repr_mkAV {ρ : Nat → Int} {σ : Sem.State} {s : MSt} (h8 : σ.ptrBytes = 8)
    (hg : s.st.globals ≠ [] → ρ s.st.gid = 0) (hin : s.In ρ σ) : Repr ρ (mkAV s) σ := by
  unfold mkAV
  split
  · rename_i hgood
    exact ⟨h8, hgood, hg, fun v => getReg_perm (canonRegs_perm s.st.regs) (goodB_sound hgood).keys v ▸ hin.1 v, hin.2⟩
  · trivial

theorem guard_sound {ρ : Nat → Int} {σ : Sem.State} {g : Bool} {r : Option AV}
    (h : g = true → ∃ x, r = some x ∧ Repr ρ x σ) : ∃ x, (if g = true then r else some .top) = some x ∧ Repr ρ x σ := by
  cases g
  · exact ⟨.top, rfl, trivial⟩
  · exact h rfl

/-- the concrete transition along an edge. A conditional edge is taken when the condition evaluates to exactly the 1-byte
value 1 or 0; the reference interpreter (`Sem.execJmps`, `nextBlock`) takes the branch on ANY non-zero value, so a run
whose condition has another non-zero value is not a `cstep` (conditions of `condFrag` other than a bare flag register
only produce 0 or 1) -/
def EdgeKind.cstep : EdgeKind → Sem.State → Sem.State → Prop
  | .block defs, σ, σ' => ∃ evs, Sem.execDefs σ defs = some (σ', evs)
  | .jump, σ, σ' => σ' = σ
  | .cond c b, σ, σ' => σ' = σ ∧ Sem.eval σ c = some (Bv.ofBool b)

theorem updateDef_globals {s s' : MSt} {d : Def} (hn : nullFree s d = true) (h : updateDef s d = some (some s')) :
    s'.st.globals = s.st.globals ∧ s'.st.gid = s.st.gid := by
  unfold updateDef at h
  rw [checkNull_of_nullFree hn] at h
  cases d with
  | Assign x e =>
    cases h
    exact St.setReg_globals _ _ _
  | Store a e =>
    obtain ⟨s1, h1, h2⟩ := Option.map_eq_some_iff.mp h
    cases h2
    unfold MSt.handleStore MSt.writeToAddress MSt.storeValue at h1
    obtain ⟨o, _, rfl⟩ := Option.map_eq_some_iff.mp h1
    exact ⟨rfl, rfl⟩
  | Load x a =>
    obtain ⟨s1, h1, h2⟩ := Option.map_eq_some_iff.mp h
    cases h2
    unfold MSt.handleLoad at h1
    split at h1 <;> cases h1 <;> exact St.setReg_globals _ _ _

/-- **block edge**: the `Def`s of a block (the executable invariant is tested before every `Def` and at the end of the
block; along the block only the declarative facts are needed) -/
theorem gDefs_sound {ρ : Nat → Int} (defs : List (Term Def)) (s : MSt) (σ σ' : Sem.State) (evs : List Sem.Event)
    (h8 : σ.ptrBytes = 8) (hg : s.st.globals ≠ [] → ρ s.st.gid = 0) (hin : s.In ρ σ)
    (hex : Sem.execDefs σ defs = some (σ', evs)) : ∃ x, gDefs defs s = some x ∧ Repr ρ x σ' := by
  induction defs generalizing s σ evs with
  | nil =>
    cases hex
    exact ⟨_, rfl, repr_mkAV h8 hg hin⟩
  | cons d ds ih =>
    obtain ⟨σ1, e1, σ2, e2, h1, h2, hr⟩ := Sem.execDefs_cons_some.mp hex
    cases hr
    unfold gDefs
    refine guard_sound fun hf => ?_
    rw [Bool.and_eq_true] at hf
    obtain ⟨hn, hdf⟩ := defFragB_sound hf.2
    obtain ⟨s1, u1, u2, _⟩ := updateDef_sound (goodB_sound hf.1).wf hg h8 hin hn hdf h1
    obtain ⟨g1, g2⟩ := updateDef_globals hn u1
    rw [u1]
    exact ih s1 σ1 e2 ((Sem.execDef_ptrBytes h1).trans h8) (by rw [g1, g2]; exact hg) u2 h2

/-- **every edge transfer is sound and does not block a feasible transition** -/
theorem edge_sound {ρ : Nat → Int} (k : EdgeKind) (a : AV) (σ σ' : Sem.State) (hr : Repr ρ a σ) (hc : k.cstep σ σ') :
    ∃ x, k.f a = some x ∧ Repr ρ x σ' := by
  cases a with
  | top => cases k <;> exact ⟨.top, rfl, trivial⟩
  | st s =>
    obtain ⟨h8, hgood, hg, hin⟩ := hr
    cases k with
    | block defs =>
      obtain ⟨evs, hex⟩ := hc
      exact gDefs_sound defs s σ σ' evs h8 hg hin hex
    | jump =>
      cases hc
      exact ⟨_, rfl, repr_mkAV h8 hg hin⟩
    | cond c b =>
      obtain ⟨rfl, hev⟩ := hc
      show ∃ x, gCond c b (.st s) = some x ∧ _
      unfold gCond
      refine guard_sound fun hf => ?_
      rw [Bool.and_eq_true] at hf
      obtain ⟨f1, f2, f3, f4⟩ := condFragB_sound hf.2
      obtain ⟨s1, e, h1, g1, _⟩ := specializeConditional_sound_glob (goodB_sound hgood).wf.regs hg hin f1 f2 f3 f4 hev
      rw [e]
      exact ⟨_, rfl, repr_mkAV h8 g1 h1⟩

/-- **the join is an upper bound** (the new value is the right operand of `State::merge`) -/
theorem join_sound {ρ : Nat → Int} (x b : AV) (σ : Sem.State) (hr : Repr ρ x σ) : Repr ρ (gJoin x b) σ := by
  cases x with
  | top => cases b <;> trivial
  | st x =>
    cases b with
    | top => trivial
    | st b =>
      unfold gJoin
      simp only
      split
      · rename_i hf
        simp only [Bool.and_eq_true, beq_iff_eq] at hf
        obtain ⟨⟨⟨⟨gx, gb⟩, hid⟩, hgid⟩, hglob⟩ := hf
        obtain ⟨h8, _, hg, hin⟩ := hr
        have Gx := goodB_sound gx
        have Gb := goodB_sound gb
        obtain ⟨ob, hob⟩ := Gb.stack
        obtain ⟨ox, hox⟩ := Gx.stack
        obtain ⟨m, e, m1, _⟩ := merge_sound_partial (ρ := ρ) Gb.wf Gx.wf hid Gb.keys Gx.keys Gb.size8 Gx.size8 hob hox
          Gx.objKeys (Or.inr hin)
        have hm : m.st.globals = b.st.globals ∧ m.st.gid = b.st.gid := by
          unfold MSt.merge at e
          rw [if_pos hid] at e
          cases e
          exact ⟨rfl, rfl⟩
        rw [e]
        exact repr_mkAV h8 (by rw [hm.1, hm.2, hglob, hgid]; exact hg) m1
      · trivial

theorem weaker_sound {ρ : Nat → Int} {σ : Sem.State} {m b : MSt} (hb : goodB b = true) (hw : weakerB m b = true)
    (hm : Repr ρ (.st m) σ) : Repr ρ (.st b) σ := by
  obtain ⟨h8, hgm, hg, hin⟩ := hm
  unfold weakerB at hw
  simp only [Bool.and_eq_true, beq_iff_eq, List.all_eq_true, Bool.or_eq_true, List.contains_iff_mem] at hw
  obtain ⟨⟨⟨⟨hsid, hgid⟩, hglob⟩, hregs⟩, hcells⟩ := hw
  have hwid := regsIn_width (goodB_sound hgm).wf.regs hin.1
  refine ⟨h8, hb, by rw [hglob, hgid]; exact hg, fun v => ?_, fun c hc => ?_⟩
  · rcases getReg_cases b.st v with ⟨e, _⟩ | e
    · rw [e]
      exact mem_of_top rfl _ (hwid v)
    · rcases hregs _ e with h | h
      · exact (show b.st.getReg v = m.st.getReg v from h) ▸ hin.1 v
      · exact mem_of_top h _ (by rw [hwid v, ((goodB_sound hb).wf.regs _ _ e).2])
  · rcases hcells c hc with h | h
    · rw [hsid]
      exact hin.2 c h
    · exact mem_of_top h _ (readCell_w _ _ _ _)

theorem joinW_sound {ρ : Nat → Int} (x b : AV) (σ : Sem.State) (hr : Repr ρ x σ) : Repr ρ (gJoinW x b) σ := by
  have hj := join_sound (ρ := ρ) x b σ hr
  unfold gJoinW
  cases hm : gJoin x b with
  | top => cases b <;> trivial
  | st m =>
    rw [hm] at hj
    cases b with
    | top => exact hj
    | st b' =>
      simp only
      split
      · rename_i hc
        rw [Bool.and_eq_true] at hc
        exact weaker_sound hc.1 hc.2 hj
      · exact hj

def cstepOf (blocks : List (Term Blk)) (e : Fix.Edge AV) (σ σ' : Sem.State) : Prop :=
  ∃ k ∈ kEdges blocks, k.toEdge = e ∧ k.kind.cstep σ σ'

/-- **C13-model-postfixpoint (partial).** For every function (list of blocks), every identifier valuation ρ and EVERY
assignment `S` of node values that is closed under the guarded model transfer (a post-fixpoint; no fixpoint iteration, no
monotonicity is assumed) and describes the start states: every machine state that is concretely reachable at a node — along
block edges (the reference interpreter executes the `Def`s), unconditional jumps, and conditional edges whose condition
evaluates to the edge's truth value (as the byte 1 or 0: `EdgeKind.cstep`) — is described by the node's value: if that
value is a state, every register's value and the bytes of every stack cell are represented. Instance of
`Fix.sound_of_closed` (C13/Props.lean `pi_meta`).

`_partial`: where an executable fragment predicate or the executable invariant fails, the model transfer answers `⊤`, about
which nothing is said; functions with calls have no call edges in `kEdges` (the call transfer is proved separately:
`updateCallStub_sound_partial`). -/
theorem pi_model_sound_partial (blocks : List (Term Blk)) {ρ : Nat → Int} {S : Fix.Assign AV}
    (hS : Fix.Closed (problemOf blocks) S) {init : Nat → Sem.State → Prop}
    (hinit : ∀ i σ, init i σ → ∃ a, S i = some a ∧ Repr ρ a σ)
    {i : Nat} {σ : Sem.State} (hr : Fix.Reach (problemOf blocks) init (cstepOf blocks) i σ) :
    ∃ a, S i = some a ∧ Repr ρ a σ := by
  refine Fix.sound_of_closed (γ := Repr ρ) (fun x b c h => joinW_sound x b c h) ?_ hS hinit hr
  intro e he a c c' hγ hc
  obtain ⟨k, hk, rfl, hstep⟩ := hc
  exact edge_sound k.kind a c c' hγ hstep

theorem closedB_sound {blocks : List (Term Blk)} {S : Nat → Option AV} (h : closedB blocks S = true) :
    Fix.Closed (problemOf blocks) S := by
  intro e he a x hsrc hf
  obtain ⟨k, hk, rfl⟩ := List.mem_map.mp he
  have := List.all_eq_true.mp h k hk
  simp only [show S k.src = some a from hsrc, show k.kind.f a = some x from hf] at this
  cases hd : S k.dst with
  | none => rw [hd] at this; cases this
  | some b => rw [hd] at this; exact ⟨b, hd, eq_of_beq this⟩

theorem pi_model_state {blocks : List (Term Blk)} {ρ : Nat → Int} {S : Nat → Option AV}
    (hS : closedB blocks S = true) {init : Nat → Sem.State → Prop}
    (hinit : ∀ i σ, init i σ → ∃ a, S i = some a ∧ Repr ρ a σ)
    {i : Nat} {σ : Sem.State} (hr : Fix.Reach (problemOf blocks) init (cstepOf blocks) i σ) {s : MSt}
    (hs : S i = some (.st s)) : s.In ρ σ := by
  obtain ⟨a, ha, hrep⟩ := pi_model_sound_partial blocks (closedB_sound hS) hinit hr
  rw [hs] at ha
  cases ha
  exact hrep.2.2.2

/-! ### non-vacuity: a function whose post-fixpoint is found by running the model transfer once -/
namespace EdgeEx
open CondEx

/-- `b0: RAX := RAX + 1; store [RSP + 8] := RAX; if RAX <s 5 goto b1 else b2`, `b1: load RBX := [RSP + 8]`, `b2:` -/
def blocks : List (Term Blk) :=
  [ { tid := { id := "b0", address := "0" },
      term := { defs := [ { tid := { id := "d0", address := "0" }, term := .Assign exRAX (.BinOp .IntAdd (.Var exRAX) (.Const 8 1)) },
                          { tid := { id := "d1", address := "0" }, term := .Store exAddr (.Var exRAX) } ],
                jmps := [ { tid := { id := "j0", address := "0" }, term := .CBranch { id := "b1", address := "0" } exCond },
                          { tid := { id := "j1", address := "0" }, term := .Branch { id := "b2", address := "0" } } ] } },
    { tid := { id := "b1", address := "0" },
      term := { defs := [ { tid := { id := "d2", address := "0" }, term := .Load exRBX exAddr } ], jmps := [] } },
    { tid := { id := "b2", address := "0" }, term := { defs := [], jmps := [] } } ]

def v0 : AV := mkAV exM
def v1 : AV := ((gBlock [ { tid := { id := "d0", address := "0" }, term := .Assign exRAX (.BinOp .IntAdd (.Var exRAX) (.Const 8 1)) },
                          { tid := { id := "d1", address := "0" }, term := .Store exAddr (.Var exRAX) } ] v0).getD .top)
def v2 : AV := (gCond exCond true v1).getD .top
def v3 : AV := (gBlock [ { tid := { id := "d2", address := "0" }, term := .Load exRBX exAddr } ] v2).getD .top
def v4 : AV := (gCond exCond false v1).getD .top
def v5 : AV := (gBlock [] v4).getD .top

def S : Nat → Option AV
  | 0 => some v0 | 1 => some v1 | 2 => some v2 | 3 => some v3 | 4 => some v4 | 5 => some v5 | _ => none

theorem closed : closedB blocks S = true ∧ meetsTopB blocks S = false := by decide +kernel

-- what `pi_model_sound_partial` then says of `S`, e.g. at the end of `b1`: `RAX` is in `[1, 4]` and `RBX` (loaded from the
-- slot written before the branch) in `[1, 11]`
example : (match v3 with
    | .st s => ((s.st.getReg exRAX).abs.map (·.interval), (s.st.getReg exRBX).abs.map (·.interval))
    | .top => (none, none)) = (some ⟨64, 1, 4, 1⟩, some ⟨64, 1, 11, 1⟩) := by
  decide +kernel

example {init : Nat → Sem.State → Prop} (hinit : ∀ i σ, init i σ → ∃ a, S i = some a ∧ Repr exρ a σ) {i : Nat} {σ : Sem.State}
    (hr : Fix.Reach (problemOf blocks) init (cstepOf blocks) i σ) : ∃ a, S i = some a ∧ Repr exρ a σ :=
  pi_model_sound_partial blocks (closedB_sound closed.1) hinit hr

end EdgeEx

end CweModel.C13
