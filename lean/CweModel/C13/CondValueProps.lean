/-
C13 — "PI-lite", layer 4, the values: what conditional specialisation does to an `IntervalDomain` and a `DataDomain`.

* Every successful bound refinement of a well-formed value (at most 64 bit, in-range bound) is well-formed and keeps
  the width (`DData.addBound_wf`, over C04 `SameShape.of_addBound`); that the member satisfying the comparison survives
  is C04 `addBound_sound`.
* `DataDomain::intersect` keeps a value represented by both operands unless it is represented through two different
  relative targets only, and its result is well-formed up to 8 bytes (`DData.intersect_sound`: the start value `istart`,
  then two `mergeBack`s; over C04 `intersect_sound` / `intersect_keeps` and the merge laws `DData.merge_mem_*`).
-/
import CweModel.C13.Cond
import CweModel.C13.StackProps
import CweModel.C04.Props

namespace CweModel.C13
open CweModel CweModel.IR CweModel.Itv CweModel.MemRegion

/-- the part of `DData.WF` that `St.Sized` keeps: the width of the absolute part -/
def AbsW (d : DData) : Prop := ∀ a, d.abs = some a → a.interval.w = 8 * d.size

theorem absW_of_wf {d : DData} (h : d.WF) : AbsW d := fun a ha => (h.2.1 a ha).2

theorem itvWithoutHints_interval (a : IntervalDomain) : (itvWithoutHints a).interval = a.interval := rfl

theorem itvWithoutHints_wf {a : IntervalDomain} (ha : a.WF) : (itvWithoutHints a).WF := by
  unfold IntervalDomain.WF
  refine ⟨ha.1, ?_, ?_, ?_⟩
  · intro u h; simp [itvWithoutHints] at h
  · intro l h; simp [itvWithoutHints] at h
  · show (0 : Nat) < 2 ^ 64; decide

theorem itvWithoutHints_mem (a : IntervalDomain) (x : Int) : (itvWithoutHints a).Mem x ↔ a.Mem x := Iff.rfl

namespace DData

theorem withoutHints_size (d : DData) : d.withoutHints.size = d.size := rfl
theorem withoutHints_top (d : DData) : d.withoutHints.top = d.top := rfl

theorem withoutHints_wf {d : DData} (hd : d.WF) : d.withoutHints.WF :=
  mapParts_wf hd fun _ ho => ⟨itvWithoutHints_wf ho.1, ho.2⟩

theorem withoutHints_mem {ρ : Nat → Int} {d : DData} {v : Bv} (hv : d.Mem ρ v) : d.withoutHints.Mem ρ v :=
  mapParts_mem (g := itvWithoutHints) (fun _ _ h => h) hv

theorem addBound_some {k : BoundKind} {d d' : DData} {bound : Int} (h : d.addBound k bound = some d') :
    d'.rel = d.rel ∧ d'.top = d.top ∧ d'.size = d.size ∧ d'.abs = d.abs.bind (fun a => a.addBound k bound) := by
  unfold addBound at h
  simp only [Option.map_eq_some_iff] at h
  obtain ⟨x, hx, rfl⟩ := h
  exact C04.data_addBound_ok _ _ _ _ hx

theorem addBound_absNone {k : BoundKind} {d d' : DData} {bound : Int} (ha : d.abs = none)
    (h : d.addBound k bound = some d') : d' = d := by
  obtain ⟨s1, r1, a1, t1⟩ := d
  obtain ⟨s2, r2, a2, t2⟩ := d'
  obtain ⟨h1, h2, h3, h4⟩ := addBound_some h
  cases ha; cases h1; cases h2; cases h3; cases h4; rfl

theorem addBound_wf {k : BoundKind} {d d' : DData} {bound : Int} (hd : d.WF) (h64 : 8 * d.size ≤ 64)
    (hb : InRange (8 * d.size) bound) (h : d.addBound k bound = some d') : d'.WF := by
  obtain ⟨h1, _, h3, h4⟩ := addBound_some h
  refine ⟨h3 ▸ hd.1, fun a ha => ?_, fun i o hm => h3 ▸ hd.2.2 i o (h1 ▸ hm)⟩
  rw [h4] at ha
  obtain ⟨a0, ha0, hr⟩ := Option.bind_eq_some_iff.mp ha
  obtain ⟨haw, hawid⟩ := hd.2.1 a0 ha0
  obtain ⟨r1, r2, _⟩ := C04.SameShape.of_addBound haw (hawid ▸ h64) (hawid ▸ hb) hr
  exact ⟨r1, by rw [r2, hawid, h3]⟩

theorem lookupRel_eq_find (k : Nat) (l : List (Nat × IntervalDomain)) :
    lookupRel k l = (l.find? (fun p => p.1 = k)).map (·.2) := by
  induction l with
  | nil => rfl
  | cons q rest ih =>
    obtain ⟨k', v'⟩ := q
    rw [lookupRel, List.find?_cons]
    by_cases h : k' = k
    · simp [h]
    · simp [h, ih]

theorem lookupRel_of_mem_nodup {l : List (Nat × IntervalDomain)} (hn : (l.map (·.1)).Nodup) {i : Nat} {o : IntervalDomain}
    (h : (i, o) ∈ l) : lookupRel i l = some o := by
  rw [lookupRel_eq_find, List.find?_key_of_mem_nodup hn h]; rfl

theorem lookupRel_map (f : IntervalDomain → IntervalDomain) (i : Nat) (l : List (Nat × IntervalDomain)) :
    lookupRel i (l.map fun p => (p.1, f p.2)) = (lookupRel i l).map f := by
  induction l with
  | nil => rfl
  | cons q rest ih =>
    obtain ⟨k', v'⟩ := q
    simp only [List.map_cons, lookupRel]
    split
    · rfl
    · exact ih

theorem intersectRel_nil (l : List (Nat × IntervalDomain)) : intersectRel l [] = [] := by
  simp [intersectRel, lookupRel]

theorem mem_intersectRel_iff {l r : List (Nat × IntervalDomain)} {i : Nat} {z : IntervalDomain} :
    (i, z) ∈ intersectRel l r ↔ ∃ o o', (i, o) ∈ l ∧ lookupRel i r = some o' ∧ o.intersect o' = some z := by
  simp only [intersectRel, List.mem_filterMap, Option.bind_eq_some_iff, Option.map_eq_some_iff, Prod.mk.injEq, Prod.exists]
  constructor
  · rintro ⟨k, o, hm, o', hl, x, hx, rfl, rfl⟩
    exact ⟨o, o', hm, hl, hx⟩
  · rintro ⟨o, o', hm, hl, hx⟩
    exact ⟨i, o, hm, o', hl, z, hx, rfl, rfl⟩

theorem ofBvI_wf {w : Nat} {n : Nat} (hn : 0 < n) (hw : w = 8 * n) {c : Int} (hc : InRange w c) :
    (ofBvI w c).WF ∧ (ofBvI w c).size = n := by
  unfold ofBvI
  exact ofItv_wf (C02.ofInterval_wf (Interval.wf_single w (by omega) c hc)) hn hw

theorem ofBvI_mem {ρ : Nat → Int} {n : Nat} {v : Bv} (hw : v.w = 8 * n) :
    (ofBvI v.w v.toInt).Mem ρ v := by
  refine ⟨?_, Or.inr (Or.inl ⟨_, rfl, (Interval.mem_single _ _ _).mpr rfl⟩)⟩
  simp only [ofBvI, ofItv]
  rw [itvBytes_mul8 (k := n) hw]; exact hw

theorem tryToBv_some {d : DData} {w : Nat} {c : Int} (h : d.tryToBv = some (w, c)) :
    d.rel = [] ∧ d.top = false ∧ ∃ a, d.abs = some a ∧ a.interval.start = c ∧ a.interval.stop = c ∧ a.interval.w = w := by
  unfold tryToBv at h
  split at h
  · cases h
  · rename_i hc
    simp only [Bool.or_eq_true, Bool.not_eq_true', List.isEmpty_eq_false_iff, not_or] at hc
    have h1 : d.rel = [] := by
      cases hr : d.rel with
      | nil => rfl
      | cons _ _ => exact absurd (by rw [hr]; simp) hc.1
    have h2 : d.top = false := by simpa using hc.2
    cases ha : d.abs with
    | none => simp [ha] at h
    | some a =>
      rw [ha] at h
      simp only [Option.map_eq_some_iff, Prod.mk.injEq] at h
      obtain ⟨x, hx, hw, rfl⟩ := h
      obtain ⟨e1, e2⟩ := tryToBitvec_some hx
      exact ⟨h1, h2, a, rfl, e1, e2, hw⟩

theorem mem_of_tryToBv {ρ : Nat → Int} {d : DData} {w : Nat} {c : Int} (h : d.tryToBv = some (w, c)) {v : Bv}
    (hv : d.Mem ρ v) : v.toInt = c := by
  obtain ⟨h1, h2, a, ha, e1, e2, _⟩ := tryToBv_some h
  rcases memI_norel h1 hv.2 with ht | ⟨a', ha', hm⟩
  · rw [h2] at ht; cases ht
  · rw [ha] at ha'; cases ha'
    exact Int.le_antisymm (e2 ▸ hm.2.1) (e1 ▸ hm.1)

theorem isEmpty_false_of_top {d : DData} (h : d.top = true) : d.isEmpty = false := by
  simp [isEmpty, h]

/-- the value `DataDomain::intersect` starts from, before the two `mergeBack`s -/
def istart (a b : DData) : DData :=
  match a.top, b.top with
  | true, false => b
  | false, true => a
  | _, _ =>
    { size := a.size
      rel := intersectRel a.rel b.rel
      abs := match a.abs, b.abs with
        | some x, some y => x.intersect y
        | _, _ => none
      top := a.top && b.top }

/-- one of the two merges at the end of `intersect`: the absolute part `abs` of one operand is merged into `r` if the
other operand has relative targets `rel` -/
def mergeBack (rel : List (Nat × IntervalDomain)) (abs : Option IntervalDomain) (r : DData) : DData :=
  if !rel.isEmpty then (match abs with | some v => r.merge (ofItv v) | none => r) else r

theorem intersect_eq (a b : DData) : a.intersect b =
    (if (mergeBack b.rel a.abs (mergeBack a.rel b.abs (istart a b))).isEmpty then none
      else some (mergeBack b.rel a.abs (mergeBack a.rel b.abs (istart a b)))) := rfl

def Sz (n : Nat) (d : DData) : Prop := d.WF ∧ d.size = n

theorem mergeBack_spec {ρ : Nat → Int} {n : Nat} (h8 : n ≤ 8) (rel : List (Nat × IntervalDomain))
    {abs : Option IntervalDomain} (habs : ∀ y, abs = some y → y.WF ∧ y.interval.w = 8 * n) {r : DData} (hr : Sz n r) :
    Sz n (mergeBack rel abs r) ∧ ∀ v : Bv, (r.Mem ρ v ∨ (rel ≠ [] ∧ v.w = 8 * n ∧ ∃ y, abs = some y ∧ y.Mem v.toInt)) →
      (mergeBack rel abs r).Mem ρ v := by
  unfold mergeBack
  by_cases hrel : rel = []
  · simp only [hrel, List.isEmpty_nil, Bool.not_true, Bool.false_eq_true, if_false]
    exact ⟨hr, fun v h => h.elim id fun h => absurd rfl h.1⟩
  · rw [if_pos (by simp [hrel])]
    cases abs with
    | none => exact ⟨hr, fun v h => h.elim id fun ⟨_, _, y, hy, _⟩ => nomatch hy⟩
    | some y =>
      obtain ⟨hyw, hywid⟩ := habs y rfl
      obtain ⟨wy, sy⟩ := ofItv_wf hyw (hr.2 ▸ hr.1.1) hywid
      have hs : (ofItv y).size = r.size := sy.trans hr.2.symm
      have h8' : r.size ≤ 8 := hr.2 ▸ h8
      refine ⟨⟨merge_wf hr.1 wy hs h8', hr.2⟩, fun v h => ?_⟩
      rcases h with h | ⟨_, hw, y', hy', hm⟩
      · exact merge_mem_left hr.1 wy hs h8' h
      · cases hy'
        exact merge_mem_right hr.1 wy hs h8' ⟨by rw [hw, sy], Or.inr (Or.inl ⟨y, rfl, hm⟩)⟩

theorem mergeBack_eq {rel : List (Nat × IntervalDomain)} {abs : Option IntervalDomain} (h : rel = [] ∨ abs = none)
    (r : DData) : mergeBack rel abs r = r := by
  unfold mergeBack
  rcases h with rfl | rfl
  · rfl
  · split <;> rfl

theorem istart_sz {a b : DData} {n : Nat} (ha : Sz n a) (hb : Sz n b) : Sz n (istart a b) := by
  unfold istart
  split
  · exact hb
  · exact ha
  · refine ⟨⟨ha.1.1, fun z hz => ?_, fun i z hz => ?_⟩, ha.2⟩
    · simp only at hz
      split at hz
      · rename_i x y hx hy
        obtain ⟨hxw, hxwid⟩ := ha.1.2.1 x hx
        obtain ⟨hyw, hywid⟩ := hb.1.2.1 y hy
        obtain ⟨h1, h2⟩ := (C04.intersect_keeps x y hxw hyw (by rw [hywid, hxwid, hb.2, ha.2])).of_some hz
        exact ⟨h1, h2.trans hxwid⟩
      · cases hz
    · obtain ⟨o, o', hm, hl, hx⟩ := mem_intersectRel_iff.mp hz
      obtain ⟨how, howid⟩ := ha.1.2.2 i o hm
      obtain ⟨how', howid'⟩ := hb.1.2.2 i o' (lookupRel_mem hl)
      obtain ⟨h1, h2⟩ := (C04.intersect_keeps o o' how how' (by rw [howid', howid, hb.2, ha.2])).of_some hx
      exact ⟨h1, h2.trans howid⟩

/-- `v ∈ γρ b` in a way `a.intersect b` respects when `v ∈ γρ a`: through the top flag, the absolute part, or a relative
target through which `v ∈ γρ a` as well (two DIFFERENT relative targets are assumed disjoint by `intersect`) -/
def MemWith (ρ : Nat → Int) (a b : DData) (v : Bv) : Prop :=
  b.top = true ∨ (∃ y, b.abs = some y ∧ y.Mem v.toInt) ∨
    ∃ i o o' x, (i, o) ∈ a.rel ∧ lookupRel i b.rel = some o' ∧ o.Mem x ∧ o'.Mem x ∧ v.toInt = wrap v.w (ρ i + x)

theorem MemWith.mem {ρ : Nat → Int} {a b : DData} {v : Bv} (h : MemWith ρ a b v) (hw : v.w = 8 * b.size) : b.Mem ρ v :=
  ⟨hw, h.imp_right (Or.imp_right fun ⟨i, _, o', x, _, hl, _, hx, heq⟩ => ⟨i, o', x, lookupRel_mem hl, hx, heq⟩)⟩

theorem MemWith.of_norel {ρ : Nat → Int} {a b : DData} {v : Bv} (hr : b.rel = []) (h : b.Mem ρ v) : MemWith ρ a b v :=
  (memI_norel hr h.2).imp_right Or.inl

theorem istart_mem {ρ : Nat → Int} {a b : DData} {n : Nat} (ha : Sz n a) (hb : Sz n b) {v : Bv} (hva : a.Mem ρ v)
    (hvb : MemWith ρ a b v) :
    (istart a b).Mem ρ v ∨ (a.rel ≠ [] ∧ v.w = 8 * n ∧ ∃ y, b.abs = some y ∧ y.Mem v.toInt) := by
  have hw : v.w = 8 * n := ha.2 ▸ hva.1
  have hvb' := hvb.mem (hb.2.symm ▸ hw)
  unfold istart
  cases hat : a.top <;> cases hbt : b.top
  · -- no top flag: `v` is in both absolute parts, in both offsets of a shared target, or in the absolute part of `b`
    -- and a target of `a`
    simp only [Bool.and_self]
    rcases hvb with ht | ⟨y, hy, hmy⟩ | ⟨i, o, o', x, hm, hl, hx, hx', heq⟩
    · rw [hbt] at ht; cases ht
    · rcases hva.2 with ht | ⟨x, hx, hmx⟩ | ⟨i, o, x, hm, _, _⟩
      · rw [hat] at ht; cases ht
      · obtain ⟨hxw, hxwid⟩ := ha.1.2.1 x hx
        obtain ⟨hyw, hywid⟩ := hb.1.2.1 y hy
        obtain ⟨z, hz, hzm⟩ := C04.intersect_sound x y hxw hyw (by rw [hywid, hxwid, hb.2, ha.2]) hmx hmy
        exact Or.inl ⟨hva.1, Or.inr (Or.inl ⟨z, by simp only [hx, hy, hz], hzm⟩)⟩
      · exact Or.inr ⟨List.ne_nil_of_mem hm, hw, y, hy, hmy⟩
    · obtain ⟨how, howid⟩ := ha.1.2.2 i o hm
      obtain ⟨how', howid'⟩ := hb.1.2.2 i o' (lookupRel_mem hl)
      obtain ⟨z, hz, hzm⟩ := C04.intersect_sound o o' how how' (by rw [howid', howid, hb.2, ha.2]) hx hx'
      exact Or.inl ⟨hva.1, Or.inr (Or.inr ⟨i, z, x, mem_intersectRel_iff.mpr ⟨o, o', hm, hl, hz⟩, hzm, heq⟩)⟩
  · exact Or.inl hva
  · exact Or.inl hvb'
  · exact Or.inl ⟨hva.1, Or.inl rfl⟩

def IntersectOk (ρ : Nat → Int) (cur res : DData) (v : Bv) : Prop :=
  ∃ r, cur.intersect res = some r ∧ r.Mem ρ v ∧ r.size = cur.size ∧ AbsW r ∧ (cur.size ≤ 8 → r.WF)

/-- **C13-data-intersect.** `DataDomain::intersect` of two well-formed values of the same size keeps every value both
represent, unless it is represented through two different relative targets only. Values of more than 8 bytes: only where
neither merge at the end applies (the C03 merge laws are proved up to 64 bit, and so is the well-formedness of the result). -/
theorem intersect_sound {ρ : Nat → Int} {a b : DData} (ha : a.WF) (hb : b.WF) (hs : b.size = a.size)
    (hm : a.size ≤ 8 ∨ ((a.rel = [] ∨ b.abs = none) ∧ (b.rel = [] ∨ a.abs = none)))
    {v : Bv} (hva : a.Mem ρ v) (hvb : MemWith ρ a b v) : IntersectOk ρ a b v := by
  have A : Sz a.size a := ⟨ha, rfl⟩
  have B : Sz a.size b := ⟨hb, hs⟩
  have h0 := istart_mem A B hva hvb
  rw [IntersectOk, intersect_eq]
  by_cases h8 : a.size ≤ 8
  · obtain ⟨s1, m1⟩ := mergeBack_spec (ρ := ρ) h8 a.rel (hs ▸ hb.2.1) (istart_sz A B)
    obtain ⟨s2, m2⟩ := mergeBack_spec (ρ := ρ) h8 b.rel ha.2.1 s1
    have hv := m2 v (Or.inl (m1 v h0))
    rw [if_neg (by rw [isEmpty_false_of_mem hv]; exact Bool.false_ne_true)]
    exact ⟨_, rfl, hv, s2.2, absW_of_wf s2.1, fun _ => s2.1⟩
  · obtain ⟨n1, n2⟩ := hm.resolve_left h8
    have hv : (istart a b).Mem ρ v :=
      h0.resolve_right fun ⟨hr, _, y, hy, _⟩ => n1.elim hr fun e => by rw [e] at hy; cases hy
    obtain ⟨w0, sz⟩ := istart_sz A B
    rw [mergeBack_eq n1, mergeBack_eq n2, if_neg (by rw [isEmpty_false_of_mem hv]; exact Bool.false_ne_true)]
    exact ⟨_, rfl, hv, sz, absW_of_wf w0, fun h => absurd h h8⟩

theorem MemWith.of_rel {ρ : Nat → Int} {cur res : DData} (hn : (cur.rel.map (·.1)).Nodup)
    (hrel : res.rel = cur.withoutHints.rel) {v : Bv} (hv : res.Mem ρ v) : MemWith ρ cur res v := by
  rcases hv.2 with ht | ha | ⟨i, o', x, hm, hx, heq⟩
  · exact Or.inl ht
  · exact Or.inr (Or.inl ha)
  · rw [hrel] at hm
    simp only [withoutHints, List.mem_map] at hm
    obtain ⟨p, hp, he⟩ := hm
    cases he
    refine Or.inr (Or.inr ⟨p.1, p.2, _, x, hp, ?_, hx, hx, heq⟩)
    rw [hrel]
    simp only [withoutHints]
    rw [lookupRel_map, lookupRel_of_mem_nodup hn hp]; rfl

theorem MemWith.of_addBound {ρ : Nat → Int} {cur res : DData} {k : BoundKind} {bound : Int}
    (hn : (cur.rel.map (·.1)).Nodup) (h : cur.withoutHints.addBound k bound = some res) {v : Bv} (hv : res.Mem ρ v) :
    MemWith ρ cur res v := .of_rel hn (addBound_some h).1 hv

theorem intersect_abs_sound {ρ : Nat → Int} {cur res : DData} (hcur : cur.WF) (hres : res.WF) (hc : cur.rel = [])
    (hr : res.rel = []) (hs : res.size = cur.size) {v : Bv} (hvc : cur.Mem ρ v) (hvr : res.Mem ρ v) :
    IntersectOk ρ cur res v := intersect_sound hcur hres hs (.inr ⟨.inl hc, .inl hr⟩) hvc (.of_norel hr hvr)

theorem intersect_ptr_self_sound {ρ : Nat → Int} {cur : DData} (hcur : cur.WF) (habs : cur.abs = none)
    (hn : (cur.rel.map (·.1)).Nodup) {v : Bv} (hv : cur.Mem ρ v) : IntersectOk ρ cur cur.withoutHints v :=
  intersect_sound hcur (withoutHints_wf hcur) rfl (.inr ⟨.inr (by rw [withoutHints, habs]; rfl), .inr habs⟩) hv
    (.of_rel hn rfl (withoutHints_mem hv))

theorem intersect_ptr_const_sound {ρ : Nat → Int} {cur res : DData} (hcur : cur.WF) (hres : res.WF) (h8 : cur.size ≤ 8)
    (hs : res.size = cur.size) (habs : cur.abs = none) (hr : res.rel = []) {v : Bv}
    (hvc : cur.Mem ρ v) (hvr : res.Mem ρ v) : IntersectOk ρ cur res v :=
  intersect_sound hcur hres hs (.inl h8) hvc (.of_norel hr hvr)

end DData

/-- **C13-itv-bound-refines.** the five `add_*_bound` of `IntervalDomain`: C04 `addBound_sound` with the shape of the result -/
theorem addBound_refines (k : BoundKind) (a : IntervalDomain) (ha : a.WF) (hw64 : a.interval.w ≤ 64)
    (bound : Int) (hb : InRange a.interval.w bound) {x : Int} (hx : a.Mem x)
    (hR : k.holds a.interval.w x bound) : ∃ r, a.addBound k bound = some r ∧ C04.SameShape a r ∧ r.Mem x := by
  obtain ⟨r, hr, hm⟩ := C04.addBound_sound k a ha hw64 bound hb hx hR
  exact ⟨r, hr, .of_addBound ha hw64 hb hr, hm⟩

end CweModel.C13
