/-
C13, "PI-lite" layer 3: loads and stores through the stack object are sound transfers of `Def::Load` and
`Def::Store` (`handleLoad_sound`, `handleStore_sound`), and `DataDomain::merge` is an upper bound
(`DData.merge_mem_left/right`).

Concrete side: the byte memory of the reference interpreter (`Base/IRSem.lean`: `readMem`, `writeMem`,
either byte order, addresses modulo `2^64`). Abstract side: `C13/Stack.lean` (one `MemRegion<Data>` per
object; the region operations are the shared model of C05 and enter through its specifications, the interval merge
through C03's `signedMergeAndWiden_ub`).
-/
import CweModel.C05.Props
import CweModel.C13.Stack
import CweModel.C13.EvalProps
import CweModel.Base.IRSemLemmas

set_option linter.unusedSimpArgs false
namespace CweModel.C13
open CweModel CweModel.IR CweModel.Itv CweModel.MemRegion

namespace SemMem
open Sem

theorem setByte_fields (σ : State) (a b : Nat) :
    (σ.setByte a b).seed = σ.seed ∧ (σ.setByte a b).regs = σ.regs ∧
    (σ.setByte a b).littleEndian = σ.littleEndian ∧ (σ.setByte a b).ptrBytes = σ.ptrBytes :=
  ⟨rfl, rfl, rfl, rfl⟩

theorem readMem_setReg (σ : State) (v : Variable) (x : Bv) (a n : Nat) : (σ.setReg v x).readMem a n = σ.readMem a n :=
  Sem.readMem_setReg σ v x a n

/-- **read after write**, in either byte order -/
theorem readMem_writeMem_same (σ : State) (h8 : σ.ptrBytes = 8) (a n val : Nat) (hn : n ≤ 2 ^ 64) :
    (σ.writeMem a n val).readMem a n = val % 256 ^ n :=
  Sem.readMem_writeMem_same σ a n val (by rw [h8]; exact hn)

/-- **frame**: a read of bytes none of which is written is unchanged -/
theorem readMem_writeMem_disjoint (σ : State) (a n val b m : Nat)
    (hdis : ∀ i, i < n → ∀ j, j < m → σ.wrapAddr (a + i) ≠ σ.wrapAddr (b + j)) :
    (σ.writeMem a n val).readMem b m = σ.readMem b m :=
  Sem.readMem_writeMem_frame σ a n val b m hdis

end SemMem

/-- `IntervalDomain::merge` is well-formed and an upper bound (C03, proved for widths up to 64 bits, whence the bound `size ≤ 8`
of the merge theorems below) -/
theorem itvMerge_facts {n : Nat} (hn8 : n ≤ 8) {a b : IntervalDomain}
    (ha : a.WF ∧ a.interval.w = 8 * n) (hb : b.WF ∧ b.interval.w = 8 * n) :
    ((C03.signedMergeAndWiden a b).WF ∧ (C03.signedMergeAndWiden a b).interval.w = 8 * n) ∧
    (∀ x, a.Mem x → (C03.signedMergeAndWiden a b).Mem x) ∧ (∀ x, b.Mem x → (C03.signedMergeAndWiden a b).Mem x) :=
  C03.signedMergeAndWiden_ub (Nat.mul_le_mul_left 8 hn8) ha hb

namespace DData

theorem lookupRel_mem {k : Nat} {l : List (Nat × IntervalDomain)} {o : IntervalDomain} (h : lookupRel k l = some o) :
    (k, o) ∈ l := by
  induction l with
  | nil => cases h
  | cons q rest ih =>
    obtain ⟨k', v'⟩ := q
    simp only [lookupRel] at h
    split at h
    · rename_i hk; cases h; subst hk; exact List.mem_cons_self
    · exact List.mem_cons_of_mem _ (ih h)

theorem lookupRel_none {k : Nat} {l : List (Nat × IntervalDomain)} (h : lookupRel k l = none) : ∀ p ∈ l, p.1 ≠ k := by
  induction l with
  | nil => intro p hp; cases hp
  | cons q rest ih =>
    obtain ⟨k', v'⟩ := q
    simp only [lookupRel] at h
    split at h
    · cases h
    · rename_i hk
      intro p hp
      rcases List.mem_cons.mp hp with rfl | hp
      · exact hk
      · exact ih h p hp

theorem self_mem_insertRel (k : Nat) (v : IntervalDomain) (l : List (Nat × IntervalDomain)) : (k, v) ∈ insertRel k v l := by
  induction l with
  | nil => simp [insertRel]
  | cons q rest ih =>
    obtain ⟨k', v'⟩ := q
    simp only [insertRel]
    split
    · exact List.mem_cons_self
    · split
      · exact List.mem_cons_self
      · exact List.mem_cons_of_mem _ ih

theorem insertRel_old (k : Nat) (v : IntervalDomain) (l : List (Nat × IntervalDomain)) :
    ∀ p ∈ l, p ∈ insertRel k v l ∨ (p.1 = k ∧ lookupRel k l = some p.2) := by
  induction l with
  | nil => intro p hp; cases hp
  | cons q rest ih =>
    obtain ⟨k', v'⟩ := q
    intro p hp
    simp only [insertRel]
    split
    · exact Or.inl (List.mem_cons_of_mem _ hp)
    · split
      · rename_i _ hk
        rcases List.mem_cons.mp hp with rfl | hp
        · exact Or.inr ⟨hk.symm, by simp [lookupRel, hk]⟩
        · exact Or.inl (List.mem_cons_of_mem _ hp)
      · rename_i _ hk
        rcases List.mem_cons.mp hp with rfl | hp
        · exact Or.inl List.mem_cons_self
        · rcases ih p hp with h | ⟨h1, h2⟩
          · exact Or.inl (List.mem_cons_of_mem _ h)
          · refine Or.inr ⟨h1, ?_⟩
            have : ¬ k' = k := fun e => hk e.symm
            simp [lookupRel, this, h2]

def RelWF (n : Nat) (l : List (Nat × IntervalDomain)) : Prop := ∀ i o, (i, o) ∈ l → o.WF ∧ o.interval.w = 8 * n

theorem mergeRelStep_insertRel {n : Nat} (hn8 : n ≤ 8) {m : List (Nat × IntervalDomain)} (hm : RelWF n m)
    {p : Nat × IntervalDomain} (hp : p.2.WF ∧ p.2.interval.w = 8 * n) :
    ∃ v, mergeRelStep m p = insertRel p.1 v m ∧ (v.WF ∧ v.interval.w = 8 * n) ∧ (∀ x, p.2.Mem x → v.Mem x) ∧
      ∀ o, lookupRel p.1 m = some o → ∀ x, o.Mem x → v.Mem x := by
  unfold mergeRelStep
  cases hl : lookupRel p.1 m with
  | none => exact ⟨p.2, rfl, hp, fun _ h => h, fun _ h => nomatch h⟩
  | some o =>
    obtain ⟨h1, h2, h3⟩ := itvMerge_facts hn8 (hm _ _ (lookupRel_mem hl)) hp
    exact ⟨_, rfl, h1, h3, fun o' ho' => Option.some.inj ho' ▸ h2⟩

theorem foldl_mergeRelStep {n : Nat} (hn8 : n ≤ 8) (ps : List (Nat × IntervalDomain)) :
    ∀ m : List (Nat × IntervalDomain), RelWF n m → RelWF n ps →
      RelWF n (ps.foldl mergeRelStep m) ∧
      (∀ i o x, (i, o) ∈ m → o.Mem x → ∃ o', (i, o') ∈ ps.foldl mergeRelStep m ∧ o'.Mem x) ∧
      (∀ i o x, (i, o) ∈ ps → o.Mem x → ∃ o', (i, o') ∈ ps.foldl mergeRelStep m ∧ o'.Mem x) := by
  induction ps with
  | nil =>
    intro m hm _
    exact ⟨hm, fun i o x h hx => ⟨o, h, hx⟩, fun i o x h => nomatch h⟩
  | cons p ps ih =>
    intro m hm hps
    obtain ⟨v, hv, hvok, hvnew, hvold⟩ := mergeRelStep_insertRel hn8 hm (hps p.1 p.2 List.mem_cons_self)
    rw [List.foldl_cons, hv]
    obtain ⟨h1, h2, h3⟩ := ih (insertRel p.1 v m)
      (fun i o h => (mem_insertRel h).elim (fun e => by cases e; exact hvok) (hm i o))
      (fun i o h => hps i o (List.mem_cons_of_mem _ h))
    have hself := self_mem_insertRel p.1 v m
    refine ⟨h1, fun i o x hmem hx => ?_, fun i o x hmem hx => ?_⟩
    · rcases insertRel_old p.1 v m (i, o) hmem with h | ⟨hk, hl⟩
      · exact h2 i o x h hx
      · cases hk
        exact h2 _ v x hself (hvold o hl x hx)
    · rcases List.mem_cons.mp hmem with h | h
      · cases h
        exact h2 _ v x hself (hvnew x hx)
      · exact h3 i o x h hx

theorem merge_rel {a b : DData} (ha : a.WF) (hb : b.WF) (hs : b.size = a.size) (h8 : a.size ≤ 8) :
    RelWF a.size (a.merge b).rel ∧
    (∀ i o x, (i, o) ∈ a.rel → o.Mem x → ∃ o', (i, o') ∈ (a.merge b).rel ∧ o'.Mem x) ∧
    (∀ i o x, (i, o) ∈ b.rel → o.Mem x → ∃ o', (i, o') ∈ (a.merge b).rel ∧ o'.Mem x) :=
  foldl_mergeRelStep h8 b.rel a.rel ha.2.2 (hs ▸ hb.2.2)

theorem merge_abs {a b : DData} (ha : a.WF) (hb : b.WF) (hs : b.size = a.size) (h8 : a.size ≤ 8) :
    (∀ x, (a.merge b).abs = some x → x.WF ∧ x.interval.w = 8 * a.size) ∧
    (∀ l, a.abs = some l → ∃ x, (a.merge b).abs = some x ∧ ∀ t, l.Mem t → x.Mem t) ∧
    (∀ r, b.abs = some r → ∃ x, (a.merge b).abs = some x ∧ ∀ t, r.Mem t → x.Mem t) := by
  have hA := ha.2.1
  have hB : ∀ x, b.abs = some x → x.WF ∧ x.interval.w = 8 * a.size := hs ▸ hb.2.1
  unfold merge
  generalize a.abs = A at hA ⊢
  generalize b.abs = B at hB ⊢
  cases A <;> cases B
  · exact ⟨(fun _ h => nomatch h), (fun _ h => nomatch h), (fun _ h => nomatch h)⟩
  · exact ⟨hB, (fun _ h => nomatch h), fun r h => ⟨r, h, fun _ ht => ht⟩⟩
  · exact ⟨hA, (fun l h => ⟨l, h, fun _ ht => ht⟩), (fun _ h => nomatch h)⟩
  · rename_i l r
    have hm := itvMerge_facts h8 (hA l rfl) (hB r rfl)
    exact ⟨fun x h => Option.some.inj h ▸ hm.1, fun _ h => ⟨_, rfl, Option.some.inj h ▸ hm.2.1⟩,
      fun _ h => ⟨_, rfl, Option.some.inj h ▸ hm.2.2⟩⟩

/-- **C13-data-merge-wf.** `DataDomain::merge` (with the widening interval merge of C03 on the absolute parts and on
the offsets of common targets) of two well-formed values of one size is well-formed. -/
theorem merge_wf {a b : DData} (ha : a.WF) (hb : b.WF) (hs : b.size = a.size) (h8 : a.size ≤ 8) : (a.merge b).WF :=
  ⟨ha.1, (merge_abs ha hb hs h8).1, (merge_rel ha hb hs h8).1⟩

/-- **C13-data-merge-left.** `DataDomain::merge` is an upper bound of its first operand under every identifier
valuation … -/
theorem merge_mem_left {ρ : Nat → Int} {a b : DData} (ha : a.WF) (hb : b.WF) (hs : b.size = a.size) (h8 : a.size ≤ 8)
    {v : Bv} (hv : a.Mem ρ v) : (a.merge b).Mem ρ v := by
  refine ⟨hv.1, ?_⟩
  rcases hv.2 with h | ⟨l, hl, hm⟩ | ⟨i, o, x, hmem, hx, heq⟩
  · exact Or.inl (by show (a.top || b.top) = true; rw [h]; rfl)
  · obtain ⟨y, hy, hsub⟩ := (merge_abs ha hb hs h8).2.1 l hl
    exact Or.inr (Or.inl ⟨y, hy, hsub _ hm⟩)
  · obtain ⟨o', h1, h2⟩ := (merge_rel ha hb hs h8).2.1 i o x hmem hx
    exact Or.inr (Or.inr ⟨i, o', x, h1, h2, heq⟩)

/-- **C13-data-merge-right.** … and of its second operand. -/
theorem merge_mem_right {ρ : Nat → Int} {a b : DData} (ha : a.WF) (hb : b.WF) (hs : b.size = a.size) (h8 : a.size ≤ 8)
    {v : Bv} (hv : b.Mem ρ v) : (a.merge b).Mem ρ v := by
  refine ⟨hs ▸ hv.1, ?_⟩
  rcases hv.2 with h | ⟨r, hr, hm⟩ | ⟨i, o, x, hmem, hx, heq⟩
  · exact Or.inl (by show (a.top || b.top) = true; rw [h, Bool.or_true])
  · obtain ⟨y, hy, hsub⟩ := (merge_abs ha hb hs h8).2.2 r hr
    exact Or.inr (Or.inl ⟨y, hy, hsub _ hm⟩)
  · obtain ⟨o', h1, h2⟩ := (merge_rel ha hb hs h8).2.2 i o x hmem hx
    exact Or.inr (Or.inr ⟨i, o', x, h1, h2, heq⟩)

theorem setTop_mem {ρ : Nat → Int} {d : DData} {v : Bv} (hw : v.w = 8 * d.size) : d.setTop.Mem ρ v :=
  ⟨hw, Or.inl rfl⟩

theorem setTop_wf {d : DData} (hd : d.WF) : d.setTop.WF := hd

end DData

instance : LawfulValueDomain DData where
  size_newTop _ := rfl
  isTop_newTop _ := rfl
  topOf_eq _ := rfl
  size_merge _ _ _ := rfl

theorem inRange64_iff {x : Int} : InRange 64 x ↔ i64Min ≤ x ∧ x ≤ i64Max := by
  unfold InRange smin smax i64Min i64Max
  rw [show pow2 (64 - 1) = 9223372036854775808 by decide]
  omega

theorem i64_of_bounds {x : Int} (h1 : i64Min ≤ x) (h2 : x ≤ i64Max) : i64 x = x :=
  wrap_of_inRange 64 (by decide) (inRange64_iff.mpr ⟨h1, h2⟩)

theorem toNat_eq_cellAddr {a : Bv} (hw : a.w = 64) {b x : Int} (h : a.toInt = wrap a.w (b + x)) :
    a.toNat = cellAddr b x := by
  have h1 : a.toNat = toU a.w a.toInt := (toU_toInt a.v).symm
  rw [h1, h, toU_wrap, hw]; rfl

/-- what the theorems need of a region: the C05 invariant, offsets inside i64, well-formed cells of ≤ 8 bytes -/
structure RegionOK (r : Region DData) : Prop where
  inv : Inv r
  bounded : Bounded r
  cells : ∀ c ∈ r, c.2.WF ∧ c.2.size ≤ 8

theorem regionOK_nil : RegionOK ([] : Region DData) :=
  ⟨inv_nil, fun _ h => absurd h List.not_mem_nil, fun _ h => absurd h List.not_mem_nil⟩

theorem size_eq (d : DData) : size d = d.size := rfl
theorem isize_eq (d : DData) : isize d = (d.size : Int) := rfl

/-- what `RegionOK` asks of one cell -/
def CellOK (c : Int × DData) : Prop := (i64Min ≤ c.1 ∧ c.1 + (c.2.size : Int) ≤ i64Max) ∧ c.2.WF ∧ c.2.size ≤ 8

theorem RegionOK.cell {r : Region DData} (hr : RegionOK r) {c : Int × DData} (hc : c ∈ r) : CellOK c :=
  ⟨hr.bounded c hc, hr.cells c hc⟩

theorem readCell_w (σ : Sem.State) (base o : Int) (n : Nat) : (readCell σ base o n).w = 8 * n := rfl

/-- one stored cell is admissible and describes the bytes at its address: `RegionOK ∧ RegionIn` cell by cell -/
def CellIn (ρ : Nat → Int) (base : Int) (σ : Sem.State) (c : Int × DData) : Prop :=
  CellOK c ∧ c.2.Mem ρ (readCell σ base c.1 c.2.size)

theorem regionIn_of_cells {ρ : Nat → Int} {base : Int} {σ : Sem.State} {r : Region DData} (hi : Inv r)
    (h : ∀ c ∈ r, CellIn ρ base σ c) : RegionOK r ∧ RegionIn ρ base r σ :=
  ⟨⟨hi, fun c hc => (h c hc).1.1, fun c hc => (h c hc).1.2⟩, fun c hc => (h c hc).2⟩

theorem cellIn_of_region {ρ : Nat → Int} {base : Int} {σ : Sem.State} {r : Region DData} (hr : RegionOK r)
    (hin : RegionIn ρ base r σ) {c : Int × DData} (hc : c ∈ r) : CellIn ρ base σ c :=
  ⟨hr.cell hc, hin c hc⟩

/-- a cell merged with `Top` keeps offset and size and has the top flag: it describes every value of its size -/
theorem weaken_cell {c x : Int × DData} (h : C05.weaken c = some x) (hc : CellOK c) (ρ : Nat → Int) (base : Int)
    (σ : Sem.State) : CellIn ρ base σ x := by
  obtain ⟨_, rfl⟩ := weaken_eq_some.mp h
  exact ⟨⟨hc.1, DData.merge_wf hc.2.1 (DData.newTop_wf hc.2.1.1) rfl hc.2.2, hc.2.2⟩, mem_of_top (Bool.or_true _) _ rfl⟩

theorem not_ov {c : Int × DData} {lo hi : Int} (h : ¬ Ov c lo hi) : c.1 + (c.2.size : Int) ≤ lo ∨ hi ≤ c.1 := by
  by_cases h1 : c.1 < hi
  · exact Or.inl (Int.not_lt.mp fun h2 => h ⟨h1, h2⟩)
  · exact Or.inr (Int.not_lt.mp h1)

/-- **frame**: a write to offsets outside the cell leaves it as it is; the i64 range is a window shorter than `2^64`, in
which disjoint offsets are disjoint addresses (`Sem.cells_disjoint`) -/
theorem cellIn_writeMem {ρ : Nat → Int} {base : Int} {σ : Sem.State} (h8 : σ.ptrBytes = 8) {c : Int × DData}
    (hc : CellIn ρ base σ c) {x : Int} {n : Nat}
    (hx : i64Min ≤ x ∧ x + (n : Int) ≤ i64Max) (hdis : c.1 + (c.2.size : Int) ≤ x ∨ x + (n : Int) ≤ c.1) (val : Nat) :
    CellIn ρ base (σ.writeMem (cellAddr base x) n val) c := by
  refine ⟨hc.1, ?_⟩
  unfold readCell
  rw [SemMem.readMem_writeMem_disjoint σ (cellAddr base x) n val (cellAddr base c.1) c.2.size
    (Sem.cells_disjoint σ h8 base (lo := i64Min) (hi := i64Max) (by decide) hdis hc.1.1 hx)]
  exact hc.2

/-- **C13-store-region (strong update).** `MemRegion::add` of a value `d` at offset `c` describes the memory after
the concrete write of a member of `d` at `base + c`: the written cell reads back the written value, the cells
that are kept share no byte with the written range (C05 `mem_writeCell`) and read as before. -/
theorem regionIn_writeCell {ρ : Nat → Int} {base : Int} {σ : Sem.State} (h8 : σ.ptrBytes = 8)
    {r : Region DData} (hr : RegionOK r) (hin : RegionIn ρ base r σ)
    {d : DData} (hd : d.WF) (hd8 : d.size ≤ 8) {c : Int} (hc : i64Min ≤ c ∧ c + (d.size : Int) ≤ i64Max)
    {v : Bv} (hv : d.Mem ρ v) :
    RegionOK (C05.writeCell r d c) ∧
    RegionIn ρ base (C05.writeCell r d c) (σ.writeMem (cellAddr base c) d.size v.toNat) := by
  have hpos : 0 < size d := hd.1
  refine regionIn_of_cells (C05.inv_writeCell hr.inv c hpos) fun x hx => ?_
  rcases C05.Spec.mem_write.mp ((C05.mem_writeCell hr.inv hpos).mp hx) with ⟨hx, hno⟩ | ⟨_, rfl⟩
  · exact cellIn_writeMem h8 (cellIn_of_region hr hin hx) hc (not_ov hno) _
  · refine ⟨⟨hc, hd, hd8⟩, ?_⟩
    unfold readCell
    rw [SemMem.readMem_writeMem_same σ h8 _ _ _ (Nat.le_trans hd8 (by decide)), Bv.toNat_mod_bytes hv.1, Bv.ofBytes_toNat_self hv.1]
    exact hv

/-- **C13-store-region (weak update).** `mark_interval_values_as_top(s, e, n)` describes the memory after a
concrete write of `n` bytes at any offset in `[s, e]`: the cells intersecting `[s, e + n)` get the top flag
(C05 `weakenedRange_spec`), the others share no byte with the written range. -/
theorem regionIn_weakenedRange {ρ : Nat → Int} {base : Int} {σ : Sem.State} (h8 : σ.ptrBytes = 8)
    {r : Region DData} (hr : RegionOK r) (hin : RegionIn ρ base r σ)
    {s e x : Int} {n : Nat} (hn : 0 < n) (hx : s ≤ x ∧ x ≤ e) (hb : i64Min ≤ s ∧ e + (n : Int) ≤ i64Max) (val : Nat) :
    RegionOK (C05.weakenedRange r s (e + (n : Int))) ∧
    RegionIn ρ base (C05.weakenedRange r s (e + (n : Int))) (σ.writeMem (cellAddr base x) n val) := by
  have hse : s < e + (n : Int) :=
    Int.lt_of_le_of_lt (Int.le_trans hx.1 hx.2) (Int.lt_add_of_pos_right e (Int.natCast_pos.mpr hn))
  have hxe : x + (n : Int) ≤ e + (n : Int) := Int.add_le_add_right hx.2 _
  refine regionIn_of_cells (C05.inv_weakenedRange hr.inv hse) fun y hy => ?_
  rcases mem_weakenIf.mp (((C05.weakenedRange_spec hr.inv hse).2 y).mp hy) with ⟨hy, h2⟩ | ⟨c, hc, _, hw⟩
  · have hno : ¬ Ov y s (e + (n : Int)) := fun ho => by rw [overlaps_iff.mpr ho] at h2; cases h2
    exact cellIn_writeMem h8 (cellIn_of_region hr hin hy) ⟨Int.le_trans hb.1 hx.1, Int.le_trans hxe hb.2⟩
      ((not_ov hno).imp (fun h => Int.le_trans h hx.1) (fun h => Int.le_trans hxe h)) _
  · exact weaken_cell hw (hr.cell hc) _ _ _

/-- **C13-store-region (unknown offset).** after `mark_all_values_as_top` every remaining cell has the top flag -/
theorem regionIn_markAll {ρ : Nat → Int} {base : Int} {r : Region DData} (hr : RegionOK r) (σ' : Sem.State) :
    RegionOK (markAllValuesAsTop r) ∧ RegionIn ρ base (markAllValuesAsTop r) σ' := by
  refine regionIn_of_cells (C05.inv_markAll hr.inv) fun y hy => ?_
  obtain ⟨c, hc, hw⟩ := List.mem_filterMap.mp (C05.mem_markAll.mp hy)
  exact weaken_cell hw (hr.cell hc) _ _ _

/-- **C13-load-region.** what `MemRegion::get` answers for a slot describes the bytes of the slot: the stored
cell if offset and size match, `Top` otherwise -/
theorem get_mem {ρ : Nat → Int} {base : Int} {σ : Sem.State} {r : Region DData} (hr : RegionOK r)
    (hin : RegionIn ρ base r σ) (c : Int) (n : Nat) (hn : 0 < n) :
    (MemRegion.get r c n).Mem ρ (readCell σ base c n) ∧ (MemRegion.get r c n).WF ∧ (MemRegion.get r c n).size = n ∧
      (n ≤ 8 → (MemRegion.get r c n).size ≤ 8) := by
  have htop : (DData.newTop n).Mem ρ (readCell σ base c n) ∧ (DData.newTop n).WF ∧ (DData.newTop n).size = n ∧
      (n ≤ 8 → (DData.newTop n).size ≤ 8) := ⟨mem_of_top rfl _ rfl, DData.newTop_wf hn, rfl, fun h => h⟩
  rcases get_cases r c n with ⟨e, -⟩ | ⟨elem, hg, hsz, e⟩ <;> rw [e]
  · exact htop
  · cases (show elem.size = n from hsz)
    have hm := BMap.mem_of_get hg
    exact ⟨hin (c, elem) hm, (hr.cells _ hm).1, rfl, fun h => h⟩

def StackIn (ρ : Nat → Int) (s : MSt) (σ : Sem.State) : Prop :=
  RegionIn ρ (ρ s.stackId) s.stackRegion σ

/-- **γρ of a PI-lite state**: every register's value is represented, and the stack object describes the
concrete memory (other memory objects are not part of this concretisation: nothing is claimed about them) -/
def MSt.In (ρ : Nat → Int) (s : MSt) (σ : Sem.State) : Prop := St.RegsIn ρ s.st σ ∧ StackIn ρ s σ

theorem StackIn.congr {ρ : Nat → Int} {s s' : MSt} {σ : Sem.State} (ho : s'.objs = s.objs) (hi : s'.stackId = s.stackId)
    (h : StackIn ρ s σ) : StackIn ρ s' σ := by
  unfold StackIn MSt.stackRegion at h ⊢
  rw [ho, hi]; exact h

structure MSt.WF (s : MSt) : Prop where
  regs : s.st.WF
  stack : RegionOK s.stackRegion

theorem objGet_cons (p : Nat × Obj) (objs : Objs) (id : Nat) :
    objGet (p :: objs) id = if p.1 = id then some p.2 else objGet objs id := by
  unfold objGet
  rw [List.find?_cons]
  by_cases h : p.1 = id <;> simp [h]

theorem objGet_objSet (objs : Objs) (id id' : Nat) (o' : Obj) :
    objGet (objSet objs id o') id' = if id' = id then (objGet objs id).map fun _ => o' else objGet objs id' := by
  induction objs with
  | nil => split <;> rfl
  | cons q rest ih =>
    unfold objSet at ih ⊢
    rw [List.map_cons, objGet_cons, ih, objGet_cons, objGet_cons]
    by_cases hq : q.1 = id
    · by_cases hi : id' = id
      · simp [hq, hi]
      · simp [hq, hi, Ne.symm hi]
    · by_cases hi : id' = id
      · simp [hq, hi]
      · simp [hq, hi]

theorem objGet_objSet_self {objs : Objs} {id : Nat} {o : Obj} (o' : Obj) (h : objGet objs id = some o) :
    objGet (objSet objs id o') id = some o' := by
  rw [objGet_objSet, if_pos rfl, h]; rfl

theorem objGet_objSet_other {objs : Objs} {id id' : Nat} (o' : Obj) (hne : id' ≠ id) :
    objGet (objSet objs id o') id' = objGet objs id' := by
  rw [objGet_objSet, if_neg hne]

theorem stackRegion_of_get {s : MSt} {o : Obj} (h : objGet s.objs s.stackId = some o) : s.stackRegion = o.mem := by
  unfold MSt.stackRegion; rw [h]

theorem MSt.of_stack {ρ : Nat → Int} {σ : Sem.State} {s : MSt} {o : Obj} (ho : objGet s.objs s.stackId = some o)
    (hr : St.RegsIn ρ s.st σ) (hw : s.st.WF) (hk : RegionOK o.mem) (hi : RegionIn ρ (ρ s.stackId) o.mem σ) :
    s.In ρ σ ∧ s.WF := by
  have e := stackRegion_of_get ho
  exact ⟨⟨hr, by rw [StackIn, e]; exact hi⟩, hw, by rw [e]; exact hk⟩

theorem mem_of_tryToBitvec {o : IntervalDomain} {c x : Int} (h : o.tryToBitvec = some c) (hx : o.Mem x) : x = c := by
  obtain ⟨h1, h2⟩ := tryToBitvec_some h
  exact Int.le_antisymm (h2 ▸ hx.2.1) (h1 ▸ hx.1)

theorem offsetPos_single {o : IntervalDomain} (ho : o.WF ∧ o.interval.w = 64) {c : Int} (h : o.tryToBitvec = some c) :
    offsetPos o = some (some c) := by
  have hr : InRange 64 c := (tryToBitvec_some h).1 ▸ ho.2 ▸ ho.1.1.2.1
  unfold offsetPos
  rw [h]
  simp only [ho.2, if_true]
  rw [tryToI64_inRange (by decide) (by decide) hr]

theorem offsetPos_none {o : IntervalDomain} (h : o.tryToBitvec = none) : offsetPos o = none := by
  unfold offsetPos; rw [h]

theorem tryToOffsetInterval_eq {o : IntervalDomain} (ho : o.WF ∧ o.interval.w = 64) :
    tryToOffsetInterval o = if o.isTop then none else some (o.interval.start, o.interval.stop) := by
  unfold tryToOffsetInterval
  split
  · rfl
  · have h1 : InRange 64 o.interval.start := ho.2 ▸ ho.1.1.2.1
    have h2 : InRange 64 o.interval.stop := ho.2 ▸ ho.1.1.2.2.1
    rw [ho.2, tryToI64_inRange (by decide) (by decide) h1, tryToI64_inRange (by decide) (by decide) h2]

theorem Obj.addTargets_mem (o : Obj) (v : DData) : (o.addTargets v).mem = o.mem := rfl
theorem Obj.addTargets_unique (o : Obj) (v : DData) : (o.addTargets v).unique = o.unique := rfl

/-- **C13-set-value.** `AbstractObject::set_value` on a unique object, for a 64-bit offset value `o` and a concrete
write at an offset `x ∈ γ o`: strong update for a single offset, interval marking for a bounded interval, marking
of all cells otherwise. -/
theorem setValue_sound {ρ : Nat → Int} {base : Int} {σ : Sem.State} (h8 : σ.ptrBytes = 8)
    {ob : Obj} (hu : ob.unique = true) (hr : RegionOK ob.mem) (hin : RegionIn ρ base ob.mem σ)
    {d : DData} (hd : d.WF) (hd8 : d.size ≤ 8) {o : IntervalDomain} (ho : o.WF ∧ o.interval.w = 64)
    {x : Int} (hx : o.Mem x) (hbnd : ∀ y, o.Mem y → y + (d.size : Int) ≤ i64Max) {v : Bv} (hv : d.Mem ρ v) :
    ∃ ob', ob.setValue d o = some ob' ∧ ob'.unique = true ∧ RegionOK ob'.mem ∧
      RegionIn ρ base ob'.mem (σ.writeMem (cellAddr base x) d.size v.toNat) := by
  have hxr : InRange 64 x := ho.2 ▸ Interval.mem_inRange ho.1.1 hx
  unfold Obj.setValue
  simp only [Obj.addTargets_mem, Obj.addTargets_unique]
  cases htb : o.tryToBitvec with
  | some c =>
    cases mem_of_tryToBitvec htb hx
    rw [offsetPos_single ho htb]
    simp only [hu, if_true]
    rw [C05.insertAtByteIndex_eq ob.mem x (show 0 < size d from hd.1)]
    obtain ⟨r1, r2⟩ := regionIn_writeCell h8 hr hin hd hd8 ⟨(inRange64_iff.mp hxr).1, hbnd x hx⟩ hv
    exact ⟨_, rfl, rfl, r1, r2⟩
  | none =>
    rw [offsetPos_none htb, tryToOffsetInterval_eq ho]
    by_cases ht : o.isTop = true
    · simp only [ht, if_true]
      obtain ⟨r1, r2⟩ := regionIn_markAll (ρ := ρ) (base := base) hr (σ.writeMem (cellAddr base x) d.size v.toNat)
      exact ⟨_, rfl, hu, r1, r2⟩
    · simp only [ht, if_false, Bool.false_eq_true]
      have hstop : o.interval.stop + (d.size : Int) ≤ i64Max := hbnd _ (Interval.stop_mem _ ho.1.1)
      have hstart : i64Min ≤ o.interval.start := (inRange64_iff.mp (ho.2 ▸ ho.1.1.2.1)).1
      have hpos : 0 < d.size := hd.1
      rw [C05.markInterval_eq ob.mem (s := o.interval.start) (e := o.interval.stop) (n := d.size)
        (Int.lt_of_le_of_lt ho.1.1.2.2.2.1 (Int.lt_add_of_pos_right _ (Int.natCast_pos.mpr hpos)))]
      obtain ⟨r1, r2⟩ := regionIn_weakenedRange h8 hr hin (x := x) hpos ⟨hx.1, hx.2.1⟩ ⟨hstart, hstop⟩ v.toNat
      exact ⟨_, rfl, hu, r1, r2⟩

/-- **C13-store-sound.** `handle_store` through a pointer into the (unique) stack object is a sound transfer of
`Def::Store`: if the concrete state is represented (registers and stack) and the reference interpreter executes
the store, the state after it is represented by the abstract state after `handle_store`. Covers the strong
update (`stack + constant`) and the weak updates (`stack + interval`, `stack + unknown`). Hypotheses: well-sized
expressions, a pointer-sized address, a value of at most 8 bytes, no i64 overflow of `offset + size`. -/
theorem handleStore_sound {ρ : Nat → Int} {s : MSt} (hs : s.WF) (hg : s.st.globals ≠ [] → ρ s.st.gid = 0)
    {σ : Sem.State} (h8 : σ.ptrBytes = 8) (hin : s.In ρ σ)
    {a e : Expression} (ha : ExprOk a) (he : ExprOk e) (hab : a.bytesize = 8) (he8 : e.bytesize ≤ 8)
    (hfrag : s.storeFrag a = true)
    (hbnd : ∀ id o, (s.st.eval a).getIfUniqueTarget = some (id, o) → ∀ y, o.Mem y → y + (e.bytesize : Int) ≤ i64Max)
    {σ' : Sem.State} {ev : List Sem.Event} (hex : Sem.execDef σ (.Store a e) = some (σ', ev)) :
    ∃ s', s.handleStore a e = some s' ∧ s'.In ρ σ' ∧ s'.WF := by
  obtain ⟨hA1, hA2, hA3⟩ := St.eval_sound hs.regs hg hin.1 ha
  obtain ⟨hV1, hV2, hV3⟩ := St.eval_sound hs.regs hg hin.1 he
  obtain ⟨addr, hea, x, hee, hr⟩ := Sem.execDef_store.mp hex
  cases hr
  have hx := hV3 x hee
  -- the abstract address: a pointer into the unique stack object
  obtain ⟨o, ob, hut, hog, hobj⟩ : ∃ o ob, (s.st.eval a).getIfUniqueTarget = some (s.stackId, o) ∧
      objGet s.objs s.stackId = some ob ∧ ob.unique = true := by
    unfold MSt.storeFrag at hfrag
    split at hfrag
    · rename_i id o hut
      rw [Bool.and_eq_true, beq_iff_eq] at hfrag
      cases hfrag.1
      split at hfrag
      · rename_i ob hog; exact ⟨o, ob, hut, hog, hfrag.2⟩
      · cases hfrag.2
    · cases hfrag
  obtain ⟨hr, habs, htop⟩ := DData.getIfUniqueTarget_some hut
  have ho : o.WF ∧ o.interval.w = 64 := by
    have := hA1.2.2 s.stackId o (hr ▸ List.mem_singleton_self _)
    rwa [hA2, hab] at this
  -- the concrete address is the stack base plus a member `x0` of the offset
  have haddr := hA3 addr hea
  obtain ⟨x0, hx0, heq⟩ := DData.memI_unique hr habs htop haddr.2
  have hat := toNat_eq_cellAddr (by rw [haddr.1, hA2, hab]) heq
  have hreg := stackRegion_of_get hog
  obtain ⟨ob', hset, _, hok', hin'⟩ := setValue_sound h8 hobj (hreg ▸ hs.stack)
    (show RegionIn ρ (ρ s.stackId) ob.mem σ from hreg ▸ hin.2) hV1 (hV2 ▸ he8) ho hx0
    (fun y hy => hV2 ▸ hbnd _ _ hut y hy) hx
  refine ⟨{ s with objs := objSet s.objs s.stackId ob' }, ?_,
    MSt.of_stack (objGet_objSet_self ob' hog) (fun w => ?_) hs.regs hok' ?_⟩
  · unfold MSt.handleStore MSt.writeToAddress MSt.storeValue objsSetValue
    rw [hut]
    simp only [hog, hset, Option.map_some]
  · rw [Sem.getReg_writeMem]
    exact hin.1 w
  · rw [hat, Bv.bytes_of_w hx.1]
    exact hin'

theorem wf_setTopIf (c : Bool) {d : DData} (hd : d.WF) : (if c then d.setTop else d).WF := by
  cases c <;> exact hd

theorem size_setTopIf (c : Bool) (d : DData) : (if c then d.setTop else d).size = d.size := by
  cases c <;> rfl

theorem mem_setTopIf {ρ : Nat → Int} (c : Bool) {d : DData} {v : Bv} (h : d.Mem ρ v) :
    (if c then d.setTop else d).Mem ρ v := by
  cases c
  · exact h
  · exact DData.setTop_mem h.1

/-- a relative target of an address the proved load fragment admits -/
def TargetOk (s : MSt) (p : Nat × IntervalDomain) : Prop :=
  (p.2.WF ∧ p.2.interval.w = 64) ∧ (p.1 = s.stackId ∨ objGet s.objs p.1 = none ∨ offsetPos p.2 = none)

theorem getValueStep_sound {ρ : Nat → Int} {s : MSt} (hs : s.WF) {σ : Sem.State} (hin : StackIn ρ s σ)
    {n : Nat} (hn : 0 < n) (hn8 : n ≤ 8) {m : DData} (hm : m.WF) (hmn : m.size = n)
    {p : Nat × IntervalDomain} (hp : TargetOk s p) :
    ∃ m', getValueStep s.objs n (some m) p = some m' ∧ m'.WF ∧ m'.size = n ∧ (∀ v, m.Mem ρ v → m'.Mem ρ v) ∧
      ∀ x, p.2.Mem x → m'.Mem ρ (readCell σ (ρ p.1) x n) := by
  have htop : ∃ m', some m.setTop = some m' ∧ m'.WF ∧ m'.size = n ∧ (∀ v, m.Mem ρ v → m'.Mem ρ v) ∧
      ∀ x, p.2.Mem x → m'.Mem ρ (readCell σ (ρ p.1) x n) :=
    ⟨m.setTop, rfl, hm, hmn, fun v hv => DData.setTop_mem hv.1, fun x _ => DData.setTop_mem (hmn ▸ rfl)⟩
  unfold getValueStep
  simp only
  cases hog : objGet s.objs p.1 with
  | none => exact htop
  | some ob =>
    cases htb : p.2.tryToBitvec with
    | none => rw [offsetPos_none htb]; exact htop
    | some c =>
      rw [offsetPos_single hp.1 htb]
      -- a constant offset into an existing object: by the fragment it is the stack object
      have hid : p.1 = s.stackId := by
        rcases hp.2 with h | h | h
        · exact h
        · rw [h] at hog; cases hog
        · rw [offsetPos_single hp.1 htb] at h; cases h
      rw [hid] at hog ⊢
      obtain ⟨g1, g2, g3, _⟩ := get_mem hs.stack hin c n hn
      rw [stackRegion_of_get hog] at g1 g2 g3
      have hsz : (ob.getValue c n).size = m.size := g3.trans hmn.symm
      have h8 : m.size ≤ 8 := hmn ▸ hn8
      refine ⟨_, rfl, DData.merge_wf hm g2 hsz h8, hmn, fun v hv => DData.merge_mem_left hm g2 hsz h8 hv,
        fun x hx => ?_⟩
      cases mem_of_tryToBitvec htb hx
      exact DData.merge_mem_right hm g2 hsz h8 g1

theorem foldl_getValueStep_sound {ρ : Nat → Int} {s : MSt} (hs : s.WF) {σ : Sem.State} (hin : StackIn ρ s σ)
    {n : Nat} (hn : 0 < n) (hn8 : n ≤ 8) (ps : List (Nat × IntervalDomain)) :
    ∀ m : DData, m.WF → m.size = n → (∀ p ∈ ps, TargetOk s p) →
      ∃ m', ps.foldl (getValueStep s.objs n) (some m) = some m' ∧ m'.WF ∧ m'.size = n ∧
        (∀ v, m.Mem ρ v → m'.Mem ρ v) ∧ ∀ p ∈ ps, ∀ x, p.2.Mem x → m'.Mem ρ (readCell σ (ρ p.1) x n) := by
  induction ps with
  | nil =>
    intro m hm hmn _
    exact ⟨m, rfl, hm, hmn, fun v hv => hv, fun p hp => absurd hp List.not_mem_nil⟩
  | cons p ps ih =>
    intro m hm hmn hps
    obtain ⟨m1, e1, w1, s1, k1, c1⟩ := getValueStep_sound hs hin hn hn8 hm hmn (hps p List.mem_cons_self)
    obtain ⟨m2, e2, w2, s2, k2, c2⟩ := ih m1 w1 s1 (fun q hq => hps q (List.mem_cons_of_mem _ hq))
    refine ⟨m2, by rw [List.foldl_cons, e1]; exact e2, w2, s2, fun v hv => k2 v (k1 v hv), fun q hq x hx => ?_⟩
    rcases List.mem_cons.mp hq with rfl | hq
    · exact k2 _ (c1 x hx)
    · exact c2 q hq x hx

/-- `AbstractObjectList::get_value` for an address value `A` of the load fragment: the result describes the `n` bytes
at every concrete address `A` stands for -/
theorem objsGetValue_sound {ρ : Nat → Int} {s : MSt} (hs : s.WF) {σ : Sem.State} (hin : StackIn ρ s σ)
    {n : Nat} (hn : 0 < n) (hn8 : n ≤ 8) {A : DData} (hA : A.WF) (hA8 : A.size = 8) (habs : A.abs = none)
    (hfrag : ∀ p ∈ A.rel, p.1 = s.stackId ∨ objGet s.objs p.1 = none ∨ offsetPos p.2 = none) :
    ∃ m, objsGetValue s.objs A n = some m ∧ m.WF ∧ m.size = n ∧
      ∀ addr, A.Mem ρ addr → m.Mem ρ (Bv.ofBytes n (σ.readMem addr.toNat n)) := by
  obtain ⟨m, em, wm, sm, _, cm⟩ := foldl_getValueStep_sound hs hin hn hn8 A.rel (DData.newEmpty n)
    (DData.newEmpty_wf hn) rfl (fun p hp => ⟨by have := hA.2.2 p.1 p.2 hp; rwa [hA8] at this, hfrag p hp⟩)
  refine ⟨_, by unfold objsGetValue; rw [em]; rfl, wf_setTopIf _ wm, (size_setTopIf _ m).trans sm,
    fun addr haddr => ?_⟩
  rcases haddr.2 with h | ⟨a', ha', _⟩ | ⟨i, o, y, hmem, hy, heq⟩
  · rw [h]; exact DData.setTop_mem (sm ▸ rfl)
  · rw [habs] at ha'; cases ha'
  · have := cm (i, o) hmem y hy
    rw [readCell, ← toNat_eq_cellAddr (by rw [haddr.1, hA8]) heq] at this
    exact mem_setTopIf _ this

/-- "the loaded value is most likely a pointer to a mutable global variable": as `replace_if_global_pointer` -/
theorem loadedGlobalPointer_sound {ρ : Nat → Int} (s : MSt) (hg : s.st.globals ≠ [] → ρ s.st.gid = 0)
    {d : DData} (hd : d.WF) :
    (s.loadedGlobalPointer d).WF ∧ (s.loadedGlobalPointer d).size = d.size ∧
      ∀ v, d.Mem ρ v → (s.loadedGlobalPointer d).Mem ρ v := by
  unfold MSt.loadedGlobalPointer
  split
  · rename_i c hc
    split
    · rename_i hcont
      split
      · rename_i a ha
        obtain ⟨_, _, a', ha', hsingle⟩ := St.tryToOffset_some hc
        cases ha.symm.trans ha'
        have hawf := (hd.2.1 a ha).1
        refine St.fromTarget_zero_sound hd hc (hg fun h => by rw [h] at hcont; cases hcont.2) ha
          ⟨C02.ofInterval_wf (Interval.wf_single _ hawf.1.1 _ hawf.1.2.1), rfl⟩ fun x hx => ?_
        exact (Interval.mem_single _ _ _).mpr (Int.le_antisymm (hsingle ▸ hx.2.1) hx.1)
      · exact ⟨hd, rfl, fun v hv => hv⟩
    · exact ⟨hd, rfl, fun v hv => hv⟩
  · exact ⟨hd, rfl, fun v hv => hv⟩

/-- **C13-load-sound.** `handle_load` is a sound transfer of `Def::Load` for every address value without absolute
part whose relative targets are the stack identifier, identifiers without memory object, or have a non-constant
offset: a load from an exact stack slot yields the stored cell (or `Top` if no cell of that offset and size is
stored), every other admitted target sets the top flag, i.e. loads from unknown places give `Top`. -/
theorem handleLoad_sound {ρ : Nat → Int} {s : MSt} (hs : s.WF) (hg : s.st.globals ≠ [] → ρ s.st.gid = 0)
    {σ : Sem.State} (hin : s.In ρ σ) {x : Variable} {a : Expression} (ha : ExprOk a) (hab : a.bytesize = 8)
    (hx0 : 0 < x.size) (hx8 : x.size ≤ 8) (hfrag : s.loadFrag a = true)
    {σ' : Sem.State} {ev : List Sem.Event} (hex : Sem.execDef σ (.Load x a) = some (σ', ev)) :
    ∃ s', s.handleLoad x a = some s' ∧ s'.In ρ σ' ∧ s'.WF := by
  obtain ⟨hA1, hA2, hA3⟩ := St.eval_sound hs.regs hg hin.1 ha
  obtain ⟨addr, hea, hr⟩ := Sem.execDef_load.mp hex
  cases hr
  -- whatever value `d` describes the loaded bytes: writing it to the register gives a state that describes `σ'`
  have hupd : ∀ d : DData, d.WF → d.size = x.size → d.Mem ρ (Bv.ofBytes x.size (σ.readMem addr.toNat x.size)) →
      ∃ s', some ({ s with st := s.st.setReg x d } : MSt) = some s' ∧ s'.In ρ _ ∧ s'.WF := fun d hd hsz hm =>
    ⟨_, rfl, ⟨regsIn_setReg hin.1 hm hsz, hin.2⟩, ⟨wf_setReg hs.regs hd hsz, hs.stack⟩⟩
  -- the value of `AbstractObjectList::get_value` on the fragment
  unfold MSt.loadFrag at hfrag
  simp only [Bool.and_eq_true, Option.isNone_iff_eq_none, List.all_eq_true, Bool.or_eq_true, beq_iff_eq, or_assoc]
    at hfrag
  obtain ⟨m, hm, wm, sm, cm⟩ := objsGetValue_sound hs hin.2 hx0 hx8 hA1 (hA2.trans hab) hfrag.1 hfrag.2
  -- merged with the (empty) contribution of the runtime memory image, then the global-pointer rule and the top flag
  have hE := DData.newEmpty_wf hx0
  obtain ⟨g1, g2, g3⟩ := loadedGlobalPointer_sound (ρ := ρ) s hg (DData.merge_wf hE wm sm hx8)
  obtain ⟨r, hlv, wr, sr, mr⟩ : ∃ r, s.loadValue a x.size = some (if r.isEmpty then none else some r) ∧ r.WF ∧
      r.size = x.size ∧ r.Mem ρ (Bv.ofBytes x.size (σ.readMem addr.toNat x.size)) := by
    refine ⟨_, ?_, wf_setTopIf (s.st.eval a).top g1, (size_setTopIf _ _).trans g2,
      mem_setTopIf _ (g3 _ (DData.merge_mem_right hE wm sm hx8 (cm addr (hA3 addr hea))))⟩
    unfold MSt.loadValue MSt.loadValueFromAddress MSt.globalPart
    rw [hm, hfrag.1]
  unfold MSt.handleLoad
  rw [hlv]
  by_cases hemp : r.isEmpty = true
  · rw [if_pos hemp]
    exact hupd _ (DData.newTop_wf hx0) rfl (mem_of_top rfl _ rfl)
  · rw [if_neg hemp]
    obtain ⟨q1, q2, q3⟩ := St.replaceIfGlobalPointer_sound (ρ := ρ) s.st hg wr
    exact hupd _ q1 (q2.trans sr) (q3 _ mr)

end CweModel.C13
