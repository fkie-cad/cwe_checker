/-
C13 — theorems.

Property: "For every single-function program over registers and stack memory at constant offsets for
which the analysis reaches its fixpoint, and every concrete execution from any initial state, every
block the execution reaches has an analysis state in which each register's concrete value is
represented (reading parameter identifiers as their entry values and the stack identifier as the entry
stack pointer). A block the analysis considers unreachable is never reached, and a memory access the
analysis treats as a certain NULL dereference never completes."

In this file:
 * the abstract-interpretation frame of the property (`pi_meta`, `pi_unreachable`; instances of `Fix.sound_of_closed`
   / `Fix.unreachable_of_none`);
 * the NULL-window decision of `check_def_for_null_dereferences` (model `nullCheck`): `nullCheck_sound` (an address
   outside the window that was represented is still represented after the restriction), `nullCheck_certain` (the
   verdict "certain NULL dereference" is only given if EVERY represented address lies in the window, i.e. the access
   never completes), `nullCheck_noDetect` (exactly when `Ok(false)` is answered); over the interval bound refinements
   `C04.addSignedGreaterEqualBound_sound` / `addSignedLessEqualBound_sound`;
 * the executable γ-membership the validation evaluates is the declarative one (`contains_iff`,
   `firstExcluded_none_iff`);
 * the frame, the join and the call transfer applied to concrete inputs.
The imported files hold "PI-lite": exact models of parts of the real pointer inference, sound for the reference
semantics under EVERY identifier valuation ρ in which the identifier of the global memory object stands for address
0; `EdgeProps` composes them into one instance of the frame (`pi_model_sound_partial`).

NOT proved: that the real pointer inference satisfies the hypotheses of the frame. That is validated on generated
programs (see Driver); what the proved fragments leave out is listed in props/C13.json, "unproved".
-/
import CweModel.C13.Model
import CweModel.C04.Bounds
import CweModel.Base.Fix
import CweModel.C13.DataProps
import CweModel.C13.EvalProps
import CweModel.C13.StackProps
import CweModel.C13.CondProps
import CweModel.C13.JoinProps
import CweModel.C13.EdgeProps

namespace CweModel.C13
open CweModel CweModel.IR CweModel.Itv

/-- **C13-gamma-exec.** the executable γ-membership the validation evaluates is the declarative one -/
theorem contains_iff (ν : Nat → Option Nat) (w : Nat) (d : AData) (c : Nat) :
    d.contains ν w c = true ↔ d.Mem ν w c := by
  unfold AData.contains AData.Mem
  rw [Bool.or_eq_true, Bool.or_eq_true, or_assoc, List.any_eq_true, Prod.exists]
  -- disjunct by disjunct: top flag, absolute part, relative targets
  refine or_congr Iff.rfl (or_congr ?_ (exists_congr fun i => exists_congr fun I => and_congr Iff.rfl ?_))
  · cases d.abs <;> simp
  · cases ν i <;> simp

/-- register-wise concretisation of an analysis state (registers that are not listed are `Top`):
every listed register that exists holds a represented value -/
def StateMem (ν : Nat → Option Nat) (regs : List Variable) (info : List (String × AData)) (σ : Sem.State) : Prop :=
  ∀ name d, (name, d) ∈ info → ∀ v, regs.find? (·.name == name) = some v →
    d.Mem ν (8 * v.size) (σ.getReg v).toNat

/-- **C13-check-exec.** the executable check of one state answers "no excluded register" exactly if
the state is in the concretisation -/
theorem firstExcluded_none_iff (ν : Nat → Option Nat) (regs : List Variable) (info : List (String × AData))
    (σ : Sem.State) : firstExcluded ν regs info σ = none ↔ StateMem ν regs info σ := by
  unfold firstExcluded StateMem
  rw [List.findSome?_eq_none_iff, Prod.forall]
  refine forall_congr' fun name => forall_congr' fun d => imp_congr_right fun _ => ?_
  dsimp only
  split
  · rename_i hv
    simp [hv]
  · rename_i v hv
    simp [hv, contains_iff]

section Meta
variable {V : Type}

/-- **C13-meta.** Let the concrete semantics be given by start states `init` and edge transitions
`cstep` between machine states, and let `repr a σ` say that the abstract value `a` represents the
machine state `σ` (in the validation of the real analysis: `StateMem ν regs (registers of a) σ` with `ν` the
valuation from the entry state; in the proved instance `pi_model_sound_partial`: `Repr ρ`). If `merge` is an upper bound, every edge transfer is sound and does
not block a feasible transition, and the assignment `S` is closed and covers the start states, then every
reachable machine state at node `i` is represented by the value of `S` at `i`. -/
theorem pi_meta {P : Fix.Problem V} {repr : V → Sem.State → Prop} {init : Nat → Sem.State → Prop}
    {cstep : Fix.Edge V → Sem.State → Sem.State → Prop}
    (hjoin : ∀ x b σ, repr x σ → repr (P.join x b) σ)
    (hsound : ∀ e ∈ P.edges, ∀ a σ σ', repr a σ → cstep e σ σ' → ∃ x, e.f a = some x ∧ repr x σ')
    {S : Fix.Assign V} (hS : Fix.Closed P S) (hinit : ∀ i σ, init i σ → ∃ a, S i = some a ∧ repr a σ)
    {i : Nat} {σ : Sem.State} (hr : Fix.Reach P init cstep i σ) : ∃ a, S i = some a ∧ repr a σ :=
  Fix.sound_of_closed hjoin hsound hS hinit hr

/-- **C13-unreachable.** … and a node without analysis value is never reached. -/
theorem pi_unreachable {P : Fix.Problem V} {repr : V → Sem.State → Prop} {init : Nat → Sem.State → Prop}
    {cstep : Fix.Edge V → Sem.State → Sem.State → Prop}
    (hjoin : ∀ x b σ, repr x σ → repr (P.join x b) σ)
    (hsound : ∀ e ∈ P.edges, ∀ a σ σ', repr a σ → cstep e σ σ' → ∃ x, e.f a = some x ∧ repr x σ')
    {S : Fix.Assign V} (hS : Fix.Closed P S) (hinit : ∀ i σ, init i σ → ∃ a, S i = some a ∧ repr a σ)
    {i : Nat} (hnone : S i = none) (σ : Sem.State) : ¬ Fix.Reach P init cstep i σ :=
  Fix.unreachable_of_none hjoin hsound hS hinit hnone σ

end Meta

theorem window_iff (x : Int) : window x = true ↔ -1024 < x ∧ x < 1024 := by
  simp [window]

theorem inNullWindow_eq (bits addr : Nat) : inNullWindow bits addr = window (toSigned bits addr) := by
  simp [inNullWindow, window]

theorem inRange_1024 {w : Nat} (hw : 12 ≤ w) : InRange w 1024 ∧ InRange w (-1024) := by
  have h : (2048 : Int) ≤ pow2 (w - 1) := pow2_le_pow2 (a := 11) (by omega)
  unfold InRange smin smax
  omega

/-- an address outside the window lies beyond the window on the side of a bound inside the window -/
theorem outside_window {x b : Int} (hout : window x = false) (hb : window b = true) :
    (b ≤ x → 1024 ≤ x) ∧ (x ≤ b → x ≤ -1024) := by
  have hx : ¬ (-1024 < x ∧ x < 1024) := fun h => by rw [(window_iff x).mpr h] at hout; cases hout
  obtain ⟨h1, h2⟩ := (window_iff b).mp hb
  exact ⟨fun h => Int.not_lt.mp fun hlt => hx ⟨Int.lt_of_lt_of_le h1 h, hlt⟩,
    fun h => Int.not_lt.mp fun hgt => hx ⟨hgt, Int.lt_of_le_of_lt h h2⟩⟩

theorem nullNew_sound (a : IntervalDomain) (ha : a.WF) (hw : 12 ≤ a.interval.w) (hw64 : a.interval.w ≤ 64)
    (hwin : (window a.interval.start || window a.interval.stop) = true)
    {x : Int} (hx : a.Mem x) (hout : window x = false) : ∃ r, nullNew a = some r ∧ r.Mem x := by
  obtain ⟨hr1, hr2⟩ := inRange_1024 hw
  unfold nullNew
  split
  · -- the start bound is in the window: every address that completes is ≥ 1024
    rename_i hs
    exact C04.addSignedGreaterEqualBound_sound a ha hw64 1024 hr1 hx ((outside_window hout hs).1 hx.1)
  · -- only the end bound is in the window: every address that completes is ≤ −1024
    rename_i hs
    rw [Bool.not_eq_true] at hs
    rw [hs, Bool.false_or] at hwin
    exact C04.addSignedLessEqualBound_sound a ha hw64 (-1024) hr2 hx ((outside_window hout hwin).2 hx.2.1)

theorem nullCheck_cases (a : IntervalDomain) (rest : Bool) :
    (nullCheck (some a) rest = .noDetect ∧
      (a.isTop = true ∨ (window a.interval.start || window a.interval.stop) = false)) ∨
    (a.isTop = false ∧ (window a.interval.start || window a.interval.stop) = true ∧
      ((nullCheck (some a) rest = .certain ∧ nullNew a = none ∧ rest = false) ∨
       (nullCheck (some a) rest = .possible (nullNew a) ∧ ¬ (nullNew a = none ∧ rest = false)))) := by
  have hnone : ((nullNew a).isNone && !rest) = true ↔ nullNew a = none ∧ rest = false := by
    rw [Bool.and_eq_true, Option.isNone_iff_eq_none, Bool.not_eq_true']
  simp only [nullCheck]
  by_cases ht : a.isTop = true
  · exact Or.inl ⟨if_pos ht, Or.inl ht⟩
  · by_cases hwin : (window a.interval.start || window a.interval.stop) = true
    · refine Or.inr ⟨Bool.eq_false_iff.mpr ht, hwin, ?_⟩
      simp only [if_neg ht, if_pos hwin]
      by_cases hc : ((nullNew a).isNone && !rest) = true
      · exact Or.inl ⟨if_pos hc, hnone.mp hc⟩
      · exact Or.inr ⟨if_neg hc, fun h => hc (hnone.mpr h)⟩
    · exact Or.inl ⟨by rw [if_neg ht, if_neg hwin], Or.inr (Bool.eq_false_iff.mpr hwin)⟩

/-- **C13-null-sound.** If the decision is "possible NULL dereference" and the absolute part is replaced
by `new`, every represented address outside the window (−1024, 1024) — i.e. every address with which
the access can complete — is still represented by `new`. -/
theorem nullCheck_sound (a : IntervalDomain) (ha : a.WF) (hw : 12 ≤ a.interval.w) (hw64 : a.interval.w ≤ 64)
    (rest : Bool) (new : Option IntervalDomain) (h : nullCheck (some a) rest = .possible new)
    {x : Int} (hx : a.Mem x) (hout : window x = false) : ∃ r, new = some r ∧ r.Mem x := by
  rcases nullCheck_cases a rest with ⟨h1, _⟩ | ⟨_, hwin, ⟨h1, _⟩ | ⟨h1, _⟩⟩
  · rw [h1] at h; cases h
  · rw [h1] at h; cases h
  · rw [h1] at h; cases h
    exact nullNew_sound a ha hw hw64 hwin hx hout

/-- **C13-null-certain.** The verdict "certain NULL dereference" (`Err("Unsatisfiable state")`, after
which `update_def` drops the state) is only given if the address value has no relative target and no
top flag and EVERY address it represents lies in the window: the access never completes. -/
theorem nullCheck_certain (a : IntervalDomain) (ha : a.WF) (hw : 12 ≤ a.interval.w) (hw64 : a.interval.w ≤ 64)
    (rest : Bool) (h : nullCheck (some a) rest = .certain) :
    rest = false ∧ ∀ x, a.Mem x → window x = true := by
  rcases nullCheck_cases a rest with ⟨h1, _⟩ | ⟨_, hwin, ⟨_, hnone, hrest⟩ | ⟨h1, _⟩⟩
  · rw [h1] at h; cases h
  · refine ⟨hrest, fun x hx => ?_⟩
    cases hwx : window x with
    | true => rfl
    | false =>
      obtain ⟨r, hr, _⟩ := nullNew_sound a ha hw hw64 hwin hx hwx
      rw [hnone] at hr; cases hr
  · rw [h1] at h; cases h

/-- **C13-null-nodetect.** `Ok(false)` (nothing is reported, nothing is changed) is answered for an absolute part
exactly if it is `Top` or both of its bounds lie outside the window. -/
theorem nullCheck_noDetect (a : IntervalDomain) (rest : Bool) :
    nullCheck (some a) rest = .noDetect ↔
      (a.isTop = true ∨ (window a.interval.start = false ∧ window a.interval.stop = false)) := by
  rcases nullCheck_cases a rest with ⟨h1, h2⟩ | ⟨ht, hwin, h⟩
  · simp only [h1, true_iff]
    exact h2.imp_right fun h => by simpa using h
  · have hne : nullCheck (some a) rest ≠ .noDetect := by
      rcases h with ⟨h1, _⟩ | ⟨h1, _⟩ <;> rw [h1] <;> exact fun h => nomatch h
    refine iff_of_false hne ?_
    rintro (h | ⟨h3, h4⟩)
    · rw [ht] at h; cases h
    · rw [h3, h4] at hwin; cases hwin

theorem nullCheck_none (rest : Bool) : nullCheck none rest = .noDetect := rfl

def exDom (s e : Int) (st : Nat) : IntervalDomain :=
  { interval := { w := 64, start := s, stop := e, stride := st }, upper := none, lower := none, delay := 0 }

-- [0, 4096] stride 8: possible NULL dereference, the survivors are [1024, 4096]
example : nullCheck (some (exDom 0 4096 8)) false = .possible (some (exDom 1024 4096 8)) := by decide +kernel
-- [0, 8] stride 8: certain
example : nullCheck (some (exDom 0 8 8)) false = .certain := by decide +kernel
-- … unless the value also has a relative target
example : nullCheck (some (exDom 0 8 8)) true = .possible none := by decide +kernel
-- [-4096, -8]: end bound in the window
example : nullCheck (some (exDom (-4096) (-8) 8)) false = .possible (some (exDom (-4096) (-1024) 8)) := by decide +kernel
-- window strictly inside the interval: not detected
example : nullCheck (some (exDom (-4096) 4096 8)) false = .noDetect := by decide +kernel
theorem exDom_wf (s e : Int) (st : Nat) (h : (exDom s e st).interval.WF) : (exDom s e st).WF :=
  ⟨h, fun u hu => by simp [exDom] at hu, fun l hl => by simp [exDom] at hl, by simp [exDom]⟩
example : ∀ x, (exDom 0 8 8).Mem x → window x = true :=
  (nullCheck_certain (exDom 0 8 8) (exDom_wf _ _ _ (by decide +kernel)) (by decide) (by decide) false
    (by decide +kernel)).2

-- γ: `stack id − 72` with the entry stack pointer 0x7ffd00000000
example : ({ rel := [(0, Interval.single 64 (-72))], abs := none, top := false } : AData).contains
    (fun _ => some 0x7ffd00000000) 64 (0x7ffd00000000 - 72) = true := by decide +kernel
example : ({ rel := [(0, Interval.single 64 (-72))], abs := none, top := false } : AData).contains
    (fun _ => some 0x7ffd00000000) 64 (0x7ffd00000000 - 64) = false := by decide +kernel

/-! non-vacuity of the frame: `b0: RAX := 5; goto b1` with the analysis value `RAX ↦ [5,5]` at `b1` -/
section FrameExample
def exRAX : Variable := { name := "RAX", size := 8 }
def exVal : List (String × AData) := [("RAX", { rel := [], abs := some (Interval.single 64 5), top := false })]
def exProblem : Fix.Problem (List (String × AData)) :=
  { edges := [⟨0, 1, fun _ => some exVal⟩], join := fun x _ => x }
def exAssign : Fix.Assign (List (String × AData)) := fun i => if i = 0 then some [] else if i = 1 then some exVal else none
def exRepr (a : List (String × AData)) (σ : Sem.State) : Prop := StateMem (fun _ => none) [exRAX] a σ
def exStep (_ : Fix.Edge (List (String × AData))) (σ σ' : Sem.State) : Prop := σ' = σ.setReg exRAX (Bv.ofBytes 8 5)

theorem getReg_setReg (σ : Sem.State) (x : Bv) : (σ.setReg exRAX x).getReg exRAX = x :=
  Sem.getReg_setReg_self σ exRAX x

example (σ0 σ : Sem.State)
    (hr : Fix.Reach exProblem (fun i s => i = 0 ∧ s = σ0) exStep 1 σ) :
    ∃ a, exAssign 1 = some a ∧ exRepr a σ := by
  refine pi_meta (P := exProblem) (repr := exRepr) (fun x b σ h => h) ?_ ?_ ?_ hr
  · intro e he a s s' _ hstep
    simp only [exProblem, List.mem_singleton] at he
    subst he
    refine ⟨exVal, rfl, ?_⟩
    intro name d hm v hv
    simp only [exVal, List.mem_singleton, Prod.mk.injEq] at hm
    obtain ⟨rfl, rfl⟩ := hm
    obtain rfl : v = exRAX := Option.some.inj (hv.symm.trans rfl)
    rw [hstep, getReg_setReg]
    exact Or.inr (Or.inl ⟨_, rfl, by decide⟩)
  · intro e he a x ha hx
    simp only [exProblem, List.mem_singleton] at he
    subst he
    simp only at hx
    cases hx
    exact ⟨exVal, rfl, rfl⟩
  · rintro i s ⟨rfl, rfl⟩
    exact ⟨[], rfl, fun _ _ hm => by cases hm⟩
end FrameExample

/-! ### the join and call theorems applied (the hypotheses are satisfiable) -/
section JoinCallApplied
open CondEx

theorem exM_size8 : Size8 exM.st := by
  intro v d hm
  simp only [exM, List.mem_cons, Prod.mk.injEq, List.not_mem_nil, or_false] at hm
  rcases hm with ⟨_, rfl⟩ | ⟨_, rfl⟩ <;> decide

-- `merge_sound_partial`: the merge of the example state with itself still represents the example machine state
example : ∃ m, exM.merge exM = some m ∧ m.In exρ exσ2 ∧ m.WF ∧ Size8 m.st ∧ m.stackId = exM.stackId :=
  have hk : RegKeys exM.st := by unfold RegKeys; decide +kernel
  merge_sound_partial exM_wf exM_wf rfl hk hk exM_size8 exM_size8
    (oa := { unique := true, mem := [] }) (ob := { unique := true, mem := [] }) rfl rfl
    (by unfold ObjKeys; decide +kernel) (Or.inl exM_in)

/-- the machine state after a call that pops the return address and clobbers `RAX` -/
def exσ3 : Sem.State := (exσ2.setReg exRAX (Bv.ofNat 64 77)).setReg exRSP (Bv.ofNat 64 0x7ffd00000ff8)

theorem exAbi : AbiCall exRSP [exRBX] exσ2 exσ3 := by
  refine ⟨?_, ?_, ?_⟩
  · have h1 : exσ3.getReg exRSP = Bv.ofNat 64 0x7ffd00000ff8 := by
      unfold exσ3; rw [Sem.getReg_setReg_self]
    have h2 : exσ2.getReg exRSP = Bv.ofNat 64 0x7ffd00000ff0 := by
      unfold exσ2; rw [Sem.getReg_setReg, if_neg (by decide +kernel), Sem.getReg_setReg, if_pos rfl]
    rw [h1, h2]
    exact Bv.ext' rfl (by decide)
  · intro v hv hne
    simp only [List.mem_singleton] at hv
    subst hv
    unfold exσ3
    rw [Sem.getReg_setReg, if_neg (by decide +kernel), Sem.getReg_setReg, if_neg (by decide +kernel)]
  · exact ((((C10.stateWF_default 1).setReg _ _ rfl).setReg _ _ rfl).setReg _ _ rfl).setReg _ _ rfl

-- `updateCallStub_sound_partial`: after the call the example state (stack pointer popped, `RAX` forgotten) represents it
example : ∃ s', updateCallStub exM exRSP { JoinEx.cc with calleeSavedRegister := [exRBX] } JoinEx.ext = some s' ∧
    s'.In exρ exσ3 ∧ s'.WF ∧ s'.stackId = exM.stackId :=
  updateCallStub_sound_partial exM_wf exM_in (sp := exRSP) rfl (by decide) (o := { unique := true, mem := [] }) rfl exAbi
    (fun _ c hc => absurd hc List.not_mem_nil)

end JoinCallApplied

end CweModel.C13
