/-
C13, "PI-lite" layer 2: the register part of `pointer_inference::State::eval`
(`state/access_handling.rs`, model `C13/Eval.lean`) is sound for the reference interpreter
(`Base/IRSem.lean`: `Sem.eval`), by induction on the expression, under every identifier valuation `ρ`
(the global memory identifier standing for base address 0):

    s.WF  ∧  (∀ r, σ(r) ∈ γρ (s.getReg r))  ∧  ExprOk e  ∧  Sem.eval σ e = v   ⟹   v ∈ γρ (s.eval e)      (`St.eval_sound`)

`St.handleRegisterAssign_sound` turns this into the soundness of the register part of the transfer function
of `Def::Assign`, one instance of the hypothesis `hsound` of the frame theorem (C13/Props.lean `pi_meta`).
`DData.mem_toAData`: a value in the γρ of these theorems is in the γ the validation of the real analysis evaluates.
-/
import CweModel.C13.Model
import CweModel.C13.Eval
import CweModel.C13.DataProps

set_option linter.unusedSimpArgs false
namespace CweModel.C13
open CweModel CweModel.IR CweModel.Itv

def isCountCast : CastOpType → Bool
  | .PopCount | .LzCount => true
  | _ => false

/-- in every `PopCount`/`LzCount` cast the bit length of the operand is representable (as a signed number) in
the result size — e.g. any operand of at most 15 bytes for a 1-byte result. Where this fails,
`IntervalDomain::cast` answers `Top` for a non-constant operand (`interval.rs`, the guarded arm
`PopCount | LzCount if …`; model `C02.countFits`), so no proof uses it: `St.eval_sound` takes it as a part of `ExprOk`
and hands only `C12.WellSized` to `St.evalRec_sound`. -/
def CountFits : Expression → Prop
  | .BinOp _ l r => CountFits l ∧ CountFits r
  | .UnOp _ a => CountFits a
  | .Cast op size a => (isCountCast op = true → ((8 * a.bytesize : Nat) : Int) ≤ smax (8 * size)) ∧ CountFits a
  | .Subpiece _ _ a => CountFits a
  | _ => True

/-- `C12.WellSized` is the typing the normalised IR is proved to satisfy in C12 -/
def ExprOk (e : Expression) : Prop := C12.WellSized e ∧ CountFits e

theorem tryToBitvec_some {o : IntervalDomain} {c : Int} (h : o.tryToBitvec = some c) :
    o.interval.start = c ∧ o.interval.stop = c := by
  unfold IntervalDomain.tryToBitvec at h
  split at h
  · rename_i he; cases h; exact ⟨rfl, he.symm⟩
  · cases h

theorem find_key {l : List (Variable × DData)} {v : Variable} {p : Variable × DData}
    (h : l.find? (fun p => p.1 = v) = some p) : p ∈ l ∧ p.1 = v :=
  ⟨List.mem_of_find?_eq_some h, by simpa using List.find?_some h⟩

theorem getReg_cases (t : St) (v : Variable) :
    (t.getReg v = DData.newTop v.size ∧ ∀ d, (v, d) ∉ t.regs) ∨ (v, t.getReg v) ∈ t.regs := by
  unfold St.getReg
  cases h : t.regs.find? (fun p => p.1 = v) with
  | none => exact Or.inl ⟨rfl, fun d hd => by simpa using List.find?_eq_none.mp h _ hd⟩
  | some p =>
    obtain ⟨hm, rfl⟩ := find_key h
    exact Or.inr hm

namespace St

def WF (s : St) : Prop := ∀ v d, (v, d) ∈ s.regs → d.WF ∧ d.size = v.size

/-- **γ of the register map**: every register's concrete value is represented by its abstract value
(a register without binding is `Top`: any value of the register's size) -/
def RegsIn (ρ : Nat → Int) (s : St) (σ : Sem.State) : Prop := ∀ v, (s.getReg v).Mem ρ (σ.getReg v)

theorem getReg_wf {s : St} (hs : s.WF) (v : Variable) (hv : 0 < v.size) :
    (s.getReg v).WF ∧ (s.getReg v).size = v.size := by
  rcases getReg_cases s v with ⟨e, _⟩ | hm
  · rw [e]; exact ⟨DData.newTop_wf hv, rfl⟩
  · exact hs _ _ hm

theorem binBytes_eq (op : BinOpType) (l r : Expression) :
    DData.binBytes op l.bytesize r.bytesize = (Expression.BinOp op l r).bytesize := by
  cases op <;> rfl

theorem unBytes_eq (op : UnOpType) (a : Expression) (h : C12.unSizeOk op a.bytesize) :
    DData.unBytes op a.bytesize = (Expression.UnOp op a).bytesize := by
  cases op
  case BoolNegate => exact (show a.bytesize = 1 from h).symm
  all_goals rfl

/-- **C13-evalrec.** `eval_recursive` is sound: by induction on the expression. -/
theorem evalRec_sound {ρ : Nat → Int} {s : St} (hs : s.WF) {σ : Sem.State} (hσ : RegsIn ρ s σ) :
    ∀ e : Expression, C12.WellSized e →
      (s.evalRec e).WF ∧ (s.evalRec e).size = e.bytesize ∧ ∀ v, Sem.eval σ e = some v → (s.evalRec e).Mem ρ v := by
  intro e
  induction e with
  | Var x =>
    intro hw
    obtain ⟨h1, h2⟩ := getReg_wf hs x hw
    exact ⟨h1, h2, fun v hv => Option.some.inj hv ▸ hσ x⟩
  | Const b x =>
    intro hw
    obtain ⟨h1, h2⟩ := DData.ofBv_wf (Bv.ofBytes b x) hw rfl
    exact ⟨h1, h2, fun v hv => Option.some.inj hv ▸ DData.ofBv_mem ρ _ rfl⟩
  | Unknown d n =>
    intro hw
    exact ⟨DData.newTop_wf hw, rfl, fun v hv => Option.some.inj hv ▸ mem_of_top rfl _ rfl⟩
  | BinOp op l r ihl ihr =>
    intro ⟨hwl, hwr, hsz⟩
    obtain ⟨hl1, hl2, hl3⟩ := ihl hwl
    obtain ⟨hr1, hr2, hr3⟩ := ihr hwr
    by_cases hx : op = .IntXOr ∧ l = r
    · rw [show s.evalRec (.BinOp op l r) = DData.ofBv (Bv.ofBytes l.bytesize 0) from if_pos hx]
      obtain ⟨rfl, rfl⟩ := hx
      obtain ⟨h1, h2⟩ := DData.ofBv_wf (Bv.ofBytes l.bytesize 0) (hl2 ▸ hl1.1) rfl
      refine ⟨h1, h2, fun v hv => ?_⟩
      obtain ⟨a, b, ha, hb, hv'⟩ := C10.eval_binOp_some.mp hv
      cases ha.symm.trans hb
      rw [C10.ref_xor_self (Or.inl rfl)] at hv'
      cases hv'
      have haw : a.w = 8 * l.bytesize := hl2 ▸ (hl3 a ha).1
      rw [show Bv.ofNat a.w 0 = Bv.ofBytes l.bytesize 0 by rw [haw]; rfl]
      exact DData.ofBv_mem ρ _ rfl
    · rw [show s.evalRec (.BinOp op l r) = (s.evalRec l).binOp op (s.evalRec r) from if_neg hx]
      have hsz' : C12.binSizesOk op (s.evalRec l).size (s.evalRec r).size := hl2 ▸ hr2 ▸ hsz
      obtain ⟨h1, h2⟩ := DData.binOp_wf op hl1 hr1 hsz'
      refine ⟨h1, by rw [h2, hl2, hr2]; exact binBytes_eq op l r, fun v hv => ?_⟩
      obtain ⟨a, b, ha, hb, hv'⟩ := C10.eval_binOp_some.mp hv
      exact DData.binOp_sound op hl1 hr1 hsz' (hl3 a ha) (hr3 b hb) hv'
  | UnOp op a ih =>
    intro ⟨hwa, hsz⟩
    obtain ⟨h1, h2, h3⟩ := ih hwa
    have hsz' : C12.unSizeOk op (s.evalRec a).size := h2 ▸ hsz
    refine ⟨DData.unOp_wf op h1 hsz', ((DData.unOp_size op _).trans (h2 ▸ unBytes_eq op a hsz) :), fun v hv => ?_⟩
    obtain ⟨x, hx, hv'⟩ := C10.eval_unOp_some.mp hv
    exact DData.unOp_sound op h1 hsz' (h3 x hx) hv'
  | Cast op n a ih =>
    intro ⟨hwa, hn, hsz⟩
    obtain ⟨h1, h2, h3⟩ := ih hwa
    refine ⟨DData.cast_wf op n h1 hn (h2 ▸ hsz), rfl, fun v hv => ?_⟩
    obtain ⟨x, hx, hv'⟩ := C10.eval_cast_some.mp hv
    exact DData.cast_sound op n h1 hn (h3 x hx) hv'
  | Subpiece lb n a ih =>
    intro ⟨hwa, hn, hsz⟩
    obtain ⟨h1, h2, h3⟩ := ih hwa
    obtain ⟨h4, h5⟩ := DData.subpiece_wf lb n h1 hn (h2 ▸ hsz)
    refine ⟨h4, h5, fun v hv => ?_⟩
    obtain ⟨x, hx, hv'⟩ := C10.eval_subpiece_some.mp hv
    exact DData.subpiece_sound lb n h1 hn (h2 ▸ hsz) (h3 x hx) hv'

theorem tryToOffset_some {d : DData} {c : Int} (h : tryToOffset d = some c) :
    d.rel = [] ∧ d.top = false ∧ ∃ a, d.abs = some a ∧ a.interval.start = a.interval.stop := by
  unfold tryToOffset at h
  split at h
  · cases h
  · rename_i hc
    simp only [Bool.or_eq_true, Bool.not_eq_true', List.isEmpty_eq_false_iff, not_or, Decidable.not_not,
      Bool.not_eq_true] at hc
    split at h
    · rename_i a ha
      split at h
      · rename_i x hx
        obtain ⟨h1, h2⟩ := tryToBitvec_some hx
        exact ⟨hc.1, hc.2, a, ha, h1.trans h2.symm⟩
      · cases h
    · cases h

/-- the two global-pointer rules (`replace_if_global_pointer`, `load_value_from_address`): a single absolute value `a` is
a pointer relative to an identifier that stands for the base address 0, with any offset `o` that has the members of `a` -/
theorem fromTarget_zero_sound {ρ : Nat → Int} {d : DData} (hd : d.WF) {c : Int} (hc : tryToOffset d = some c)
    {i : Nat} (hρ : ρ i = 0) {a o : IntervalDomain} (ha : d.abs = some a)
    (ho : o.WF ∧ o.interval.w = a.interval.w) (hsub : ∀ x, a.Mem x → o.Mem x) :
    (DData.fromTarget i o).WF ∧ (DData.fromTarget i o).size = d.size ∧
      ∀ v, d.Mem ρ v → (DData.fromTarget i o).Mem ρ v := by
  obtain ⟨hrel, htop, _⟩ := tryToOffset_some hc
  obtain ⟨hwf, hsz⟩ := DData.fromTarget_wf i ho.1 hd.1 (ho.2.trans (hd.2.1 a ha).2)
  refine ⟨hwf, hsz, fun v hv => ⟨hsz ▸ hv.1, Or.inr (Or.inr ⟨i, o, v.toInt, List.mem_singleton_self _, ?_, ?_⟩)⟩⟩
  · rcases DData.memI_norel hrel hv.2 with h | ⟨a', ha', hm⟩
    · rw [htop] at h; cases h
    · cases ha.symm.trans ha'; exact hsub _ hm
  · rw [hρ, Int.zero_add]
    exact (wrap_toInt (hv.width_pos hd) v.v).symm

/-- a constant that is a known global address is replaced by a pointer relative to the global memory
identifier; sound when that identifier stands for the base address 0 -/
theorem replaceIfGlobalPointer_sound {ρ : Nat → Int} (s : St) (hg : s.globals ≠ [] → ρ s.gid = 0)
    {d : DData} (hd : d.WF) :
    (s.replaceIfGlobalPointer d).WF ∧ (s.replaceIfGlobalPointer d).size = d.size ∧
      ∀ v, d.Mem ρ v → (s.replaceIfGlobalPointer d).Mem ρ v := by
  unfold replaceIfGlobalPointer
  split
  · rename_i c hc
    split
    · rename_i hcont
      split
      · rename_i a ha
        exact fromTarget_zero_sound hd hc (hg fun h => by rw [h] at hcont; cases hcont) ha
          ⟨C02.ofInterval_wf (hd.2.1 a ha).1.1, rfl⟩ fun _ h => h
      · exact ⟨hd, rfl, fun v hv => hv⟩
    · exact ⟨hd, rfl, fun v hv => hv⟩
  · exact ⟨hd, rfl, fun v hv => hv⟩

/-- **C13-eval-sound.** Soundness of `State::eval` on the register part of the state: if every register's
concrete value is in γρ of its abstract value (a register without binding is `Top`), then for every well-sized
expression the value the reference interpreter computes is in γρ of `State::eval`; the result is
well-formed and has the expression's byte size. `ρ` is arbitrary, except that the global memory identifier
stands for the base address 0 whenever `known_global_addresses` is non-empty. -/
theorem eval_sound {ρ : Nat → Int} {s : St} (hs : s.WF) (hg : s.globals ≠ [] → ρ s.gid = 0)
    {σ : Sem.State} (hσ : RegsIn ρ s σ) {e : Expression} (he : ExprOk e) :
    (s.eval e).WF ∧ (s.eval e).size = e.bytesize ∧ ∀ v, Sem.eval σ e = some v → (s.eval e).Mem ρ v := by
  obtain ⟨h1, h2, h3⟩ := evalRec_sound hs hσ e he.1
  obtain ⟨h4, h5, h6⟩ := replaceIfGlobalPointer_sound (ρ := ρ) s hg h1
  exact ⟨h4, by rw [eval, h5, h2], fun v hv => h6 v (h3 v hv)⟩

theorem find_filter_ne (l : List (Variable × DData)) {v w : Variable} (hne : w ≠ v) :
    (l.filter (fun p => decide (p.1 ≠ v))).find? (fun p => decide (p.1 = w)) = l.find? (fun p => decide (p.1 = w)) :=
  List.find?_filter_of_imp l _ _ fun _ h => decide_eq_true fun e => hne ((of_decide_eq_true h).symm.trans e)

theorem find_filter_self (l : List (Variable × DData)) (v : Variable) :
    (l.filter (fun p => decide (p.1 ≠ v))).find? (fun p => decide (p.1 = v)) = none := by
  rw [List.find?_eq_none]
  intro p hp
  simp only [List.mem_filter, decide_eq_true_eq] at hp
  simpa using hp.2

theorem getReg_setReg (s : St) (v w : Variable) (d : DData) :
    (s.setReg v d).getReg w = if w = v then (if d.isTop then DData.newTop v.size else d) else s.getReg w := by
  by_cases ht : d.isTop = true
  · simp only [setReg, ht, if_true, getReg]
    by_cases hwv : w = v
    · subst hwv; simp only [if_true, find_filter_self]
    · simp only [hwv, if_false, find_filter_ne _ hwv]
  · simp only [setReg, ht, if_false, getReg, Bool.false_eq_true]
    by_cases hwv : w = v
    · subst hwv; simp [List.find?]
    · have : ¬ v = w := fun h => hwv h.symm
      simp only [hwv, if_false, List.find?, this, decide_false, find_filter_ne _ hwv]

theorem setReg_globals (t : St) (x : Variable) (d : DData) :
    (t.setReg x d).globals = t.globals ∧ (t.setReg x d).gid = t.gid := by
  unfold setReg; split <;> exact ⟨rfl, rfl⟩

theorem isTop_eq {d : DData} (h : d.isTop = true) : d = DData.newTop d.size := by
  obtain ⟨sz, rel, abs, top⟩ := d
  simp only [DData.isTop, Bool.and_eq_true, List.isEmpty_iff, Option.isNone_iff_eq_none] at h
  obtain ⟨⟨rfl, rfl⟩, rfl⟩ := h
  rfl

end St

theorem regsIn_setReg_of {ρ : Nat → Int} {t : St} {σ : Sem.State} {x : Variable} {d : DData}
    (hoff : ∀ w, w ≠ x → (t.getReg w).Mem ρ (σ.getReg w)) (hd : d.Mem ρ (σ.getReg x)) (hsz : d.size = x.size) :
    St.RegsIn ρ (t.setReg x d) σ := by
  intro w
  rw [St.getReg_setReg]
  split
  · rename_i e
    subst e
    split
    · rename_i ht
      rw [St.isTop_eq ht, hsz] at hd
      exact hd
    · exact hd
  · exact hoff w ‹_›

theorem regsIn_setReg {ρ : Nat → Int} {t : St} {σ : Sem.State} (hσ : St.RegsIn ρ t σ) {x : Variable} {d : DData}
    {v : Bv} (hd : d.Mem ρ v) (hsz : d.size = x.size) : St.RegsIn ρ (t.setReg x d) (σ.setReg x v) :=
  regsIn_setReg_of (fun w hw => by rw [Sem.getReg_setReg_ne _ _ hw]; exact hσ w)
    (by rw [Sem.getReg_setReg_self]; exact hd) hsz

theorem wf_setReg {t : St} (ht : t.WF) {x : Variable} {d : DData} (hd : d.WF) (hsz : d.size = x.size) :
    (t.setReg x d).WF := by
  intro w d' hmem
  unfold St.setReg at hmem
  split at hmem
  · exact ht w d' (List.mem_filter.mp hmem).1
  · rcases List.mem_cons.mp hmem with h | hmem
    · cases h; exact ⟨hd, hsz⟩
    · exact ht w d' (List.mem_filter.mp hmem).1

namespace St

/-- **C13-assign-sound.** One instance of the frame's hypothesis "sound edge transfer": the register part
of the transfer function of `Def::Assign` (`handle_register_assign`) maps represented states to
represented states. -/
theorem handleRegisterAssign_sound {ρ : Nat → Int} {s : St} (hs : s.WF) (hg : s.globals ≠ [] → ρ s.gid = 0)
    {σ : Sem.State} (hσ : RegsIn ρ s σ) {x : Variable} {e : Expression} (he : ExprOk e) (hsz : e.bytesize = x.size)
    {v : Bv} (hv : Sem.eval σ e = some v) :
    RegsIn ρ (s.handleRegisterAssign x e) (σ.setReg x v) ∧ (s.handleRegisterAssign x e).WF := by
  obtain ⟨h1, h2, h3⟩ := eval_sound hs hg hσ he
  exact ⟨regsIn_setReg hσ (h3 v hv) (h2.trans hsz), wf_setReg hs h1 (h2.trans hsz)⟩

end St

/-- the value as the validation stream reports it (`AData` of `C13/Model.lean`: hints and size dropped) -/
def DData.toAData (d : DData) : AData :=
  { rel := d.rel.map (fun p => (p.1, p.2.interval)), abs := d.abs.map (·.interval), top := d.top }

/-- `AData.Mem` recovers the offset `x` of a value `base + x` from its unsigned reading `c` as `c + 2^w − base % 2^w` -/
theorem toSigned_sub_base {w : Nat} (hw : 0 < w) (v : BitVec w) (base : Nat) {x : Int} (hx : InRange w x)
    (h : v.toInt = wrap w ((base : Int) + x)) : toSigned w (v.toNat + 2 ^ w - base % 2 ^ w) = x := by
  have hle : base % 2 ^ w ≤ v.toNat + 2 ^ w :=
    Nat.le_trans (Nat.le_of_lt (Nat.mod_lt _ (Nat.two_pow_pos _))) (Nat.le_add_left _ _)
  rw [← wrap_of_inRange w hw hx]
  unfold toSigned wrap at *
  -- modulo `2^w`: `toNat + 2^w` is `toInt`, i.e. `base + x`, and `base % 2^w` is `base`
  rw [Int.ofNat_sub hle, Int.natCast_add, Int.natCast_emod, ← Int.bmod_sub_bmod, Int.add_bmod_right,
    ← BitVec.toInt_eq_toNat_bmod, h, Int.bmod_sub_bmod, ← Int.sub_bmod_bmod, Int.emod_bmod, Int.sub_bmod_bmod,
    Int.add_comm, Int.add_sub_cancel]

/-- **C13-gamma-agree.** The concretisation of the PI-lite theorems is contained in the one the validation of the
real analysis evaluates (`AData.Mem`, identifiers valuated by natural-number base values). -/
theorem DData.mem_toAData {ν : Nat → Option Nat} {ρ : Nat → Int} (hρ : ∀ i base, ν i = some base → ρ i = (base : Int))
    {d : DData} (hd : d.WF) {v : Bv} (hv : d.Mem ρ v) : d.toAData.Mem ν v.w v.toNat := by
  have hw0 := hv.width_pos hd
  rcases hv.2 with h | ⟨a, ha, hm⟩ | ⟨i, o, x, hmem, hx, heq⟩
  · exact Or.inl h
  · refine Or.inr (Or.inl ⟨a.interval, congrArg (Option.map fun o : IntervalDomain => o.interval) ha, ?_⟩)
    show a.interval.Mem (wrap v.w (v.v.toNat : Int))
    rw [← toInt_eq_wrap]; exact hm
  · refine Or.inr (Or.inr ⟨i, o.interval, List.mem_map.mpr ⟨(i, o), hmem, rfl⟩, ?_⟩)
    cases hν : ν i with
    | none => trivial
    | some base =>
      obtain ⟨h1, h2⟩ := hd.2.2 i o hmem
      have hxr : InRange v.w x := by rw [hv.1, ← h2]; exact Interval.mem_inRange h1.1 hx
      show o.interval.Mem (toSigned v.w (v.v.toNat + 2 ^ v.w - base % 2 ^ v.w))
      rw [toSigned_sub_base hw0 v.v base hxr (hρ i base hν ▸ heq)]
      exact hx

/-! ### the hypotheses can be met -/
section Example
def exSP : Variable := { name := "RSP", size := 8 }
def exSt : St := { regs := [(exSP, DData.fromTarget 0 (IntervalDomain.single 64 (-16)))], globals := [], gid := 1 }
def exσ : Sem.State := ({ seed := 1 } : Sem.State).setReg exSP (Bv.ofNat 64 0x7ffd00000ff0)
def exE : Expression := .BinOp .IntAdd (.Var exSP) (.Const 8 8)

theorem exSt_wf : exSt.WF := by
  intro v d hm
  simp only [exSt, List.mem_singleton, Prod.mk.injEq] at hm
  obtain ⟨rfl, rfl⟩ := hm
  exact ⟨exPtr_wf 0 (-16) (by decide), rfl⟩

theorem exRegsIn : St.RegsIn (fun _ => 0x7ffd00001000) exSt exσ := by
  intro v
  unfold exσ
  rw [Sem.getReg_setReg]
  by_cases h : v = exSP
  · subst h
    simp only [if_true]
    exact (DData.contains_iff (exPtr_wf 0 (-16) (by decide)) _).mp (by decide)
  · have h' : ¬ exSP = v := fun e => h e.symm
    simp only [h, if_false, St.getReg, exSt, List.find?, h', decide_false]
    exact ⟨C10.stateWF_default 1 v, Or.inl rfl⟩

-- the theorem applies: `RSP + 8` evaluates to a value represented by `State::eval`, which is `stack − 8`
example : (exSt.eval exE).Mem (fun _ => 0x7ffd00001000) (Bv.ofNat 64 0x7ffd00000ff8) :=
  (St.eval_sound exSt_wf (by intro h; exact absurd rfl h) exRegsIn (e := exE)
    ⟨⟨by decide, by decide, rfl⟩, trivial, trivial⟩).2.2 _ (by rfl)
example : exSt.eval exE = DData.fromTarget 0 (IntervalDomain.single 64 (-8)) := by decide
end Example

end CweModel.C13
