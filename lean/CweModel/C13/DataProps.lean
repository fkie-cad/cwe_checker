/-
C13, "PI-lite" layer 1: the `RegisterDomain` implementation of `DataDomain<IntervalDomain>`
(`abstract_domain/data/arithmetics.rs`, model `C13/Data.lean`) is sound for the P-Code reference semantics
(`Base/Bv.lean`: `Ref.binOp/unOp/cast/subpieceOp`) under every identifier valuation `ρ` (`DData.binOp_sound`,
`unOp_sound`, `cast_sound`, `subpiece_sound`), and its results are well-formed (`binOp_wf`, …).

The interval transfer functions are sound and well-formed by C02, `Bitvector::bin_op` is exact by C01, the bound
refinements are sound by C04 (lifted to γρ in `DData.addBound_sound`). Proved here: for binary operations, that the
model of `Bitvector::bin_op` is an instance of the evaluation on singletons over which C02 states its soundness theorem
(`concBv_ref`), so that `IntervalDomain::bin_op` is sound for the bit-vector reference semantics (`itvBinOp_spec`); the
pointer arithmetic of `DataDomain` itself; the executable γρ of the driver (`DData.contains_iff`).
-/
import CweModel.C13.Data
import CweModel.C02.Props
import CweModel.C02.RefTie
import CweModel.C01.Props
import CweModel.C04.DataBounds
import CweModel.C10.SemLemmas
import CweModel.C10.BvLemmas
import CweModel.C12.Model

set_option linter.unusedSimpArgs false
set_option linter.unusedVariables false
namespace CweModel.C13
open CweModel CweModel.IR CweModel.Itv

theorem toInt_eq_wrap {w : Nat} (x : BitVec w) : x.toInt = wrap w (x.toNat : Int) :=
  BitVec.toInt_eq_toNat_bmod x

theorem bvOfInt_mk {w : Nat} (x : BitVec w) : bvOfInt w x.toInt = ⟨w, x⟩ := by
  simp [bvOfInt, BitVec.ofInt_toInt]

theorem wrap_toInt {w : Nat} (hw : 0 < w) (x : BitVec w) : wrap w x.toInt = x.toInt :=
  wrap_of_inRange w hw (inRange_toInt x)

theorem wrap_add_wrap_left (w : Nat) (p q : Int) : wrap w (wrap w p + q) = wrap w (p + q) := Int.bmod_add_bmod
theorem wrap_add_wrap_right (w : Nat) (p q : Int) : wrap w (p + wrap w q) = wrap w (p + q) := Int.add_bmod_bmod
theorem wrap_sub_wrap_left (w : Nat) (p q : Int) : wrap w (wrap w p - q) = wrap w (p - q) := Int.bmod_sub_bmod
theorem wrap_sub_wrap_right (w : Nat) (p q : Int) : wrap w (p - wrap w q) = wrap w (p - q) := Int.sub_bmod_bmod

theorem inRange_of_width {z : Bv} {w : Nat} (h : z.w = w) : InRange w z.toInt := h ▸ inRange_toInt z.v

theorem one_lt_bits {s : Nat} (hs : 0 < s) : 1 < 8 * s := Nat.lt_of_lt_of_le (by decide) (Nat.mul_le_mul_left 8 hs)

theorem bits_le {lb s n w : Nat} (hw : w = 8 * n) (h : lb + s ≤ n) : 8 * lb + 8 * s ≤ w :=
  hw ▸ Nat.mul_add 8 lb s ▸ Nat.mul_le_mul_left 8 h

theorem toIRBin_ofIR (op : BinOpType) : C02.toIRBin (binOfIR op) = op := by cases op <;> rfl

/-- `concBv` is `Bitvector::bin_op` (C01: it computes the reference value) behind a check of the result width, which
the values of the reference pass: an instance of the parameter C02 proves `bin_op` sound for -/
theorem concBv_ref (op : Itv.BinOp) (wa wb : Nat) (hwid : C02.BinWidths op wa wb) (hbool : C02.isBool op = true → wa = 8) :
    C02.ConcRef (concBv wa wb) op wa wb where
  range x y v h := by
    unfold concBv at h
    split at h
    · rename_i r _
      split at h
      · rename_i hw
        cases h
        exact hw ▸ inRange_toInt r.v
      · cases h
    · cases h
  ref x y r hr := by
    have hr' : Ref.binOp (binToIR op) ⟨wa, x⟩ ⟨wb, y⟩ = .val r := hr
    unfold concBv
    rw [bvOfInt_mk, bvOfInt_mk, C01.binOp_eq_ref _ _ _ (C01.ref_binOp_wellSized hr'), hr']
    exact if_pos (C02.ref_binOp_width op wa wb hwid hbool x y hr)

theorem binWidths_of_ref {op : BinOpType} {x y z : Bv} (h : Ref.binOp op x y = .val z) :
    C02.BinWidths (binOfIR op) x.w y.w := by
  cases op
  case Piece | IntLeft | IntRight | IntSRight => trivial
  all_goals exact (C10.ref_same_width (by decide) h).symm

/-- the concrete semantics C02 states its soundness theorem for is the P-Code reference semantics: the `Int`
formulas for the five operations with a transfer function of their own (C02 `ref_binOp_conc_of`), `Bitvector::bin_op`
for the others -/
theorem concBin_of_ref {op : BinOpType} {x y z : Bv} (hb : C02.isBool (binOfIR op) = true → x.w = 8)
    (h : Ref.binOp op x y = .val z) :
    C02.concBin (concBv x.w y.w) (binOfIR op) x.w y.w x.toInt y.toInt = some z.toInt :=
  have h' : Ref.binOp (C02.toIRBin (binOfIR op)) ⟨x.w, x.v⟩ ⟨y.w, y.v⟩ = .val z := (toIRBin_ofIR op).symm ▸ h
  C02.ref_binOp_conc_of _ _ _ (binWidths_of_ref h) x.v y.v h' ((concBv_ref _ _ _ (binWidths_of_ref h) hb).ref x.v y.v z h')

theorem binWidths_of_sizes {op : BinOpType} {sa sb : Nat} (h : C12.binSizesOk op sa sb) :
    C02.BinWidths (binOfIR op) (8 * sa) (8 * sb) := by
  cases op
  case Piece | IntLeft | IntRight | IntSRight => trivial
  case BoolXOr | BoolAnd | BoolOr => exact congrArg (8 * ·) (h.2.trans h.1.symm)
  all_goals exact congrArg (8 * ·) h.symm

/-- **C13-itv-binop.** `IntervalDomain::bin_op` is well-formed and sound for the P-Code reference semantics: C02's
`binOp_sound_conc` instantiated with `Bitvector::bin_op` (C01). -/
theorem itvBinOp_spec (op : BinOpType) (a b : IntervalDomain) (ha : a.WF) (hb : b.WF)
    (hwid : C02.BinWidths (binOfIR op) a.interval.w b.interval.w)
    (hbool : C02.isBool (binOfIR op) = true → a.interval.w = 8) :
    ((itvBinOp op a b).WF ∧ (itvBinOp op a b).interval.w = binOpWidth (binOfIR op) a.interval.w b.interval.w) ∧
    ∀ {x y z : Bv}, x.w = a.interval.w → y.w = b.interval.w → a.Mem x.toInt → b.Mem y.toInt →
      Ref.binOp op x y = .val z → (itvBinOp op a b).Mem z.toInt ∧ z.w = (itvBinOp op a b).interval.w := by
  obtain ⟨h1, h2⟩ := C02.binOp_sound_conc _ a b (binOfIR op) ha hb hwid hbool (concBv_ref _ _ _ hwid hbool)
  refine ⟨h1, fun {x y z} hxw hyw hx hy hz => ?_⟩
  obtain ⟨wx, x⟩ := x
  obtain ⟨wy, y⟩ := y
  cases hxw
  cases hyw
  exact h2 x y hx hy ((toIRBin_ofIR op).symm ▸ hz)

theorem itvBinOp_sound (op : BinOpType) (a b : IntervalDomain) (ha : a.WF) (hb : b.WF) (hw1 : 1 < a.interval.w)
    {x y z : Bv} (hxw : x.w = a.interval.w) (hyw : y.w = b.interval.w)
    (hbool : C02.isBool (binOfIR op) = true → a.interval.w = 8)
    (hx : a.Mem x.toInt) (hy : b.Mem y.toInt) (hz : Ref.binOp op x y = .val z) :
    (itvBinOp op a b).Mem z.toInt ∧ z.w = (itvBinOp op a b).interval.w :=
  (itvBinOp_spec op a b ha hb (hxw ▸ hyw ▸ binWidths_of_ref hz) hbool).2 hxw hyw hx hy hz

theorem toIRUn_ofIR (op : UnOpType) : C02.toIRUn (unOfIR op) = op := by cases op <;> rfl
theorem toIRCast_ofIR (op : CastOpType) : C02.toIRCast (castOfIR op) = op := by cases op <;> rfl

theorem itvUnOp_width (op : UnOpType) (a : IntervalDomain) (ha : a.WF) (hw1 : 1 < a.interval.w)
    (hb : op = .BoolNegate → a.interval.w = 8) :
    (itvUnOp op a).interval.w = (match op with | .BoolNegate | .FloatNaN => 8 | _ => a.interval.w) := by
  cases op
  case IntNegate => exact (C02.bitwiseNot_wf a.interval ha.1 hw1).2
  case Int2Comp => exact (C02.int2Comp_wf a.interval ha.1 hw1).2
  case BoolNegate =>
    show (if _ then _ else _ : IntervalDomain).interval.w = 8
    split
    · split <;> rfl
    · exact hb rfl
  all_goals rfl

/-- **C13-itv-unop.** `IntervalDomain::un_op` is sound for the reference semantics (C02 `unOp_sound_ref`). -/
theorem itvUnOp_sound (op : UnOpType) (a : IntervalDomain) (ha : a.WF) (hw1 : 1 < a.interval.w)
    {x z : Bv} (hxw : x.w = a.interval.w) (hb : op = .BoolNegate → a.interval.w = 8)
    (hx : a.Mem x.toInt) (hz : Ref.unOp op x = .val z) :
    (itvUnOp op a).Mem z.toInt ∧ z.w = (itvUnOp op a).interval.w := by
  obtain ⟨w, v⟩ := x
  cases hxw
  refine C02.unOp_sound_ref a (unOfIR op) ha (fun h => hb ?_) v hx ((toIRUn_ofIR op).symm ▸ hz)
  rw [← toIRUn_ofIR op, h]; rfl

/-- **C13-itv-cast.** `IntervalDomain::cast` is sound for the reference semantics (C02 `cast_sound_ref`), whatever the
sizes of a count cast: where the bit length does not fit the result, `IntervalDomain::cast` of a non-constant answers
`Top` (the guard `C02.countFits`). -/
theorem itvCast_sound (op : CastOpType) (s : Nat) (a : IntervalDomain) (ha : a.WF) (hs : 0 < s)
    {x z : Bv} (hxw : x.w = a.interval.w) (hx : a.Mem x.toInt) (hz : Ref.cast op s x = .val z) :
    (itvCast op s a).Mem z.toInt ∧ z.w = (itvCast op s a).interval.w := by
  obtain ⟨w, v⟩ := x
  cases hxw
  exact C02.cast_sound_ref a (castOfIR op) s ha hs v hx ((toIRCast_ofIR op).symm ▸ hz)

theorem itvCast_wf (op : CastOpType) (s : Nat) (a : IntervalDomain) (ha : a.WF) (hs : 0 < s)
    (hext : (op = .IntZExt ∨ op = .IntSExt) → a.interval.w ≤ 8 * s) :
    (itvCast op s a).WF ∧ (itvCast op s a).interval.w = 8 * s := by
  refine C02.cast_wf a (castOfIR op) (8 * s) ha (one_lt_bits hs) fun h => hext ?_
  cases op <;> first | exact Or.inl rfl | exact Or.inr rfl | (rcases h with h | h <;> cases h)

/-- **C13-itv-subpiece.** (C02 `subpiece_sound_ref`) -/
theorem itvSubpiece_sound (lb s : Nat) (a : IntervalDomain) (ha : a.WF) (hs : 0 < s)
    (hsz : 8 * lb + 8 * s ≤ a.interval.w)
    {x z : Bv} (hxw : x.w = a.interval.w) (hx : a.Mem x.toInt) (hz : Ref.subpieceOp lb s x = .val z) :
    (itvSubpiece lb s a).Mem z.toInt ∧ z.w = (itvSubpiece lb s a).interval.w := by
  obtain ⟨w, v⟩ := x
  cases hxw
  exact C02.subpiece_sound_ref a lb s ha hs hsz v hx hz

/-- the reference counts bits with core's `cpop`/`clz` (`Base/Bv.lean`), C02 with arithmetic definitions of its own -/
theorem cpop_toNat {w : Nat} (x : BitVec w) : x.cpop.toNat = popCountNat w x.toNat :=
  (C02.popCountNat_toNat x).symm

theorem clz_toNat {w : Nat} (x : BitVec w) : x.clz.toNat = w - bitLen w x.toNat :=
  (C02.bitLen_toNat x).symm

theorem itvAdd_mem {a b : IntervalDomain} {w : Nat} (ha : a.WF ∧ a.interval.w = w) (hb : b.WF ∧ b.interval.w = w)
    {x y : Int} (hx : a.Mem x) (hy : b.Mem y) : (itvBinOp .IntAdd a b).Mem (cadd w x y) := by
  obtain ⟨ha, rfl⟩ := ha
  exact (C02.binOp_spec _ a b .intAdd ha hb.1 hb.2 (concBv_ref .intAdd _ _ hb.2 nofun).range hx hy).1 _ rfl

theorem itvSub_mem {a b : IntervalDomain} {w : Nat} (ha : a.WF ∧ a.interval.w = w) (hb : b.WF ∧ b.interval.w = w)
    {x y : Int} (hx : a.Mem x) (hy : b.Mem y) : (itvBinOp .IntSub a b).Mem (csub w x y) := by
  obtain ⟨ha, rfl⟩ := ha
  exact (C02.binOp_spec _ a b .intSub ha hb.1 hb.2 (concBv_ref .intSub _ _ hb.2 nofun).range hx hy).1 _ rfl

theorem itvAddSub_wf (op : BinOpType) (hop : op = .IntAdd ∨ op = .IntSub) {a b : IntervalDomain} {w : Nat}
    (ha : a.WF ∧ a.interval.w = w) (hb : b.WF ∧ b.interval.w = w) :
    (itvBinOp op a b).WF ∧ (itvBinOp op a b).interval.w = w := by
  obtain ⟨ha, rfl⟩ := ha
  rcases hop with rfl | rfl
  · exact (itvBinOp_spec .IntAdd a b ha hb.1 hb.2 nofun).1
  · exact (itvBinOp_spec .IntSub a b ha hb.1 hb.2 nofun).1

theorem IntervalDomain.newTop_wf (w : Nat) (hw : 1 < w) : (IntervalDomain.newTop w).WF ∧ (IntervalDomain.newTop w).interval.w = w :=
  ⟨C02.ofInterval_wf (Interval.wf_newTop w (Nat.lt_trans Nat.zero_lt_one hw)), rfl⟩

namespace DData

theorem Mem.width {ρ : Nat → Int} {d : DData} {v : Bv} (h : d.Mem ρ v) : v.w = 8 * d.size := h.1

theorem WF.bits {d : DData} (hd : d.WF) : 1 < 8 * d.size := one_lt_bits hd.1

theorem Mem.width_pos {ρ : Nat → Int} {d : DData} {v : Bv} (h : d.Mem ρ v) (hd : d.WF) : 0 < v.w :=
  h.1 ▸ Nat.lt_trans Nat.one_pos hd.bits

theorem isEmpty_false_of_mem {ρ : Nat → Int} {d : DData} {v : Bv} (h : d.Mem ρ v) : d.isEmpty = false := by
  unfold isEmpty
  rcases h.2 with ht | ⟨a, ha, _⟩ | ⟨i, o, x, hm, _⟩
  · rw [ht, Bool.not_true, Bool.and_false]
  · rw [ha, Option.isNone_some, Bool.and_false, Bool.false_and]
  · rw [List.isEmpty_eq_false_iff.mpr (List.ne_nil_of_mem hm), Bool.false_and, Bool.false_and]

theorem not_orEmpty {ρ : Nat → Int} {a b : DData} {x y : Bv} (hx : a.Mem ρ x) (hy : b.Mem ρ y) :
    ¬ (a.isEmpty || b.isEmpty) = true := by
  rw [isEmpty_false_of_mem hx, isEmpty_false_of_mem hy]; exact Bool.false_ne_true

theorem _root_.CweModel.C13.mem_of_top {ρ : Nat → Int} {d : DData} (ht : d.top = true) (v : Bv) (hw : v.w = 8 * d.size) :
    d.Mem ρ v :=
  ⟨hw, Or.inl ht⟩

theorem memI_newTopItv {ρ : Nat → Int} {d : DData} {w : Nat} {t : Int} (ht : InRange w t)
    (ha : d.abs = some (IntervalDomain.newTop w)) : d.MemI ρ w t :=
  Or.inr (Or.inl ⟨_, ha, (Interval.mem_newTop w t).mpr ht⟩)

theorem MemI.orTop {ρ : Nat → Int} {d : DData} {w : Nat} {t : Int} (h : d.MemI ρ w t) (c : Bool) :
    MemI ρ { d with top := d.top || c } w t :=
  h.imp (fun ht => by rw [show d.top = true from ht]; rfl) id

theorem memI_norel {ρ : Nat → Int} {d : DData} {w : Nat} {t : Int} (hr : d.rel = []) (h : d.MemI ρ w t) :
    d.top = true ∨ ∃ a, d.abs = some a ∧ a.Mem t := by
  rcases h with h | h | ⟨i, o, x, hm, _⟩
  · exact Or.inl h
  · exact Or.inr h
  · rw [hr] at hm; cases hm

theorem memI_unique {ρ : Nat → Int} {d : DData} {w : Nat} {t : Int} {i : Nat} {o : IntervalDomain}
    (hr : d.rel = [(i, o)]) (ha : d.abs = none) (ht : d.top = false) (h : d.MemI ρ w t) :
    ∃ x, o.Mem x ∧ t = wrap w (ρ i + x) := by
  rcases h with h | ⟨a, ha', _⟩ | ⟨i', o', x, hm, hx, heq⟩
  · rw [ht] at h; cases h
  · rw [ha] at ha'; cases ha'
  · rw [hr] at hm
    cases List.mem_singleton.mp hm
    exact ⟨x, hx, heq⟩

theorem getIfAbsoluteValueOrTop_some {d : DData} {off : IntervalDomain} (h : d.getIfAbsoluteValueOrTop = some off) :
    d.rel = [] ∧ d.abs = some off := by
  unfold getIfAbsoluteValueOrTop at h
  split at h
  · rename_i he; exact ⟨List.isEmpty_iff.mp he, h⟩
  · cases h

theorem getIfAbsoluteValue_some {d : DData} {off : IntervalDomain} (h : d.getIfAbsoluteValue = some off) :
    d.rel = [] ∧ d.top = false ∧ d.abs = some off := by
  unfold getIfAbsoluteValue at h
  split at h
  · rename_i he
    simp only [Bool.and_eq_true, List.isEmpty_iff, Bool.not_eq_true'] at he
    exact ⟨he.1, he.2, h⟩
  · cases h

theorem mem_getIfAbsoluteValue {ρ : Nat → Int} {d : DData} {l : IntervalDomain} (h : d.getIfAbsoluteValue = some l)
    {w : Nat} {t : Int} (ht : d.MemI ρ w t) : l.Mem t := by
  obtain ⟨hr, htop, ha⟩ := getIfAbsoluteValue_some h
  rcases memI_norel hr ht with h | ⟨l', hl', hm⟩
  · rw [htop] at h; cases h
  · cases ha.symm.trans hl'; exact hm

theorem getIfUniqueTarget_some {d : DData} {p : Nat × IntervalDomain} (h : d.getIfUniqueTarget = some p) :
    d.rel = [p] ∧ d.abs = none ∧ d.top = false := by
  unfold getIfUniqueTarget at h
  split at h
  · rename_i q hq
    split at h
    · rename_i hc
      simp only [Bool.and_eq_true, Option.isNone_iff_eq_none, Bool.not_eq_true'] at hc
      cases h
      exact ⟨hq, hc.1, hc.2⟩
    · cases h
  · cases h

theorem newEmpty_wf {s : Nat} (h : 0 < s) : (newEmpty s).WF :=
  ⟨h, (fun _ h => nomatch h), (fun _ _ h => nomatch h)⟩

theorem newTop_wf {s : Nat} (h : 0 < s) : (newTop s).WF :=
  ⟨h, (fun _ h => nomatch h), (fun _ _ h => nomatch h)⟩

theorem itvBytes_mul8 {a : IntervalDomain} {k : Nat} (h : a.interval.w = 8 * k) : itvBytes a = k := by
  rw [itvBytes, h, Nat.mul_add_div (by decide)]; rfl

theorem ofItv_wf {a : IntervalDomain} {k : Nat} (ha : a.WF) (hk : 0 < k) (h : a.interval.w = 8 * k) :
    (ofItv a).WF ∧ (ofItv a).size = k := by
  have hb : (ofItv a).size = k := itvBytes_mul8 h
  exact ⟨⟨hb ▸ hk, (fun x hx => Option.some.inj hx ▸ ⟨ha, hb ▸ h⟩), (fun _ _ hm => nomatch hm)⟩, hb⟩

theorem ofItv_mem {ρ : Nat → Int} {a : IntervalDomain} {k : Nat} (h : a.interval.w = 8 * k) {z : Bv}
    (hzw : z.w = 8 * k) (hz : a.Mem z.toInt) : (ofItv a).Mem ρ z :=
  ⟨hzw.trans (congrArg (8 * ·) (itvBytes_mul8 h).symm), Or.inr (Or.inl ⟨a, rfl, hz⟩)⟩

theorem ofBv_wf (b : Bv) {k : Nat} (hk : 0 < k) (hw : b.w = 8 * k) : (ofBv b).WF ∧ (ofBv b).size = k := by
  unfold ofBv
  apply ofItv_wf _ hk hw
  exact C02.ofInterval_wf (Interval.wf_single b.w (hw ▸ Nat.lt_trans Nat.one_pos (one_lt_bits hk)) _ (inRange_toInt b.v))

theorem ofBv_mem (ρ : Nat → Int) (b : Bv) {k : Nat} (hw : b.w = 8 * k) : (ofBv b).Mem ρ b :=
  ofItv_mem (a := IntervalDomain.single b.w b.toInt) hw hw ((Interval.mem_single _ _ _).mpr rfl)

theorem fromTarget_wf (i : Nat) {o : IntervalDomain} {k : Nat} (ho : o.WF) (hk : 0 < k) (h : o.interval.w = 8 * k) :
    (fromTarget i o).WF ∧ (fromTarget i o).size = k := by
  have hb : (fromTarget i o).size = k := itvBytes_mul8 h
  refine ⟨⟨hb ▸ hk, (fun _ hx => nomatch hx), fun j p hm => ?_⟩, hb⟩
  cases List.mem_singleton.mp hm
  exact ⟨ho, hb ▸ h⟩

/-- the shape of `add_offset` and `subtract_offset`: one interval operation on every part of the value -/
def mapParts (g : IntervalDomain → IntervalDomain) (d : DData) : DData :=
  { d with rel := d.rel.map (fun p => (p.1, g p.2)), abs := d.abs.map g }

theorem mapParts_wf {g : IntervalDomain → IntervalDomain} {d : DData} (hd : d.WF)
    (hg : ∀ o, o.WF ∧ o.interval.w = 8 * d.size → (g o).WF ∧ (g o).interval.w = 8 * d.size) :
    (mapParts g d).WF := by
  refine ⟨hd.1, fun a ha => ?_, fun i o hm => ?_⟩
  · obtain ⟨a0, ha0, rfl⟩ := Option.map_eq_some_iff.mp ha
    exact hg a0 (hd.2.1 a0 ha0)
  · obtain ⟨p, hp, heq⟩ := List.mem_map.mp hm
    cases heq
    exact hg p.2 (hd.2.2 p.1 p.2 hp)

theorem mapParts_memI {ρ : Nat → Int} {g : IntervalDomain → IntervalDomain} {d : DData} {w : Nat} {k : Int}
    (hd : d.WF) (hg : ∀ o, o.WF ∧ o.interval.w = 8 * d.size → ∀ x, o.Mem x → (g o).Mem (wrap w (x + k)))
    {t : Int} (ht : d.MemI ρ w t) : (mapParts g d).MemI ρ w (wrap w (t + k)) := by
  rcases ht with h | ⟨a, ha, hm⟩ | ⟨i, o, x, hmem, hm, rfl⟩
  · exact Or.inl h
  · exact Or.inr (Or.inl ⟨g a, congrArg (Option.map g) ha, hg a (hd.2.1 a ha) t hm⟩)
  · refine Or.inr (Or.inr ⟨i, g o, _, List.mem_map.mpr ⟨(i, o), hmem, rfl⟩, hg o (hd.2.2 i o hmem) x hm, ?_⟩)
    rw [wrap_add_wrap_left, wrap_add_wrap_right, Int.add_assoc]

theorem mapParts_mem {ρ : Nat → Int} {g : IntervalDomain → IntervalDomain} {d : DData}
    (hg : ∀ o x, o.Mem x → (g o).Mem x) {v : Bv} (hv : d.Mem ρ v) : (mapParts g d).Mem ρ v := by
  refine ⟨hv.1, ?_⟩
  rcases hv.2 with h | ⟨a, ha, hm⟩ | ⟨i, o, x, hmem, hx, heq⟩
  · exact Or.inl h
  · exact Or.inr (Or.inl ⟨g a, congrArg (Option.map g) ha, hg a _ hm⟩)
  · exact Or.inr (Or.inr ⟨i, g o, x, List.mem_map.mpr ⟨(i, o), hmem, rfl⟩, hg o x hx, heq⟩)

theorem addOffset_memI {ρ : Nat → Int} {d : DData} (hd : d.WF) {off : IntervalDomain} (hoff : off.WF)
    (hw : off.interval.w = 8 * d.size) {t s : Int} (ht : d.MemI ρ (8 * d.size) t) (hs : off.Mem s) :
    (d.addOffset off).MemI ρ (8 * d.size) (cadd (8 * d.size) t s) :=
  mapParts_memI hd (fun _ ho _ hx => itvAdd_mem ho ⟨hoff, hw⟩ hx hs) ht

theorem subtractOffset_memI {ρ : Nat → Int} {d : DData} (hd : d.WF) {off : IntervalDomain} (hoff : off.WF)
    (hw : off.interval.w = 8 * d.size) {t s : Int} (ht : d.MemI ρ (8 * d.size) t) (hs : off.Mem s) :
    (d.subtractOffset off).MemI ρ (8 * d.size) (csub (8 * d.size) t s) :=
  mapParts_memI (k := -s) hd (fun _ ho _ hx => itvSub_mem ho ⟨hoff, hw⟩ hx hs) ht

theorem offset_wf (op : BinOpType) (hop : op = .IntAdd ∨ op = .IntSub) {d : DData} (hd : d.WF)
    {off : IntervalDomain} (hoff : off.WF ∧ off.interval.w = 8 * d.size) :
    (mapParts (fun o => itvBinOp op o off) d).WF :=
  mapParts_wf hd fun _ ho => itvAddSub_wf op hop ho hoff

theorem mem_insertRel {k : Nat} {v : IntervalDomain} {l : List (Nat × IntervalDomain)} {p : Nat × IntervalDomain}
    (h : p ∈ insertRel k v l) : p = (k, v) ∨ p ∈ l := by
  induction l with
  | nil => exact Or.inl (List.mem_singleton.mp h)
  | cons q rest ih =>
    unfold insertRel at h
    split at h
    · exact List.mem_cons.mp h
    · split at h
      · exact (List.mem_cons.mp h).imp_right (List.mem_cons_of_mem _)
      · rcases List.mem_cons.mp h with h | h
        · exact Or.inr (h ▸ List.mem_cons_self)
        · exact (ih h).imp_right (List.mem_cons_of_mem _)

theorem mem_foldl_insertRel (t : IntervalDomain) (ks : List Nat) :
    ∀ (m : List (Nat × IntervalDomain)) (p : Nat × IntervalDomain),
      p ∈ ks.foldl (fun m k => insertRel k t m) m → p.2 = t ∨ p ∈ m := by
  induction ks with
  | nil => intro m p h; exact Or.inr h
  | cons k ks ih =>
    intro m p h
    rcases ih _ p h with h | h
    · exact Or.inl h
    · exact (mem_insertRel h).imp_left fun h => by rw [h]

theorem preserveRel_wf {a b : DData} (ha : a.WF) : (preserveRel a b).WF := by
  unfold preserveRel
  split
  · exact newEmpty_wf ha.1
  · have ht := IntervalDomain.newTop_wf (8 * a.size) ha.bits
    refine ⟨ha.1, (fun x h => Option.some.inj h ▸ ht), fun i o h => ?_⟩
    rcases mem_foldl_insertRel _ _ _ _ h with h | h
    · rw [show o = IntervalDomain.newTop (8 * a.size) from h]; exact ht
    · cases h

theorem preserveRel_size (a b : DData) : (preserveRel a b).size = a.size := by
  unfold preserveRel; split <;> rfl

theorem preserveRel_mem {ρ : Nat → Int} {a b : DData} {x y z : Bv} (hx : a.Mem ρ x) (hy : b.Mem ρ y)
    (hz : z.w = 8 * a.size) : (preserveRel a b).Mem ρ z := by
  refine ⟨hz.trans (congrArg (8 * ·) (preserveRel_size a b).symm), ?_⟩
  unfold preserveRel
  rw [if_neg (not_orEmpty hx hy)]
  exact memI_newTopItv (inRange_of_width rfl) (congrArg (fun w => some (IntervalDomain.newTop w)) hz.symm)

theorem computeAdd_wf {a b : DData} (ha : a.WF) (hb : b.WF) (hs : b.size = a.size) :
    (computeAdd a b).WF ∧ (computeAdd a b).size = a.size := by
  unfold computeAdd
  split
  · rename_i off h
    exact ⟨offset_wf .IntAdd (Or.inl rfl) hb (hs ▸ ha.2.1 off (getIfAbsoluteValueOrTop_some h).2), hs⟩
  · split
    · rename_i off h
      exact ⟨offset_wf .IntAdd (Or.inl rfl) ha (hs ▸ hb.2.1 off (getIfAbsoluteValueOrTop_some h).2), rfl⟩
    · exact ⟨preserveRel_wf ha, preserveRel_size a b⟩

/-- either of the two symmetric arms of `compute_add`: `c` has no relative targets, its absolute part is added to every
part of `d` -/
theorem addAbsolute_memI {ρ : Nat → Int} {c d : DData} (hc : c.WF) (hd : d.WF) (hs : c.size = d.size)
    {off : IntervalDomain} (hoff : c.getIfAbsoluteValueOrTop = some off) {t s : Int}
    (ht : d.MemI ρ (8 * d.size) t) (hs' : c.MemI ρ (8 * d.size) s) :
    MemI ρ { d.addOffset off with top := (d.addOffset off).top || c.top } (8 * d.size) (cadd (8 * d.size) t s) := by
  obtain ⟨hrel, habs⟩ := getIfAbsoluteValueOrTop_some hoff
  rcases memI_norel hrel hs' with htop | ⟨o, ho, hm⟩
  · exact Or.inl (by show (d.top || c.top) = true; rw [htop, Bool.or_true])
  · cases habs.symm.trans ho
    obtain ⟨h1, h2⟩ := hc.2.1 off habs
    exact (addOffset_memI hd h1 (hs ▸ h2) ht hm).orTop _

theorem computeAdd_mem {ρ : Nat → Int} {a b : DData} (ha : a.WF) (hb : b.WF) (hs : b.size = a.size)
    {x y z : Bv} (hx : a.Mem ρ x) (hy : b.Mem ρ y) (hzw : z.w = 8 * a.size)
    (hz : z.toInt = cadd (8 * a.size) x.toInt y.toInt) : (computeAdd a b).Mem ρ z := by
  refine ⟨hzw.trans (congrArg (8 * ·) (computeAdd_wf ha hb hs).2.symm), ?_⟩
  have hxm := hx.2; rw [hx.1] at hxm
  have hym := hy.2; rw [hy.1, hs] at hym
  rw [hzw, hz]
  unfold computeAdd
  split
  · rename_i off h
    have := addAbsolute_memI ha hb hs.symm h (hs ▸ hym) (hs ▸ hxm)
    rw [hs] at this
    rwa [show cadd (8 * a.size) x.toInt y.toInt = cadd (8 * a.size) y.toInt x.toInt from
      congrArg (wrap _) (Int.add_comm _ _)]
  · split
    · rename_i off h
      exact addAbsolute_memI hb ha hs h hxm hym
    · exact hz ▸ hzw ▸ (preserveRel_mem hx hy hzw).2

theorem computeSubPtr_some {a b r : DData} (h : computeSubPtr a b = some r) :
    ∃ li lo ri ro, a.rel = [(li, lo)] ∧ a.abs = none ∧ a.top = false ∧ b.rel = [(ri, ro)] ∧ b.abs = none ∧ b.top = false ∧
      r = if li = ri then { size := a.size, rel := [], abs := some (itvBinOp .IntSub lo ro), top := false }
          else { size := a.size, rel := insertRel ri (IntervalDomain.newTop (8 * a.size))
                   (insertRel li (IntervalDomain.newTop (8 * a.size)) []),
                 abs := some (IntervalDomain.newTop (8 * a.size)), top := false } := by
  unfold computeSubPtr at h
  split at h
  · rename_i li lo ri ro hl hr
    obtain ⟨h1, h2, h3⟩ := getIfUniqueTarget_some hl
    obtain ⟨h4, h5, h6⟩ := getIfUniqueTarget_some hr
    refine ⟨li, lo, ri, ro, h1, h2, h3, h4, h5, h6, ?_⟩
    split at h <;> rename_i hc <;> cases h
    · exact (if_pos hc).symm
    · exact (if_neg hc).symm
  · cases h

theorem computeSubPtr_wf {a b r : DData} (ha : a.WF) (hb : b.WF) (hs : b.size = a.size)
    (h : computeSubPtr a b = some r) : r.WF ∧ r.size = a.size := by
  obtain ⟨li, lo, ri, ro, hlr, _, _, hrr, _, _, rfl⟩ := computeSubPtr_some h
  have hw1 := ha.bits
  have ht := IntervalDomain.newTop_wf (8 * a.size) hw1
  split
  · refine ⟨⟨ha.1, fun x hx => Option.some.inj hx ▸ ?_, fun _ _ hm => nomatch hm⟩, rfl⟩
    exact itvAddSub_wf .IntSub (Or.inr rfl) (ha.2.2 li lo (hlr ▸ List.mem_singleton_self _))
      (hs ▸ hb.2.2 ri ro (hrr ▸ List.mem_singleton_self _))
  · refine ⟨⟨ha.1, fun x hx => Option.some.inj hx ▸ ht, fun i o hm => ?_⟩, rfl⟩
    rcases mem_insertRel hm with h | h
    · cases h; exact ht
    · rcases mem_insertRel h with h | h
      · cases h; exact ht
      · cases h

theorem computeSubPtr_memI {ρ : Nat → Int} {a b r : DData} (ha : a.WF) (hb : b.WF) (hs : b.size = a.size)
    (h : computeSubPtr a b = some r) {t s : Int} (ht : a.MemI ρ (8 * a.size) t) (hs' : b.MemI ρ (8 * a.size) s) :
    r.MemI ρ (8 * a.size) (csub (8 * a.size) t s) := by
  obtain ⟨li, lo, ri, ro, hlr, hla, hlt, hrr, hra, hrt, rfl⟩ := computeSubPtr_some h
  have hw1 := ha.bits
  obtain ⟨x, hx, rfl⟩ := memI_unique hlr hla hlt ht
  obtain ⟨y, hy, rfl⟩ := memI_unique hrr hra hrt hs'
  split
  · rename_i heq
    subst heq
    refine Or.inr (Or.inl ⟨_, rfl, ?_⟩)
    -- `(ρ i + x) − (ρ i + y) = x − y`: the base value cancels
    have he : csub (8 * a.size) (wrap (8 * a.size) (ρ li + x)) (wrap (8 * a.size) (ρ li + y))
        = csub (8 * a.size) x y := by
      unfold csub
      rw [wrap_sub_wrap_left, wrap_sub_wrap_right, Int.add_sub_add_left]
    rw [he]
    exact itvSub_mem (ha.2.2 li lo (hlr ▸ List.mem_singleton_self _))
      (hs ▸ hb.2.2 li ro (hrr ▸ List.mem_singleton_self _)) hx hy
  · exact memI_newTopItv (wrap_inRange _ (Nat.lt_trans Nat.one_pos hw1) _) rfl

theorem computeSub_wf {a b : DData} (ha : a.WF) (hb : b.WF) (hs : b.size = a.size) :
    (computeSub a b).WF ∧ (computeSub a b).size = a.size := by
  unfold computeSub
  split
  · exact ⟨newEmpty_wf ha.1, rfl⟩
  · split
    · refine ⟨offset_wf .IntSub (Or.inr rfl) ha ?_, rfl⟩
      cases hba : b.abs with
      | none => exact IntervalDomain.newTop_wf _ ha.bits
      | some o => exact hs ▸ hb.2.1 o hba
    · split
      · rename_i r h; exact computeSubPtr_wf ha hb hs h
      · exact ⟨preserveRel_wf ha, preserveRel_size a b⟩

theorem computeSub_mem {ρ : Nat → Int} {a b : DData} (ha : a.WF) (hb : b.WF) (hs : b.size = a.size)
    {x y z : Bv} (hx : a.Mem ρ x) (hy : b.Mem ρ y) (hzw : z.w = 8 * a.size)
    (hz : z.toInt = csub (8 * a.size) x.toInt y.toInt) : (computeSub a b).Mem ρ z := by
  refine ⟨hzw.trans (congrArg (8 * ·) (computeSub_wf ha hb hs).2.symm), ?_⟩
  have hxm := hx.2; rw [hx.1] at hxm
  have hym := hy.2; rw [hy.1, hs] at hym
  rw [hzw, hz]
  unfold computeSub
  rw [if_neg (not_orEmpty hx hy)]
  split
  · rename_i hre
    rcases memI_norel (List.isEmpty_iff.mp hre) hym with ht | ⟨o, ho, hm⟩
    · exact Or.inl (by show (a.top || b.top) = true; rw [ht, Bool.or_true])
    · obtain ⟨h1, h2⟩ := hb.2.1 o ho
      rw [ho]
      exact (subtractOffset_memI ha h1 (hs ▸ h2) hxm hm).orTop _
  · split
    · rename_i r h
      exact computeSubPtr_memI ha hb hs h hxm hym
    · exact hz ▸ hzw ▸ (preserveRel_mem hx hy hzw).2

/-- byte size of the result of a binary operation (`Expression::bytesize` of a `BinOp`) -/
def binBytes (op : BinOpType) (sa sb : Nat) : Nat :=
  match binKind op with
  | .piece => sa + sb
  | .boolResult => 1
  | _ => sa

theorem binOpWidth_bytes (op : BinOpType) (sa sb : Nat) :
    binOpWidth (binOfIR op) (8 * sa) (8 * sb) = 8 * binBytes op sa sb := by
  cases op
  case Piece => exact (Nat.mul_add 8 sa sb).symm
  all_goals rfl

theorem isBool_size {op : BinOpType} {sa sb : Nat} (h : C12.binSizesOk op sa sb) (hb : C02.isBool (binOfIR op) = true) : sa = 1 := by
  cases op <;> cases hb <;> exact h.1

theorem binKind_add {op : BinOpType} (h : binKind op = .add) : op = .IntAdd := by cases op <;> cases h <;> rfl
theorem binKind_sub {op : BinOpType} (h : binKind op = .sub) : op = .IntSub := by cases op <;> cases h <;> rfl

theorem binBytes_pos {op : BinOpType} {sa sb : Nat} (ha : 0 < sa) : 0 < binBytes op sa sb := by
  unfold binBytes
  split
  · exact Nat.add_pos_left ha _
  · exact Nat.one_pos
  · exact ha

theorem emptyOr_wf {c : Bool} {s : Nat} {t : DData} (hs : 0 < s) (ht : t.WF ∧ t.size = s) :
    (if c then newEmpty s else t).WF ∧ (if c then newEmpty s else t).size = s := by
  cases c
  · exact ht
  · exact ⟨newEmpty_wf hs, rfl⟩

/-- **C13-data-binop-wf.** The result of `DataDomain::bin_op` on well-formed operands of admissible sizes
is well-formed and has the byte size `Expression::bytesize` predicts. -/
theorem binOp_wf (op : BinOpType) {a b : DData} (ha : a.WF) (hb : b.WF) (hsz : C12.binSizesOk op a.size b.size) :
    (binOp op a b).WF ∧ (binOp op a b).size = binBytes op a.size b.size := by
  have hpos : 0 < a.size := ha.1
  unfold binOp
  split
  · rename_i l r hl hr
    obtain ⟨hlwf, hlw⟩ := ha.2.1 l (getIfAbsoluteValue_some hl).2.2
    obtain ⟨hrwf, hrw⟩ := hb.2.1 r (getIfAbsoluteValue_some hr).2.2
    obtain ⟨h1, h2⟩ := (itvBinOp_spec op l r hlwf hrwf (hlw ▸ hrw ▸ binWidths_of_sizes hsz)
      fun h => hlw.trans (congrArg (8 * ·) (isBool_size hsz h))).1
    exact ofItv_wf h1 (binBytes_pos hpos) (by rw [h2, hlw, hrw, binOpWidth_bytes])
  · cases hk : binKind op <;> simp only [binBytes, hk]
    · cases binKind_add hk
      exact computeAdd_wf ha hb hsz.symm
    · cases binKind_sub hk
      exact computeSub_wf ha hb hsz.symm
    · exact ⟨preserveRel_wf ha, preserveRel_size a b⟩
    · exact emptyOr_wf Nat.one_pos (ofItv_wf (k := 1) (IntervalDomain.newTop_wf 8 (by decide)).1 Nat.one_pos rfl)
    · exact emptyOr_wf hpos ⟨newTop_wf hpos, rfl⟩
    · exact emptyOr_wf (Nat.add_pos_left hpos _) ⟨newTop_wf (Nat.add_pos_left hpos _), rfl⟩

/-- **C13-data-binop.** `DataDomain::bin_op` is sound under every identifier valuation: the P-Code
reference result of the operation on members of the operands is a member of the abstract result. -/
theorem binOp_sound {ρ : Nat → Int} (op : BinOpType) {a b : DData} (ha : a.WF) (hb : b.WF)
    (hsz : C12.binSizesOk op a.size b.size) {x y z : Bv} (hx : a.Mem ρ x) (hy : b.Mem ρ y)
    (hz : Ref.binOp op x y = .val z) : (binOp op a b).Mem ρ z := by
  have hwid : C02.BinWidths (binOfIR op) x.w y.w := hx.1 ▸ hy.1 ▸ binWidths_of_sizes hsz
  have hbool : C02.isBool (binOfIR op) = true → x.w = 8 := fun h => by rw [hx.1, isBool_size hsz h]
  have hzw : z.w = 8 * binBytes op a.size b.size := by
    rw [C02.ref_binOp_width _ _ _ hwid hbool x.v y.v ((toIRBin_ofIR op).symm ▸ hz), hx.1, hy.1, binOpWidth_bytes]
  unfold binOp
  split
  · rename_i l r hl hr
    obtain ⟨hlwf, hlw⟩ := ha.2.1 l (getIfAbsoluteValue_some hl).2.2
    obtain ⟨hrwf, hrw⟩ := hb.2.1 r (getIfAbsoluteValue_some hr).2.2
    obtain ⟨h1, h2⟩ := (itvBinOp_spec op l r hlwf hrwf (hlw ▸ hrw ▸ binWidths_of_sizes hsz)
      fun h => hlw.trans (congrArg (8 * ·) (isBool_size hsz h))).2 (hx.1.trans hlw.symm) (hy.1.trans hrw.symm)
      (mem_getIfAbsoluteValue hl hx.2) (mem_getIfAbsoluteValue hr hy.2) hz
    exact ofItv_mem (h2.symm.trans hzw) hzw h1
  · cases hk : binKind op <;> simp only [binBytes, hk] at hzw ⊢
    · cases binKind_add hk
      obtain ⟨w, xv, yv, rfl, rfl, rfl⟩ := C10.ref_add_inv hz
      cases hx.1
      exact computeAdd_mem ha hb hsz.symm hx hy rfl (C02.cadd_ref xv yv).symm
    · cases binKind_sub hk
      obtain ⟨w, xv, yv, rfl, rfl, rfl⟩ := C10.ref_sub_inv hz
      cases hx.1
      exact computeSub_mem ha hb hsz.symm hx hy rfl (C02.csub_ref xv yv).symm
    · exact preserveRel_mem hx hy hzw
    all_goals rw [if_neg (not_orEmpty hx hy)]
    · exact ofItv_mem (k := 1) rfl hzw ((Interval.mem_newTop 8 _).mpr (inRange_of_width hzw))
    · exact mem_of_top rfl _ hzw
    · exact mem_of_top rfl _ hzw

/-- `un_op`, `cast` and a proper `subpiece` apply an interval operation `f` to the absolute part; relative targets are
lost, i.e. become the top flag -/
def onAbs (s : Nat) (f : IntervalDomain → IntervalDomain) (a : DData) : DData :=
  { size := s, rel := [], abs := a.abs.map f, top := a.top || !a.rel.isEmpty }

theorem onAbs_wf {s : Nat} {f : IntervalDomain → IntervalDomain} {a : DData} (hs : 0 < s)
    (hf : ∀ o, a.abs = some o → (f o).WF ∧ (f o).interval.w = 8 * s) : (onAbs s f a).WF := by
  refine ⟨hs, fun r hr => ?_, (fun _ _ hm => nomatch hm)⟩
  obtain ⟨o, ho, rfl⟩ := Option.map_eq_some_iff.mp hr
  exact hf o ho

theorem onAbs_mem {ρ : Nat → Int} {s : Nat} {f : IntervalDomain → IntervalDomain} {a : DData} {x z : Bv}
    (hx : a.Mem ρ x) (hzw : z.w = 8 * s) (hf : ∀ o, a.abs = some o → o.Mem x.toInt → (f o).Mem z.toInt) :
    (onAbs s f a).Mem ρ z := by
  refine ⟨hzw, ?_⟩
  rcases hx.2 with h | ⟨o, ho, hm⟩ | ⟨i, o, x, hm, _⟩
  · exact Or.inl (by show (a.top || _) = true; rw [h]; rfl)
  · exact Or.inr (Or.inl ⟨f o, congrArg (Option.map f) ho, hf o ho hm⟩)
  · refine Or.inl ?_
    show (a.top || !a.rel.isEmpty) = true
    rw [List.isEmpty_eq_false_iff.mpr (List.ne_nil_of_mem hm), Bool.not_false, Bool.or_true]

def unBytes (op : UnOpType) (sa : Nat) : Nat :=
  match op with
  | .BoolNegate | .FloatNaN => 1
  | _ => sa

theorem unOp_size (op : UnOpType) (a : DData) : (unOp op a).size = unBytes op a.size := by
  cases op <;> rfl

theorem unOp_wf (op : UnOpType) {a : DData} (ha : a.WF) (hsz : C12.unSizeOk op a.size) : (unOp op a).WF := by
  have hpos : 0 < a.size := ha.1
  refine onAbs_wf (by cases op <;> first | exact hpos | exact Nat.one_pos) fun o ho => ?_
  obtain ⟨h1, h2⟩ := ha.2.1 o ho
  have hw1 : 1 < o.interval.w := h2 ▸ ha.bits
  refine ⟨C02.unOp_wf o (unOfIR op) h1 hw1, ?_⟩
  rw [itvUnOp_width op o h1 hw1 (by rintro rfl; exact h2.trans (congrArg (8 * ·) hsz))]
  cases op <;> first | exact h2 | rfl

/-- **C13-data-unop.** `DataDomain::un_op` is sound under every identifier valuation: the P-Code reference result
on a member of the operand is a member of the abstract result (the absolute part goes through `IntervalDomain::un_op`,
relative targets become `contains_top_values`). -/
theorem unOp_sound {ρ : Nat → Int} (op : UnOpType) {a : DData} (ha : a.WF) (hsz : C12.unSizeOk op a.size)
    {x z : Bv} (hx : a.Mem ρ x) (hz : Ref.unOp op x = .val z) : (unOp op a).Mem ρ z := by
  have hzw : z.w = 8 * (unOp op a).size := by
    rw [C10.ref_unOp_w hz]
    cases op <;> first | exact hx.1 | rfl | cases hz
  refine onAbs_mem hx hzw fun o ho hm => ?_
  obtain ⟨h1, h2⟩ := ha.2.1 o ho
  exact (itvUnOp_sound op o h1 (h2 ▸ ha.bits) (hx.1.trans h2.symm)
    (by rintro rfl; exact h2.trans (congrArg (8 * ·) hsz)) hm hz).1

theorem cast_wf (op : CastOpType) (s : Nat) {a : DData} (ha : a.WF) (hs : 0 < s)
    (hext : C12.castSizeOk op s a.size) : (cast op s a).WF :=
  onAbs_wf hs fun o ho => by
    obtain ⟨h1, h2⟩ := ha.2.1 o ho
    refine itvCast_wf op s o h1 hs fun h => ?_
    rcases h with rfl | rfl <;> exact h2 ▸ Nat.mul_le_mul_left 8 hext

/-- **C13-data-cast.** `DataDomain::cast` is sound under every identifier valuation, for every cast and every operand
and result size: the P-Code reference result on a member of the operand is a member of the abstract result. -/
theorem cast_sound {ρ : Nat → Int} (op : CastOpType) (s : Nat) {a : DData} (ha : a.WF) (hs : 0 < s)
    {x z : Bv} (hx : a.Mem ρ x) (hz : Ref.cast op s x = .val z) : (cast op s a).Mem ρ z :=
  onAbs_mem hx (C10.ref_cast_w hz) fun o ho hm =>
    have h2 := (ha.2.1 o ho).2
    (itvCast_sound op s o (ha.2.1 o ho).1 hs (hx.1.trans h2.symm) hm hz).1

theorem subpiece_wf (lb s : Nat) {a : DData} (ha : a.WF) (hs : 0 < s) (hsz : lb + s ≤ a.size) :
    (subpiece lb s a).WF ∧ (subpiece lb s a).size = s := by
  unfold subpiece
  split
  · rename_i h; exact ⟨ha, h.2.symm⟩
  · refine ⟨onAbs_wf hs fun o ho => ?_, rfl⟩
    obtain ⟨h1, h2⟩ := ha.2.1 o ho
    exact C02.subpiece_wf o (8 * lb) (8 * s) h1 (one_lt_bits hs) (bits_le h2 hsz)

/-- **C13-data-subpiece.** A subpiece that is not the whole value loses the relative targets (they become
`contains_top_values`); the whole-value subpiece is the identity. -/
theorem subpiece_sound {ρ : Nat → Int} (lb s : Nat) {a : DData} (ha : a.WF) (hs : 0 < s) (hsz : lb + s ≤ a.size)
    {x z : Bv} (hx : a.Mem ρ x) (hz : Ref.subpieceOp lb s x = .val z) : (subpiece lb s a).Mem ρ z := by
  unfold subpiece
  split
  · rename_i h
    obtain ⟨rfl, rfl⟩ := h
    obtain ⟨w, v⟩ := x
    cases (show w = 8 * a.size from hx.1)
    rw [C02.ref_subpieceOp_defined _ 0 a.size hs (bits_le rfl hsz) v, Nat.mul_zero, C10.subpiece_full] at hz
    cases hz
    exact hx
  · refine onAbs_mem hx (C10.ref_subpiece_w hz) fun o ho hm => ?_
    obtain ⟨h1, h2⟩ := ha.2.1 o ho
    exact (itvSubpiece_sound lb s o h1 hs (bits_le h2 hsz) (hx.1.trans h2.symm) hm hz).1

/-- **C13-data-gamma-exec.** The executable membership test used by the driver is the declarative γρ. -/
theorem contains_iff {ρ : Nat → Int} {d : DData} (hd : d.WF) (v : Bv) : d.contains ρ v = true ↔ d.Mem ρ v := by
  unfold contains Mem MemI
  rw [Bool.and_eq_true, decide_eq_true_eq, Bool.or_eq_true, Bool.or_eq_true, or_assoc, List.any_eq_true]
  refine and_congr_right fun hw => or_congr Iff.rfl (or_congr ?_ ⟨?_, ?_⟩)
  · cases d.abs <;> simp
  · rintro ⟨p, hp, h⟩
    refine ⟨p.1, p.2, _, hp, of_decide_eq_true h, ?_⟩
    rw [wrap_add_wrap_right, Int.add_comm, Int.sub_add_cancel]
    exact (wrap_toInt (hw ▸ Nat.lt_trans Nat.one_pos hd.bits) v.v).symm
  · -- the offset is determined by the value and the base
    rintro ⟨i, o, x, hm, hx, heq⟩
    refine ⟨(i, o), hm, decide_eq_true ?_⟩
    obtain ⟨h1, h2⟩ := hd.2.2 i o hm
    have hxr : InRange v.w x := by rw [hw, ← h2]; exact Interval.mem_inRange h1.1 hx
    show o.Mem (wrap v.w (v.toInt - ρ i))
    rw [heq, wrap_sub_wrap_left, Int.add_comm, Int.add_sub_cancel, wrap_of_inRange _ (hw ▸ Nat.lt_trans Nat.one_pos hd.bits) hxr]
    exact hx

/-- **C13-data-bound.** The five `add_*_bound` of `DataDomain` keep every represented value that satisfies the
comparison (C04 `addBound_sound`, lifted to γρ: relative targets and the top flag are untouched). -/
theorem addBound_sound {ρ : Nat → Int} (k : BoundKind) {d : DData} (hd : d.WF) (hw64 : 8 * d.size ≤ 64)
    (bound : Int) (hb : InRange (8 * d.size) bound) {v : Bv} (hv : d.Mem ρ v)
    (hR : k.holds (8 * d.size) v.toInt bound) : ∃ d', d.addBound k bound = some d' ∧ d'.Mem ρ v := by
  have habs : ∀ a, d.abs = some a → a.Mem v.toInt → ∃ r, (d.abs.bind fun a => a.addBound k bound) = some r ∧
      r.Mem v.toInt := fun a ha hm => by
    obtain ⟨haw, hawd⟩ := hd.2.1 a ha
    rw [ha]
    exact C04.addBound_sound k a haw (hawd ▸ hw64) bound (hawd ▸ hb) hm (hawd ▸ hR)
  unfold addBound
  cases hres : Itv.DataDomain.addBound (IntervalDomain.addBound k) d.toC04 bound with
  | none =>
    obtain ⟨h1, h2, h3⟩ := (C04.data_addBound_err_iff _ _ _).mp hres
    rcases memI_norel h1 hv.2 with h | ⟨a, ha, hm⟩
    · cases h2.symm.trans h
    · obtain ⟨r, hr, _⟩ := habs a ha hm
      cases hr.symm.trans h3
  | some d' =>
    obtain ⟨h1, h2, h3, h4⟩ := C04.data_addBound_ok _ _ _ _ hres
    refine ⟨ofC04 d', rfl, (congrArg (8 * ·) h3).symm ▸ hv.1, ?_⟩
    rcases hv.2 with h | ⟨a, ha, hm⟩ | ⟨i, o, x, hmem, hx, heq⟩
    · exact Or.inl (h2.trans h)
    · obtain ⟨r, hr, hrm⟩ := habs a ha hm
      exact Or.inr (Or.inl ⟨r, h4.trans hr, hrm⟩)
    · exact Or.inr (Or.inr ⟨i, o, x, (show (ofC04 d').rel = d.rel from h1).symm ▸ hmem, hx, heq⟩)

end DData

/-! ### the hypotheses can be met -/
section Examples
def exPtr (id : Nat) (off : Int) : DData := DData.fromTarget id (IntervalDomain.single 64 off)
def exAbs (x : Int) : DData := DData.ofItv (IntervalDomain.single 64 x)

-- pointer + offset keeps the target and adds the offsets
example : DData.binOp .IntAdd (exPtr 0 (-16)) (exAbs 8) = exPtr 0 (-8) := by decide
example : DData.binOp .IntAdd (exAbs 8) (exPtr 0 (-16)) = exPtr 0 (-8) := by decide
-- pointer − pointer with the same target is the difference of the offsets
example : DData.binOp .IntSub (exPtr 2 40) (exPtr 2 16) = exAbs 24 := by decide
-- a proper subpiece of a pointer is not a pointer
example : DData.subpiece 0 4 (exPtr 0 (-16)) = { size := 4, rel := [], abs := none, top := true } := by decide
example : DData.subpiece 0 8 (exPtr 0 (-16)) = exPtr 0 (-16) := by decide

-- different targets: the result is unknown (absolute `Top` interval) — sound for every valuation
example : (DData.binOp .IntSub (exPtr 2 40) (exPtr 3 16)).abs = some (IntervalDomain.newTop 64) := by decide

theorem exPtr_wf (id : Nat) (off : Int) (h : InRange 64 off) : (exPtr id off).WF :=
  (DData.fromTarget_wf id (C02.ofInterval_wf (Interval.wf_single 64 (by decide) off h)) (k := 8) (by decide) rfl).1

-- `binOp_sound` instantiated: (stack − 16) + 8 with the stack identifier at 0x7ffd00001000
example : (DData.binOp .IntAdd (exPtr 0 (-16)) (exAbs 8)).Mem (fun _ => 0x7ffd00001000) (Bv.ofNat 64 0x7ffd00000ff8) := by
  have wx := exPtr_wf 0 (-16) (by decide)
  have wy : (exAbs 8).WF :=
    (DData.ofItv_wf (k := 8) (C02.ofInterval_wf (Interval.wf_single 64 (by decide) 8 (by decide))) (by decide) rfl).1
  exact DData.binOp_sound .IntAdd wx wy rfl ((DData.contains_iff wx (Bv.ofNat 64 0x7ffd00000ff0)).mp (by decide))
    ((DData.contains_iff wy (Bv.ofNat 64 8)).mp (by decide)) (by rfl)
end Examples

end CweModel.C13
