/-
C13 — "PI-lite", layer 5, theorems: the JOIN (`State::merge`) is an upper bound and the extern-CALL transfer
(`update_call_stub`) is sound, for the concretisation "registers + stack object" of `StackProps.lean`.

Reused: the C03 upper-bound law of the `IntervalDomain` merge WITH widening (`signedMergeAndWiden_ub`, through
`DData.merge_mem_left/right`, `merge_wf`), C05 `mem_mergeInner_keeps` and `inv_mergeInner`, `DData.binOp_sound` (stack
pointer + 8), `regionIn_markAll`.
-/
import CweModel.C13.Join
import CweModel.C13.StackProps

namespace CweModel.C13
open CweModel CweModel.IR CweModel.Itv CweModel.MemRegion

/-- distinct keys (a `BTreeMap`) -/
def RegKeys (t : St) : Prop := (t.regs.map (·.1)).Nodup

theorem regLookup_mem {m : List (Variable × DData)} {v : Variable} {d : DData} (h : regLookup m v = some d) :
    (v, d) ∈ m := by
  obtain ⟨p, hp, rfl⟩ := Option.map_eq_some_iff.mp h
  obtain ⟨hm, rfl⟩ := find_key hp
  exact hm

theorem getReg_of_mem {t : St} (hk : RegKeys t) {v : Variable} {d : DData} (h : (v, d) ∈ t.regs) : t.getReg v = d := by
  unfold St.getReg
  rw [List.find?_key_of_mem_nodup hk h]

theorem regsIn_width {ρ : Nat → Int} {t : St} {σ : Sem.State} (ht : t.WF) (hσ : St.RegsIn ρ t σ) (v : Variable) :
    (σ.getReg v).w = 8 * v.size := by
  rw [(hσ v).width]
  rcases getReg_cases t v with ⟨e, _⟩ | e
  · rw [e]; rfl
  · rw [(ht _ _ e).2]

theorem mem_mergeRegs {l r : List (Variable × DData)} {x : Variable} {d : DData} (h : (x, d) ∈ mergeRegs l r) :
    (∃ v vo, (x, v) ∈ l ∧ (x, vo) ∈ r ∧ d = v.mergeWith vo) ∨
    (∃ v, (x, v) ∈ l ∧ d = v.mergeWith (DData.newTop v.size)) ∨
    (∃ vo, (x, vo) ∈ r ∧ d = (DData.newTop vo.size).mergeWith vo) := by
  rcases List.mem_append.mp h with h | h
  · simp only [mergeRegsKept, List.mem_filterMap, Option.ite_none_left_eq_some, Option.some.injEq, Prod.mk.injEq] at h
    obtain ⟨⟨k, v⟩, hp, _, rfl, rfl⟩ := h
    cases hl : regLookup r k with
    | some vo => exact Or.inl ⟨v, vo, hp, regLookup_mem hl, rfl⟩
    | none => exact Or.inr (Or.inl ⟨v, hp, rfl⟩)
  · simp only [mergeRegsAdded, List.mem_filterMap, Option.ite_none_left_eq_some, Option.some.injEq, Prod.mk.injEq] at h
    obtain ⟨⟨k, vo⟩, hp, _, _, rfl, rfl⟩ := h
    exact Or.inr (Or.inr ⟨vo, hp, rfl⟩)

theorem mergeWith_sound {ρ : Nat → Int} {a b : DData} (ha : a.WF) (hb : b.WF) (hs : b.size = a.size) (h8 : a.size ≤ 8) :
    (a.mergeWith b).WF ∧ (a.mergeWith b).size = a.size ∧ ∀ v, a.Mem ρ v ∨ b.Mem ρ v → (a.mergeWith b).Mem ρ v := by
  unfold DData.mergeWith
  split
  · rename_i he
    exact ⟨ha, rfl, fun v h => h.elim id (he ▸ id)⟩
  · exact ⟨DData.merge_wf ha hb hs h8, rfl,
      fun v h => h.elim (DData.merge_mem_left ha hb hs h8) (DData.merge_mem_right ha hb hs h8)⟩

/-- every register value has at most 8 bytes (the C03 merge laws are proved up to 64 bit) -/
def Size8 (t : St) : Prop := ∀ v d, (v, d) ∈ t.regs → d.size ≤ 8

/-- **C13-merge-registers.** the merged register map (`MergeTopStrategy`) is well-formed and represents every register
file either input represents -/
theorem mergeRegs_sound {ρ : Nat → Int} {a b : St} (ha : a.WF) (hb : b.WF) (hka : RegKeys a) (hkb : RegKeys b)
    (h8a : Size8 a) (h8b : Size8 b) (g : List Nat) (gid : Nat) :
    let m : St := { regs := mergeRegs a.regs b.regs, globals := g, gid := gid }
    m.WF ∧ Size8 m ∧ ∀ σ : Sem.State, (St.RegsIn ρ a σ ∨ St.RegsIn ρ b σ) → St.RegsIn ρ m σ := by
  intro m
  -- an entry for `x` merges two values of the size of `x`, each the binding of `x` in one map or `Top`
  have entry : ∀ (x : Variable) (va vb : DData), va.WF → va.size = x.size → va.size ≤ 8 → vb.WF → vb.size = x.size →
      (∀ σ : Sem.State, St.RegsIn ρ a σ → va.Mem ρ (σ.getReg x)) →
      (∀ σ : Sem.State, St.RegsIn ρ b σ → vb.Mem ρ (σ.getReg x)) →
      ((va.mergeWith vb).WF ∧ (va.mergeWith vb).size = x.size ∧ (va.mergeWith vb).size ≤ 8) ∧
        ∀ σ : Sem.State, (St.RegsIn ρ a σ ∨ St.RegsIn ρ b σ) → (va.mergeWith vb).Mem ρ (σ.getReg x) := by
    intro x va vb wa sa h8 wb sb ma mb
    obtain ⟨m1, m2, m3⟩ := mergeWith_sound (ρ := ρ) wa wb (sb.trans sa.symm) h8
    exact ⟨⟨m1, m2.trans sa, m2 ▸ h8⟩, fun σ hσ => m3 _ (hσ.imp (ma σ) (mb σ))⟩
  have key : ∀ x d, (x, d) ∈ mergeRegs a.regs b.regs → (d.WF ∧ d.size = x.size ∧ d.size ≤ 8) ∧
      ∀ σ : Sem.State, (St.RegsIn ρ a σ ∨ St.RegsIn ρ b σ) → d.Mem ρ (σ.getReg x) := by
    intro x d hmem
    rcases mem_mergeRegs hmem with ⟨v, vo, hl, hr, rfl⟩ | ⟨v, hl, rfl⟩ | ⟨vo, hr, rfl⟩
    · obtain ⟨w1, s1⟩ := ha x v hl
      obtain ⟨w2, s2⟩ := hb x vo hr
      exact entry x v vo w1 s1 (h8a x v hl) w2 s2 (fun σ h => getReg_of_mem hka hl ▸ h x)
        (fun σ h => getReg_of_mem hkb hr ▸ h x)
    · obtain ⟨w1, s1⟩ := ha x v hl
      exact entry x v _ w1 s1 (h8a x v hl) (DData.newTop_wf w1.1) s1 (fun σ h => getReg_of_mem hka hl ▸ h x)
        (fun σ h => mem_of_top rfl _ (by rw [s1]; exact regsIn_width hb h x))
    · obtain ⟨w2, s2⟩ := hb x vo hr
      exact entry x _ vo (DData.newTop_wf w2.1) s2 (h8b x vo hr) w2 s2
        (fun σ h => mem_of_top rfl _ (by rw [s2]; exact regsIn_width ha h x)) (fun σ h => getReg_of_mem hkb hr ▸ h x)
  refine ⟨fun x d h => ⟨(key x d h).1.1, (key x d h).1.2.1⟩, fun x d h => (key x d h).1.2.2, fun σ hσ x => ?_⟩
  rcases getReg_cases m x with ⟨e, _⟩ | e
  · rw [e]
    exact mem_of_top rfl _ (hσ.elim (regsIn_width ha · x) (regsIn_width hb · x))
  · exact (key x _ e).2 σ hσ

/-- distinct keys (a `BTreeMap`) -/
def ObjKeys (objs : Objs) : Prop := (objs.map (·.1)).Nodup

theorem objGet_insertObj_other {objs : Objs} {id id' : Nat} (o : Obj) (hne : id' ≠ id) :
    objGet (insertObj id o objs) id' = objGet objs id' := by
  induction objs with
  | nil => exact (objGet_cons _ _ _).trans (if_neg (Ne.symm hne))
  | cons q rest ih =>
    unfold insertObj
    split
    · exact (objGet_cons _ _ _).trans (if_neg (Ne.symm hne))
    · rw [objGet_cons, objGet_cons, ih]

theorem objsMerge_cons (a : Objs) (p : Nat × Obj) (b : Objs) : objsMerge a (p :: b) = objsMerge (objsMerge a [p]) b := rfl

theorem objGet_objsMerge_one {a : Objs} {p : Nat × Obj} {sid : Nat} (hne : p.1 ≠ sid) :
    objGet (objsMerge a [p]) sid = objGet a sid := by
  show objGet (match objGet a p.1 with | some o => _ | none => _) sid = _
  cases objGet a p.1 with
  | some o => exact objGet_objSet_other _ (Ne.symm hne)
  | none => exact objGet_insertObj_other _ (Ne.symm hne)

theorem objGet_objsMerge_other {sid : Nat} {b : Objs} (hb : ∀ p ∈ b, p.1 ≠ sid) (a : Objs) :
    objGet (objsMerge a b) sid = objGet a sid := by
  induction b generalizing a with
  | nil => rfl
  | cons p b ih =>
    rw [objsMerge_cons, ih (fun q hq => hb q (List.mem_cons_of_mem _ hq)), objGet_objsMerge_one (hb p List.mem_cons_self)]

theorem objGet_objsMerge {a b : Objs} {sid : Nat} {oa ob : Obj} (ha : objGet a sid = some oa) (hb : objGet b sid = some ob)
    (hkb : ObjKeys b) : objGet (objsMerge a b) sid = some (oa.merge ob) := by
  induction b generalizing a with
  | nil => cases hb
  | cons p b ih =>
    rw [ObjKeys, List.map_cons, List.nodup_cons] at hkb
    rw [objGet_cons] at hb
    rw [objsMerge_cons]
    by_cases hk : p.1 = sid
    · rw [if_pos hk] at hb
      cases hb
      have hrest : ∀ q ∈ b, q.1 ≠ sid := fun q hq e => hkb.1 (hk.trans e.symm ▸ List.mem_map_of_mem (f := (·.1)) hq)
      rw [objGet_objsMerge_other hrest]
      show objGet (match objGet a p.1 with | some o => _ | none => _) sid = _
      rw [hk, ha]
      exact objGet_objSet_self _ ha
    · rw [if_neg hk] at hb
      exact ih ((objGet_objsMerge_one hk).trans ha) hb hkb.2

/-- **C13-merge-region.** `MemRegion::merge` of two stack regions describes every memory either region describes: a
cell both hold in the same slot gets the merged value (with widening), a cell of one region that no cell of the other
overlaps gets the top flag, every other cell is dropped (C05). -/
theorem regionIn_mergeRegions {ρ : Nat → Int} {base : Int} {σ : Sem.State} {ra rb : Region DData}
    (ha : RegionOK ra) (hb : RegionOK rb) (hin : RegionIn ρ base ra σ ∨ RegionIn ρ base rb σ) :
    RegionOK (mergeRegions ra rb) ∧ RegionIn ρ base (mergeRegions ra rb) σ := by
  unfold mergeRegions
  split
  · rename_i he
    exact ⟨ha, hin.elim id (he ▸ id)⟩
  · -- a cell of the merge is `va.merge vb`: `va` a cell of one region at that offset, `vb` of the same size the cell of
    -- the other region or `Top`, and one of the two represents the bytes
    have cell : ∀ (r : Region DData) (x : Int × DData) (va vb : DData), RegionOK r → (x.1, va) ∈ r → x.2 = va.merge vb →
        vb.WF → vb.size = va.size →
        (va.Mem ρ (readCell σ base x.1 va.size) ∨ vb.Mem ρ (readCell σ base x.1 va.size)) → CellIn ρ base σ x := by
      intro r x va vb hr h1 hx wb hs hm
      obtain ⟨wa, s8⟩ := hr.cells _ h1
      unfold CellIn CellOK
      rw [hx]
      exact ⟨⟨hr.bounded _ h1, DData.merge_wf wa wb hs s8, s8⟩,
        hm.elim (DData.merge_mem_left wa wb hs s8) (DData.merge_mem_right wa wb hs s8)⟩
    refine regionIn_of_cells (C05.inv_mergeInner ha.inv hb.inv ha.bounded hb.bounded) fun x hx => ?_
    obtain ⟨_, hcase⟩ := (C05.mem_mergeInner_keeps ha.inv hb.inv (C05.lowerBounded_of_bounded ha.bounded)
      (C05.lowerBounded_of_bounded hb.bounded)).mp hx
    rcases hcase with ⟨va, vb, h1, h2, hsz, hx2⟩ | ⟨va, h1, _, hx2⟩ | ⟨vb, h2, _, hx2⟩
    · exact cell ra x va vb ha h1 hx2 (hb.cells _ h2).1 hsz.symm
        (hin.imp (· _ h1) (fun h => (show va.size = vb.size from hsz) ▸ h _ h2))
    · exact cell ra x va _ ha h1 hx2 (DData.newTop_wf (ha.cells _ h1).1.1) rfl
        (Or.inr (mem_of_top rfl _ (readCell_w _ _ _ _)))
    · exact cell rb x vb _ hb h2 hx2 (DData.newTop_wf (hb.cells _ h2).1.1) rfl
        (Or.inr (mem_of_top rfl _ (readCell_w _ _ _ _)))

/-- **C13-merge-sound (partial).** `State::merge` is an upper bound for the concretisation "registers + stack object":
every concrete machine state (registers and byte memory of the reference interpreter) that EITHER input represents under
an identifier valuation ρ is represented by the merged state under the same ρ; the merged state is well-formed again.
The interval merges inside are the widening merges of the real code (C03 `signedMergeAndWiden`).

`_partial`: by hypothesis both inputs track the stack object (an object only one input tracks is copied into the merge —
sound only under the analysis' reading "the other path has no such object"), memory objects other than the stack are not
part of the concretisation, register values have at most 8 bytes (C03 is proved up to 64 bit), both register maps and
the object map of the second input have distinct keys (they are `BTreeMap`s; of the first input's object map this is
not needed). The `is_unique` flags play no role (they are and-ed). -/
theorem merge_sound_partial {ρ : Nat → Int} {a b : MSt} (ha : a.WF) (hb : b.WF) (hid : a.stackId = b.stackId)
    (hka : RegKeys a.st) (hkb : RegKeys b.st) (h8a : Size8 a.st) (h8b : Size8 b.st)
    {oa ob : Obj} (hoa : objGet a.objs a.stackId = some oa) (hob : objGet b.objs b.stackId = some ob)
    (hkob : ObjKeys b.objs) {σ : Sem.State} (hin : a.In ρ σ ∨ b.In ρ σ) :
    ∃ m, a.merge b = some m ∧ m.In ρ σ ∧ m.WF ∧ Size8 m.st ∧ m.stackId = a.stackId := by
  obtain ⟨r1, r2, r3⟩ := mergeRegs_sound (ρ := ρ) ha.regs hb.regs hka hkb h8a h8b a.st.globals a.st.gid
  have hra := stackRegion_of_get hoa
  have hrb := stackRegion_of_get hob
  obtain ⟨k1, k2⟩ := regionIn_mergeRegions (ρ := ρ) (base := ρ a.stackId) (σ := σ) (hra ▸ ha.stack) (hrb ▸ hb.stack)
    (hin.imp (fun h => hra ▸ h.2) (fun h => hrb ▸ hid ▸ h.2))
  unfold MSt.merge
  rw [if_pos hid]
  obtain ⟨m1, m2⟩ := MSt.of_stack (s := ⟨_, a.stackId, objsMerge a.objs b.objs⟩) (objGet_objsMerge hoa (hid ▸ hob) hkob)
    (r3 σ (hin.imp (·.1) (·.1))) r1 k1 k2
  exact ⟨_, rfl, m1, m2, r2, rfl⟩

/-- **the effect of a call that respects the ABI the analysis assumes** (this is MORE than the `havoc` of the reference
interpreter, which clobbers every register but the stack pointer and does not pop a return address): the callee-saved
registers of the calling convention keep their values, the stack pointer is the old one plus its size (x86: `RET` pops
the return address the `CALL` pushed), every register value has the width of its register; all other registers are
arbitrary. What happens to memory is a hypothesis of the theorem. -/
structure AbiCall (sp : Variable) (saved : List Variable) (σ σ' : Sem.State) : Prop where
  spPop : σ'.getReg sp = Bv.ofBytes sp.size ((σ.getReg sp).toNat + sp.size)
  keep : ∀ v ∈ saved, v ≠ sp → σ'.getReg v = σ.getReg v
  widths : ∀ v : Variable, (σ'.getReg v).w = 8 * v.size

theorem mem_clearNonCalleeSaved {t : St} {saved : List Variable} {x : Variable} {d : DData} :
    (x, d) ∈ (clearNonCalleeSaved t saved).regs ↔ (x ∈ saved ∧ (t.getReg x).isTop = false) ∧ d = t.getReg x := by
  simp only [clearNonCalleeSaved, List.mem_filterMap, Option.ite_none_left_eq_some, Option.some.injEq, Prod.mk.injEq,
    Bool.not_eq_true]
  constructor
  · rintro ⟨v, hv, ht, rfl, rfl⟩
    exact ⟨⟨hv, ht⟩, rfl⟩
  · rintro ⟨⟨hv, ht⟩, rfl⟩
    exact ⟨x, hv, ht, rfl, rfl⟩

theorem getReg_clear (t : St) (saved : List Variable) (x : Variable) :
    (clearNonCalleeSaved t saved).getReg x =
      if x ∈ saved ∧ (t.getReg x).isTop = false then t.getReg x else DData.newTop x.size := by
  rcases getReg_cases (clearNonCalleeSaved t saved) x with ⟨e, hno⟩ | hm
  · rw [e, if_neg fun h => hno _ (mem_clearNonCalleeSaved.mpr ⟨h, rfl⟩)]
  · obtain ⟨h, e⟩ := mem_clearNonCalleeSaved.mp hm
    rw [if_pos h, e]

theorem clearStackParameter_noStackArgs (s : MSt) {ext : ExternSymbol} (h : noStackArgs ext = true) :
    clearStackParameter s ext.parameters = some s := by
  unfold noStackArgs at h
  generalize ext.parameters = ps at h ⊢
  induction ps with
  | nil => rfl
  | cons p rest ih =>
    rw [List.all_cons, Bool.and_eq_true] at h
    cases p with
    | Register _ _ => exact ih h.2
    | Stack _ _ _ => cases h.1

theorem assumeWritesWith_cons (all : List Nat) (objs : Objs) (id : Nat) (ids : List Nat) :
    assumeWritesWith all objs (id :: ids) = assumeWritesWith all (assumeWritesWith all objs [id]) ids := rfl

theorem objGet_assumeWritesWith_one {all : List Nat} {objs : Objs} {id sid : Nat} (hne : id ≠ sid) :
    objGet (assumeWritesWith all objs [id]) sid = objGet objs sid := by
  show objGet (match objGet objs id with | some o => _ | none => _) sid = _
  cases objGet objs id with
  | some o => exact objGet_objSet_other _ (Ne.symm hne)
  | none => rfl

/-- `assume_arbitrary_writes_to_object` for the identifiers `ids` leaves the stack object untouched if its identifier is
not among them; otherwise every cell it keeps has the top flag, so its region describes any memory `σ'` -/
theorem assumeWrites_stack {ρ : Nat → Int} {base : Int} {σ' : Sem.State} (all : List Nat) {sid : Nat} (ids : List Nat)
    (objs : Objs) (o : Obj) (ho : objGet objs sid = some o) (hr : RegionOK o.mem) :
    ∃ o', objGet (assumeWritesWith all objs ids) sid = some o' ∧ RegionOK o'.mem ∧
      ((sid ∉ ids ∧ o'.mem = o.mem) ∨ (sid ∈ ids ∧ RegionIn ρ base o'.mem σ')) := by
  induction ids generalizing objs o with
  | nil => exact ⟨o, ho, hr, Or.inl ⟨List.not_mem_nil, rfl⟩⟩
  | cons id rest ih =>
    rw [assumeWritesWith_cons]
    by_cases hid : id = sid
    · subst hid
      have hone : assumeWritesWith all objs [id] = objSet objs id (o.assumeArbitraryWrites all) := by
        show (match objGet objs id with | some o => _ | none => _) = _
        rw [ho]
      obtain ⟨k1, k2⟩ := regionIn_markAll (ρ := ρ) (base := base) hr σ'
      obtain ⟨o', e1, e2, e3⟩ := ih _ (o.assumeArbitraryWrites all) (hone ▸ objGet_objSet_self _ ho) k1
      refine ⟨o', e1, e2, Or.inr ⟨List.mem_cons_self, ?_⟩⟩
      rcases e3 with ⟨_, hm⟩ | ⟨_, h⟩
      · rw [hm]; exact k2
      · exact h
    · obtain ⟨o', e1, e2, e3⟩ := ih _ o ((objGet_assumeWritesWith_one hid).trans ho) hr
      exact ⟨o', e1, e2, e3.imp (fun h => ⟨fun hm => (List.mem_cons.mp hm).elim (Ne.symm hid) h.1, h.2⟩)
        (fun h => ⟨List.mem_cons_of_mem _ h.1, h.2⟩)⟩

theorem ref_add_pop {x : Bv} (hw : x.w = 64) :
    Ref.binOp .IntAdd x (Bv.ofBytes 8 8) = .val (Bv.ofBytes 8 (x.toNat + 8)) := by
  obtain ⟨w, v⟩ := x
  cases hw
  rfl

/-- **C13-call-sound (partial).** The transfer of a call to a generic extern symbol (`update_call_stub`: registers that are
not callee-saved are cleared, the stack pointer is popped, every object reachable from the parameters through
`pointer_targets` is marked as arbitrarily written) is sound for the concretisation "registers + stack object" against a
call that respects the ABI (`AbiCall`: callee-saved registers survive, the return address is popped — assumptions of the
real code that the plain `havoc` of the reference interpreter does not make) and that leaves the cells of the stack object
alone UNLESS the stack object is reachable from a parameter (`stackMarked`), in which case nothing is assumed about memory.

`_partial`: x86-64 (8-byte stack pointer), a symbol without stack parameters (`noStackArgs`), the state tracks its stack
object, and only that object is part of the concretisation. -/
theorem updateCallStub_sound_partial {ρ : Nat → Int} {s : MSt} (hs : s.WF) {σ σ' : Sem.State} (hin : s.In ρ σ)
    {sp : Variable} (hsp : sp.size = 8) {cc : CallingConvention} {ext : ExternSymbol} (hargs : noStackArgs ext = true)
    {o : Obj} (hobj : objGet s.objs s.stackId = some o)
    (habi : AbiCall sp cc.calleeSavedRegister σ σ')
    (hmem : stackMarked s cc ext = false →
      ∀ c ∈ s.stackRegion, readCell σ' (ρ s.stackId) c.1 c.2.size = readCell σ (ρ s.stackId) c.1 c.2.size) :
    ∃ s', updateCallStub s sp cc ext = some s' ∧ s'.In ρ σ' ∧ s'.WF ∧ s'.stackId = s.stackId := by
  -- the new stack pointer value `sp + 8`
  have hsp0 : 0 < sp.size := by omega
  obtain ⟨wsp, ssp⟩ := St.getReg_wf hs.regs sp hsp0
  obtain ⟨wc, sc⟩ := DData.ofBv_wf (Bv.ofBytes sp.size sp.size) hsp0 rfl
  have hsz : C12.binSizesOk .IntAdd (s.st.getReg sp).size (DData.ofBv (Bv.ofBytes sp.size sp.size)).size :=
    ssp.trans sc.symm
  obtain ⟨wd, sd⟩ := DData.binOp_wf .IntAdd wsp wc hsz
  have hsd : ((s.st.getReg sp).binOp .IntAdd (DData.ofBv (Bv.ofBytes sp.size sp.size))).size = sp.size := sd.trans ssp
  -- registers: the callee-saved ones keep their value, the stack pointer is popped, all others are `Top`
  have hregs : St.RegsIn ρ (adjustStackRegister s.st (clearNonCalleeSaved s.st cc.calleeSavedRegister) sp) σ' := by
    refine regsIn_setReg_of (fun w hw => ?_) ?_ hsd
    · rw [getReg_clear]
      split
      · rename_i hc
        rw [habi.keep w hc.1 hw]
        exact hin.1 w
      · exact mem_of_top rfl _ (habi.widths w)
    · refine DData.binOp_sound .IntAdd wsp wc hsz (hin.1 sp) (DData.ofBv_mem ρ _ rfl) ?_
      rw [habi.spPop, hsp]
      exact ref_add_pop (by rw [regsIn_width hs.regs hin.1, hsp])
  have hwf : (adjustStackRegister s.st (clearNonCalleeSaved s.st cc.calleeSavedRegister) sp).WF := by
    refine wf_setReg (fun w d hm => ?_) wd hsd
    obtain ⟨⟨_, ht⟩, rfl⟩ := mem_clearNonCalleeSaved.mp hm
    rcases getReg_cases s.st w with ⟨e, _⟩ | e
    · rw [e] at ht; cases ht
    · exact hs.regs _ _ e
  unfold updateCallStub
  simp only
  rw [clearStackParameter_noStackArgs _ hargs]
  simp only
  obtain ⟨o', e1, e2, e3⟩ := assumeWrites_stack (ρ := ρ) (base := ρ s.stackId) (σ' := σ')
    (closeIds s.objs (possibleReferencedIds s cc ext)) (closeIds s.objs (possibleReferencedIds s cc ext)) s.objs o hobj
    (stackRegion_of_get hobj ▸ hs.stack)
  have hi : RegionIn ρ (ρ s.stackId) o'.mem σ' := by
    rcases e3 with ⟨hn, hm⟩ | ⟨_, h⟩
    · have hnm : stackMarked s cc ext = false := by
        simpa [stackMarked] using hn
      rw [hm]
      intro c hc
      have hc' : c ∈ s.stackRegion := stackRegion_of_get hobj ▸ hc
      rw [hmem hnm c hc']
      exact hin.2 c hc'
    · exact h
  obtain ⟨m1, m2⟩ := MSt.of_stack (s := ⟨_, s.stackId, _⟩) e1 hregs hwf e2 hi
  exact ⟨_, rfl, m1, m2, rfl⟩

namespace JoinEx

def rsp : Variable := { name := "RSP", size := 8 }
def rax : Variable := { name := "RAX", size := 8 }
def rbx : Variable := { name := "RBX", size := 8 }

def cell (lo hi : Int) (st : Nat) : DData := DData.ofItv ⟨⟨64, lo, hi, st⟩, none, none, 0⟩

/-- two paths: `RAX = 1`, slot `stack-8` holds 1 / `RAX = 5`, the slot holds 5 and a 4-byte cell exists at `stack-16` -/
def sa : MSt :=
  { st := { regs := [(rsp, DData.fromTarget 0 (IntervalDomain.single 64 (-16))), (rax, cell 1 1 0)], globals := [], gid := 1 }
    stackId := 0
    objs := [(0, { unique := true, mem := [(-8, cell 1 1 0)] }), (1, { unique := true, mem := [] })] }
def sb : MSt :=
  { st := { regs := [(rsp, DData.fromTarget 0 (IntervalDomain.single 64 (-16))), (rax, cell 5 5 0), (rbx, cell 7 7 0)], globals := [], gid := 1 }
    stackId := 0
    objs := [(0, { unique := true, mem := [(-16, DData.ofItv ⟨⟨32, 3, 3, 0⟩, none, none, 0⟩), (-8, cell 5 5 0)] }),
             (1, { unique := true, mem := [] })] }

-- the join: `RAX ∈ {1, 5}`, the common slot holds `{1, 5}`, the one-sided cell and `RBX` get the top flag
example : (sa.merge sb).map (fun m => ((m.st.getReg rax).abs.map (·.interval), (m.st.getReg rbx).top,
      m.stackRegion.map fun c => (c.1, c.2.abs.map (·.interval), c.2.top)))
    = some (some ⟨64, 1, 5, 4⟩, true, [(-16, some ⟨32, 3, 3, 0⟩, true), (-8, some ⟨64, 1, 5, 4⟩, false)]) := by decide +kernel

-- the call: `RAX` (not callee-saved) is forgotten, `RSP` is popped, the stack cells stay (no parameter points to the stack)
def cc : CallingConvention :=
  { name := "sysv", integerParameterRegister := [{ name := "RDI", size := 8 }], floatParameterRegister := [],
    integerReturnRegister := [rax], floatReturnRegister := [], calleeSavedRegister := [rbx] }
def ext : ExternSymbol :=
  { tid := { id := "x", address := "0" }, addresses := [], name := "f", callingConvention := none, parameters := [],
    returnValues := [], noReturn := false, hasVarArgs := false }
example : (updateCallStub sb rsp cc ext).map (fun m => ((m.st.getReg rax).isTop, (m.st.getReg rbx).abs.map (·.interval),
      (m.st.getReg rsp).rel.map (fun p => (p.1, p.2.interval)), m.stackRegion.length))
    = some (true, some ⟨64, 7, 7, 0⟩, [(0, ⟨64, -8, -8, 0⟩)], 2) := by decide +kernel
example : noStackArgs ext = true ∧ stackMarked sb cc ext = false := by decide +kernel

end JoinEx

end CweModel.C13
