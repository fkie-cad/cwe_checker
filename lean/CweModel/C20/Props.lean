/-
C20 — property theorems. Statement of the property:

  For every format string made of literal text, '%%' escapes and conversion specifications in
  the supported grammar (one optional flag, optional width and precision, the listed conversion
  and length forms), the extracted variadic parameter list is, in order, one entry per
  argument-consuming conversion with its documented data type and size; format strings with
  long/long long/long double conversions are rejected rather than mis-parsed.

`Model.lean` holds the scanner model of the (repaired) Rust code and the grammar; here:
  * the regex literal found in the Rust source is the regex the scanner is built from,
  * every specifier the scanner can capture has an arm in the extracted `Datatype::from` table
    (the `_ => panic!` arm is unreachable),
  * for EVERY derivation of the grammar the scanner returns exactly the conversions of the
    derivation, in order, with the documented types and sizes, or `Err` if one of them is long.
-/
import CweModel.C20.Model

namespace CweModel.C20
open CweModel.Gen.C20

/-- **C20-regex.** The regex literal extracted from the Rust source is, character for character,
the regex the scanner implements (`%%|%[+\-#0]{0,1}\d*[\.]?\d*([cC…sS]|hi|…|LA)` rendered from
`flagChars`, `singleSpecs`, `multiSpecs`). -/
theorem regex_literal_is_scanner_regex : formatRegexChars = regexChars := by decide +kernel

/-- every string the capture group can yield -/
def allSpecs : List (List Char) := singleSpecs.map (fun c => [c]) ++ multiSpecs

theorem allSpecs_have_datatype : ∀ sp ∈ allSpecs, (datatypeFrom sp).isSome = true := by
  decide +kernel

theorem firstPrefix_mem {alts : List (List Char)} {s sp r : List Char}
    (h : firstPrefix alts s = some (sp, r)) : sp ∈ alts := by
  induction alts with
  | nil => cases h
  | cons a as ih =>
    rw [firstPrefix] at h
    split at h
    · cases h; exact List.mem_cons_self
    · exact List.mem_cons_of_mem _ (ih h)

theorem matchSpec_mem {s sp r : List Char} (h : matchSpec s = some (sp, r)) : sp ∈ allSpecs := by
  match s, h with
  | c :: rest, h =>
    rw [matchSpec] at h
    split at h
    · cases h; exact List.mem_append_left _ (List.mem_map_of_mem (List.contains_iff_mem.mp ‹_›))
    · exact List.mem_append_right _ (firstPrefix_mem h)

theorem firstPrefix_append {alts : List (List Char)}
    (hfree : alts.Pairwise (fun a b => ¬ a <+: b ∧ ¬ b <+: a))
    {sp : List Char} (hsp : sp ∈ alts) (rest : List Char) :
    firstPrefix alts (sp ++ rest) = some (sp, rest) := by
  induction alts with
  | nil => cases hsp
  | cons a as ih =>
    rw [List.pairwise_cons] at hfree
    rw [firstPrefix]
    rcases List.mem_cons.mp hsp with rfl | h
    · simp
    · have : ¬ a <+: sp ++ rest := fun hp =>
        (List.prefix_or_prefix_of_prefix hp (List.prefix_append sp rest)).elim
          (hfree.1 sp h).1 (hfree.1 sp h).2
      rw [if_neg (by simpa using this)]
      exact ih hfree.2 h

theorem multiSpecs_prefixFree : multiSpecs.Pairwise (fun a b => ¬ a <+: b ∧ ¬ b <+: a) := by
  decide +kernel

theorem multiSpecs_head : ∀ sp ∈ multiSpecs, sp.head?.any (!singleSpecs.contains ·) = true := by
  decide +kernel

/-- A one-letter specifier is found by the character class; a longer one begins with a letter outside
the class and is then the only alternative that is a prefix of the input. -/
theorem matchSpec_append {sp : List Char} (h : sp ∈ allSpecs) (rest : List Char) :
    matchSpec (sp ++ rest) = some (sp, rest) := by
  rcases List.mem_append.mp h with h | h
  · obtain ⟨c, hc, rfl⟩ := List.mem_map.mp h
    exact if_pos (List.contains_iff_mem.mpr hc)
  · match sp, multiSpecs_head sp h with
    | x :: t, hx =>
      exact (if_neg (by simpa using hx)).trans (firstPrefix_append multiSpecs_prefixFree h rest)

theorem isDigit_digitChar (d : Fin 10) : isDigit (digitChar d) = true := by
  revert d; decide

theorem dropWhile_digits (ds : List (Fin 10)) {x : Char} (hx : isDigit x = false) (r : List Char) :
    (ds.map digitChar ++ x :: r).dropWhile isDigit = x :: r := by
  induction ds with
  | nil => simp only [List.map_nil, List.nil_append, List.dropWhile, hx]
  | cons d ds ih => simpa only [List.map_cons, List.cons_append, List.dropWhile, isDigit_digitChar] using ih

theorem dropFlag_flag (f : Flag) (y : List Char) : dropFlag (f.char :: y) = y := by
  cases f <;> rfl

/-- Without a flag, a leading `0` of the width is taken for the flag; the scanner ends at the same
place. -/
theorem flag_width (c : Conv) {x : Char} (hx : isDigit x = false) (hf : x ∉ flagChars) (r : List Char) :
    (dropFlag (c.flagText ++ (c.width.map digitChar ++ x :: r))).dropWhile isDigit = x :: r := by
  unfold Conv.flagText
  cases c.flag with
  | some f => exact dropFlag_flag f _ ▸ dropWhile_digits c.width hx r
  | none =>
    cases c.width with
    | nil => simp [dropFlag, hf, hx]
    | cons d ds =>
      simp only [List.nil_append, List.map_cons, List.cons_append, dropFlag]
      split
      · exact dropWhile_digits ds hx r
      · exact dropWhile_digits (d :: ds) hx r

/-- Between the ASCII digits and the next block of decimal digits (from U+0660) nothing is a digit: every ASCII
letter and every punctuation character above `9` lies there. -/
theorem isDigit_of_gap {c : Char} (h1 : 57 < c.toNat) (h2 : c.toNat < 1632) : isDigit c = false := by
  have hrest : ∀ r ∈ decimalRanges.tail, 1632 ≤ r.1 := by decide +kernel
  refine List.any_eq_false.mpr fun r hr => ?_
  simp only [Bool.and_eq_true, decide_eq_true_eq, not_and, Nat.not_le]
  rcases List.mem_cons.mp (show r ∈ (48, 57) :: decimalRanges.tail from hr) with rfl | hr
  · exact fun _ => h1
  · exact fun h => absurd (Nat.le_trans (hrest r hr) h) (Nat.not_le.mpr h2)

def specStart (x : Char) : Bool :=
  decide (57 < x.toNat) && decide (x.toNat < 1632) && !flagChars.contains x && x != '.' && x != '%'

theorem allSpecs_start : ∀ sp ∈ allSpecs, sp.head?.any specStart = true := by decide +kernel

theorem allSpecs_head {sp : List Char} (h : sp ∈ allSpecs) :
    ∃ x t, sp = x :: t ∧ isDigit x = false ∧ x ∉ flagChars ∧ x ≠ '.' ∧ x ≠ '%' := by
  match sp, allSpecs_start sp h with
  | x :: t, hx =>
    simp [specStart, and_assoc] at hx
    exact ⟨x, t, rfl, isDigit_of_gap hx.1 hx.2.1, hx.2.2⟩

def Len.all : List Len := [.no, .h, .l, .ll, .L]

def Cv.all : List Cv := [.c, .C, .d, .i, .o, .u, .x, .X, .e, .E, .f, .F, .g, .G, .a, .A, .n, .p, .s, .S]

theorem Len.mem_all (len : Len) : len ∈ Len.all := by cases len <;> decide +kernel

theorem Cv.mem_all (cv : Cv) : cv ∈ Cv.all := by cases cv <;> decide +kernel

theorem specChars_mem (c : Conv) (h : c.Supported) : c.specChars ∈ allSpecs :=
  (by decide +kernel : ∀ len ∈ Len.all, ∀ cv ∈ Cv.all,
    (docType len cv).isSome = true → len.chars ++ [cv.char] ∈ allSpecs)
    _ (Len.mem_all _) _ (Cv.mem_all _) h

theorem matchConv_conv (c : Conv) (h : c.Supported) (rest : List Char) :
    matchConv (c.tail ++ rest) = some (c.specChars, rest) := by
  have hsp := specChars_mem c h
  unfold matchConv Conv.tail Conv.precText
  generalize c.specChars = sp at hsp ⊢
  obtain ⟨x, t, rfl, hd, hf, hdot, -⟩ := allSpecs_head hsp
  simp only [List.append_assoc, List.cons_append]
  cases c.prec with
  | none =>
    rw [List.nil_append, flag_width c hd hf]
    simp only [dropDot, if_neg hdot, List.dropWhile, hd]
    exact matchSpec_append hsp rest
  | some ds =>
    rw [List.cons_append, flag_width c (by decide) (by decide)]
    simp only [dropDot, if_true]
    rw [dropWhile_digits ds hd]
    exact matchSpec_append hsp rest

theorem tail_ne_pct (c : Conv) (h : c.Supported) (rest : List Char) :
    (c.tail ++ rest).head? ≠ some '%' := by
  obtain ⟨x, t, hxt, -, -, -, hp⟩ := allSpecs_head (specChars_mem c h)
  unfold Conv.tail Conv.flagText Conv.precText
  rw [hxt]
  cases c.flag with
  | some f => cases f <;> exact mt Option.some.inj (by decide)
  | none =>
    cases c.width with
    | cons d ds => exact mt Option.some.inj ((by decide : ∀ d, digitChar d ≠ '%') d)
    | nil => cases c.prec with
      | some ps => exact mt Option.some.inj (by decide)
      | none => exact mt Option.some.inj hp

theorem scanAux_skip (xs rest : List Char) : scanAux xs.length (xs ++ rest) = scanAux 0 rest := by
  induction xs with
  | nil => rfl
  | cons x xs ih => simpa [scanAux] using ih

theorem scanAux_lit (c : Char) (h : c ≠ '%') (rest : List Char) :
    scanAux 0 (c :: rest) = scanAux 0 rest := by
  rw [scanAux, if_neg h]

theorem scanAux_esc (rest : List Char) : scanAux 0 ('%' :: '%' :: rest) = scanAux 0 rest := rfl

theorem scanAux_conv (c : Conv) (h : c.Supported) (rest : List Char) :
    scanAux 0 ('%' :: c.tail ++ rest) = c.specChars :: scanAux 0 rest := by
  rw [List.cons_append, scanAux]
  simp only [↓reduceIte, tail_ne_pct c h rest, matchConv_conv c h rest]
  have : (c.tail ++ rest).length - rest.length = c.tail.length := by simp
  rw [this, scanAux_skip]

def specStrings : List Item → List (List Char)
  | [] => []
  | .conv c :: rest => c.specChars :: specStrings rest
  | _ :: rest => specStrings rest

/-- **C20-scan.** On the rendering of ANY derivation of the grammar the leftmost non-overlapping
scan captures exactly the specifiers of the derivation's conversions, in order: literal text
(even text that looks like a specifier) and `%%` contribute nothing. -/
theorem scan_render (items : List Item) (hwf : WF items) : scan (render items) = specStrings items := by
  unfold scan
  induction items with
  | nil => rfl
  | cons it items ih =>
    obtain ⟨hit, hrest⟩ := List.forall_mem_cons.mp hwf
    rw [render, List.flatMap_cons, ← render]
    cases it with
    | lit c => exact (scanAux_lit c hit _).trans (ih hrest)
    | esc => exact (scanAux_esc _).trans (ih hrest)
    | conv c => exact (scanAux_conv c hit _).trans (congrArg _ (ih hrest))

/-- the extracted `Datatype::from` table gives every supported conversion its documented type -/
theorem datatypeFrom_doc (len : Len) (cv : Cv) (h : (docType len cv).isSome = true) :
    datatypeFrom (len.chars ++ [cv.char]) = docType len cv :=
  (by decide +kernel : ∀ len ∈ Len.all, ∀ cv ∈ Cv.all,
    (docType len cv).isSome = true → datatypeFrom (len.chars ++ [cv.char]) = docType len cv)
    _ (Len.mem_all _) _ (Cv.mem_all _) h

/-- the extracted size lookup with the char promotion is the documented size -/
theorem size_doc (p : DatatypeProperties) (dt : Datatype) :
    (if dt = Datatype.Char then getSizeFromDataType p Datatype.Integer else getSizeFromDataType p dt)
      = docSize p dt := by
  cases dt <;> rfl

theorem paramOf_conv (p : DatatypeProperties) (c : Conv) (dt : Datatype) (h : docType c.len c.cv = some dt) :
    paramOf p c.specChars = some (dt, docSize p dt) := by
  have := datatypeFrom_doc c.len c.cv (by rw [h]; rfl)
  simp only [paramOf, Conv.specChars, this, h, Option.map_some, size_doc]

theorem mapParams_specStrings (p : DatatypeProperties) (items : List Item) (hwf : WF items) :
    mapParams p (specStrings items) = some (conversions p items) := by
  induction items with
  | nil => rfl
  | cons it items ih =>
    obtain ⟨hit, hrest⟩ := List.forall_mem_cons.mp hwf
    cases it with
    | lit c => exact ih hrest
    | esc => exact ih hrest
    | conv c =>
      obtain ⟨dt, hdt⟩ := Option.isSome_iff_exists.mp hit
      simp only [specStrings, conversions, mapParams, paramOf_conv p c dt hdt, ih hrest, hdt]

theorem any_long_conversions (p : DatatypeProperties) (items : List Item) :
    (conversions p items).any (fun e => notYetParsable e.1) = hasLong items := by
  induction items with
  | nil => rfl
  | cons it items ih =>
    cases it with
    | lit c => exact ih
    | esc => exact ih
    | conv c =>
      simp only [conversions, hasLong, Conv.isLong]
      cases docType c.len c.cv with
      | none => simpa using ih
      | some dt => simp [ih]

theorem parse_render_eq_spec (p : DatatypeProperties) (items : List Item) (hwf : WF items) :
    parse p (render items) = specParse p items := by
  simp only [parse, scan_render items hwf, mapParams_specStrings p items hwf, any_long_conversions, specParse]

/-- **C20-parse.** For every derivation of the grammar without long/long long/long double
conversions, the extracted parameter list is, in order, one entry per conversion with its
documented data type and size (nothing for literal text and `%%`). -/
theorem parse_grammar (p : DatatypeProperties) (items : List Item) (hwf : WF items)
    (hl : hasLong items = false) : parse p (render items) = .ok (conversions p items) := by
  rw [parse_render_eq_spec p items hwf, specParse, hl]; rfl

/-- **C20-long.** A derivation containing a long, long long or long double conversion is rejected
(`Err`), whatever else it contains. -/
theorem parse_long_rejected (p : DatatypeProperties) (items : List Item) (hwf : WF items)
    (hl : hasLong items = true) : parse p (render items) = .err := by
  rw [parse_render_eq_spec p items hwf, specParse, hl]; rfl

/-- `conversions` has exactly one entry per conversion item of the derivation (this is what
"one entry per argument-consuming conversion" means; order is the order of the items). -/
theorem conversions_length (p : DatatypeProperties) (items : List Item) (hwf : WF items) :
    (conversions p items).length = (items.filter (fun i => match i with | .conv _ => true | _ => false)).length := by
  induction items with
  | nil => rfl
  | cons it items ih =>
    obtain ⟨hit, hrest⟩ := List.forall_mem_cons.mp hwf
    cases it with
    | lit c => exact ih hrest
    | esc => exact ih hrest
    | conv c =>
      obtain ⟨dt, hdt⟩ := Option.isSome_iff_exists.mp hit
      simp [conversions, hdt, ih hrest]

theorem scanAux_mem (k : Nat) (s : List Char) : ∀ sp ∈ scanAux k s, sp ∈ allSpecs := by
  fun_induction scanAux k s with
  | case1 => simp
  | case4 rest _ sp rem hm ih => exact List.forall_mem_cons.mpr ⟨matchSpec_mem hm, ih⟩
  | _ => assumption

theorem mapParams_isSome (p : DatatypeProperties) (l : List (List Char)) (h : ∀ sp ∈ l, sp ∈ allSpecs) :
    (mapParams p l).isSome = true := by
  induction l with
  | nil => rfl
  | cons sp l ih =>
    obtain ⟨hsp, h⟩ := List.forall_mem_cons.mp h
    obtain ⟨dt, hdt⟩ := Option.isSome_iff_exists.mp (allSpecs_have_datatype sp hsp)
    obtain ⟨xs, hxs⟩ := Option.isSome_iff_exists.mp (ih h)
    simp [mapParams, paramOf, hdt, hxs]

/-- **C20-total.** For EVERY string (grammatical or not) the captured specifiers all have an arm in
`Datatype::from`: the model never reaches the panicking `_` arm. -/
theorem parse_never_panics (p : DatatypeProperties) (s : List Char) : parse p s ≠ .panic := by
  obtain ⟨xs, hxs⟩ := Option.isSome_iff_exists.mp (mapParams_isSome p (scan s) (scanAux_mem 0 s))
  unfold parse
  rw [hxs]
  dsimp only
  split <;> simp

/-! ### non-vacuity: concrete derivations -/

/-- `"100%%d %s"` (defect D6): literal `100`, `%%`, literal `d `, conversion `%s` -/
def d6 : List Item :=
  [.lit '1', .lit '0', .lit '0', .esc, .lit 'd', .lit ' ',
   .conv { flag := none, width := [], prec := none, len := .no, cv := .s }]

def x64 : DatatypeProperties :=
  { char_size := 1, double_size := 8, float_size := 4, integer_size := 4, long_double_size := 8,
    long_long_size := 8, long_size := 8, pointer_size := 8, short_size := 2 }

example : WF d6 := by decide
example : render d6 = ['1', '0', '0', '%', '%', 'd', ' ', '%', 's'] := by decide
example : hasLong d6 = false := by decide
example : parse x64 (render d6) = .ok [(Datatype.Pointer, 8)] := by decide +kernel

/-- `"%-08.3lf|%hd%c%lld"` -/
def mixed : List Item :=
  [.conv { flag := some .minus, width := [0, 8], prec := some [3], len := .l, cv := .f }, .lit '|',
   .conv { flag := none, width := [], prec := none, len := .h, cv := .d },
   .conv { flag := none, width := [], prec := none, len := .no, cv := .c },
   .conv { flag := none, width := [], prec := none, len := .ll, cv := .d }]

example : WF mixed := by decide
example : hasLong mixed = true := by decide
example : parse x64 (render mixed) = .err := by decide +kernel
example : parse x64 (render (mixed.dropLast)) = .ok [(Datatype.Double, 8), (Datatype.Integer, 4), (Datatype.Char, 4)] := by
  decide +kernel
/-- outside the grammar nothing is claimed: `%lx` is not matched at all -/
example : parse x64 ['%', 'l', 'x'] = .ok [] := by decide +kernel

end CweModel.C20
