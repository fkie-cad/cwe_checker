/-
C02 — property theorems. Statement of the property:

  For every abstract interval value (bounds, stride and widening hints) and every operation the
  value analysis evaluates, each concrete result of applying the operation to concrete members of
  the input intervals is a member of the computed abstract result. Bounds, stride and width of
  every produced interval stay well-formed (start <= end, members lie on the stride, stride 0
  exactly for singletons).

The lemmas per operation on `Interval` are lifted to `IntervalDomain` (`RegisterDomain::bin_op / un_op / cast /
subpiece`), where the widening hints and the delay are carried along; the concrete side is written as `Int` formulas
(`concBin`, `concUn`, `concCast`).
-/
import CweModel.C02.Sub
import CweModel.C02.Piece
import CweModel.C02.Mul
import CweModel.C02.Count

namespace CweModel.C02
open CweModel.Itv

/-- concrete result of a binary operation. For the operations the domain evaluates on singletons only,
the semantics is the parameter `conc` (= `Bitvector::bin_op`, the subject of C01). -/
def concBin (conc : BinOp → Int → Int → Option Int) (op : BinOp) (wa wb : Nat) (x y : Int) : Option Int :=
  match op with
  | .intAdd => some (cadd wa x y)
  | .intSub => some (csub wa x y)
  | .intMult => some (cmul wa x y)
  | .intLeft => some (cshl wa x (toU wb y))
  | .piece => some (cpiece wa wb x y)
  | op => conc op x y

/-- operand widths the operation is defined for (`bin_op` asserts equal sizes except for shifts/piece) -/
def BinWidths (op : BinOp) (wa wb : Nat) : Prop :=
  match op with
  | .piece | .intLeft | .intRight | .intSRight => True
  | _ => wb = wa

/-- concrete result of a unary operation (`none`: no integer semantics, e.g. float operations, or a
non-boolean operand of BOOL_NEGATE) -/
def concUn (op : UnOp) (w : Nat) (x : Int) : Option Int :=
  match op with
  | .int2Comp => some (cneg w x)
  | .intNegate => some (cnot w x)
  | .boolNegate => if w = 8 then (if x = 0 then some 1 else if x = 1 then some 0 else none) else none
  | _ => none

def concCast (op : CastOp) (w w' : Nat) (x : Int) : Option Int :=
  match op with
  | .intZExt => some (czext w w' x)
  | .intSExt => some (csext w w' x)
  | .popCount => some (cpopcount w w' x)
  | .lzCount => some (clzcount w w' x)
  | _ => none

theorem dom_wf_mk {I : Interval} (hI : I.WF) {u l : Option Int} {d : Nat}
    (hu : ∀ v, u = some v → InRange I.w v) (hl : ∀ v, l = some v → InRange I.w v) (hd : d < 2 ^ 64) :
    (IntervalDomain.mk I u l d).WF := ⟨hI, hu, hl, hd⟩

theorem max_lt {a b n : Nat} (ha : a < n) (hb : b < n) : max a b < n := Nat.max_lt.mpr ⟨ha, hb⟩

theorem sAOC_inRange (w : Nat) (hw : 0 < w) (x y : Int) {r : Int} (h : signedAddOverflowChecked w x y = some r) :
    InRange w r := by
  simp only [signedAddOverflowChecked] at h
  split at h
  · cases h
  · cases h; exact wrap_inRange w hw _

theorem sSOC_inRange (w : Nat) (hw : 0 < w) (x y : Int) {r : Int} (h : signedSubOverflowChecked w x y = some r) :
    InRange w r := by
  simp only [signedSubOverflowChecked] at h
  split at h
  · cases h
  · cases h; exact wrap_inRange w hw _

theorem none_inRange {w : Nat} : ∀ v, (none : Option Int) = some v → InRange w v := fun _ h => nomatch h

theorem ite_some_inRange {c : Prop} [Decidable c] {w : Nat} {z v : Int} (hz : InRange w z)
    (h : (if c then some z else none) = some v) : InRange w v := by
  split at h
  · cases h; exact hz
  · cases h

theorem map_inRange {w : Nat} (o : Option Int) (f : Int → Int) (hf : ∀ x, InRange w (f x)) :
    ∀ v, o.map f = some v → InRange w v := by
  intro v hv
  cases o with
  | none => cases hv
  | some x => cases hv; exact hf x

theorem bind_inRange {w : Nat} (o : Option Int) (f : Int → Option Int)
    (hf : ∀ x r, f x = some r → InRange w r) : ∀ v, o.bind f = some v → InRange w v := by
  intro v hv
  cases o with
  | none => cases hv
  | some x => exact hf x v hv

theorem add_interval (a b : IntervalDomain) : (a.add b).interval = a.interval.add b.interval := by
  unfold IntervalDomain.add
  simp only
  split
  · rfl
  · simp only [updateUpper_interval, updateLower_interval]; rfl

theorem sub_interval (a b : IntervalDomain) : (a.sub b).interval = a.interval.sub b.interval := by
  unfold IntervalDomain.sub
  simp only
  split
  · rfl
  · simp only [updateUpper_interval, updateLower_interval]; rfl

theorem add_dom_wf (a b : IntervalDomain) (ha : a.WF) (hb : b.WF) (hwfI : (a.interval.add b.interval).WF)
    (hwI : (a.interval.add b.interval).w = a.interval.w) : (a.add b).WF := by
  have hr : ∀ (o : Option Int) (z : Int), ∀ v, (o.bind fun bd => signedAddOverflowChecked a.w bd z) = some v →
      InRange (a.interval.add b.interval).w v := fun o z => by
    rw [hwI]; exact bind_inRange o _ fun x r h => sAOC_inRange _ ha.interval.w_pos x z h
  unfold IntervalDomain.add
  simp only
  split
  · exact ofInterval_wf hwfI
  · exact hintUpdates_wf (dom_wf_mk hwfI none_inRange none_inRange
      (max_lt ha.delay_lt hb.delay_lt)) (hr _ _) (hr _ _) (hr _ _) (hr _ _)

theorem sub_dom_wf (a b : IntervalDomain) (ha : a.WF) (hb : b.WF) (hwfI : (a.interval.sub b.interval).WF)
    (hwI : (a.interval.sub b.interval).w = a.interval.w) : (a.sub b).WF := by
  have hr1 : ∀ (o : Option Int) (z : Int), ∀ v, (o.bind fun bd => signedSubOverflowChecked a.w bd z) = some v →
      InRange (a.interval.sub b.interval).w v := fun o z => by
    rw [hwI]; exact bind_inRange o _ fun x r h => sSOC_inRange _ ha.interval.w_pos x z h
  have hr2 : ∀ (o : Option Int) (z : Int), ∀ v, (o.bind fun bd => signedSubOverflowChecked a.w z bd) = some v →
      InRange (a.interval.sub b.interval).w v := fun o z => by
    rw [hwI]; exact bind_inRange o _ fun x r h => sSOC_inRange _ ha.interval.w_pos z x h
  unfold IntervalDomain.sub
  simp only
  split
  · exact ofInterval_wf hwfI
  · exact hintUpdates_wf (dom_wf_mk hwfI none_inRange none_inRange
      (max_lt ha.delay_lt hb.delay_lt)) (hr1 _ _) (hr2 _ _) (hr1 _ _) (hr2 _ _)

theorem smof_fst_inRange (w : Nat) (hw : 0 < w) (x y : Int) : InRange w (signedMultWithOverflowFlag w x y).1 := by
  unfold signedMultWithOverflowFlag
  by_cases hx : x = 0
  · rw [if_pos hx]; exact inRange_zero w
  · rw [if_neg hx]
    dsimp only
    split <;> exact wrap_inRange w hw _

theorem hintProduct_inRange (w : Nat) (hw : 0 < w) (x y : Option Int) :
    ∀ v ∈ IntervalDomain.hintProduct w x y, InRange w v := by
  intro v hv
  unfold IntervalDomain.hintProduct at hv
  split at hv
  · simp only at hv
    split at hv
    · cases hv
    · simp only [List.mem_singleton] at hv
      rw [hv]; exact smof_fst_inRange w hw _ _
  · cases hv

theorem fold_pick {p : Option Int → Int → Option Int}
    (hp : ∀ acc bd, p acc bd = acc ∨ p acc bd = some bd) (l : List Int) (init : Option Int) :
    ∀ v, l.foldl p init = some v → init = some v ∨ v ∈ l := by
  induction l generalizing init with
  | nil => intro v h; exact .inl h
  | cons b bs ih =>
    intro v h
    rw [List.foldl_cons] at h
    rcases ih _ v h with h1 | h1
    · rcases hp init b with h2 | h2
      · rw [h2] at h1; exact .inl h1
      · rw [h2] at h1; cases h1; exact .inr (List.mem_cons_self)
    · exact .inr (List.mem_cons_of_mem _ h1)

theorem signedMul_interval (a b : IntervalDomain) :
    (a.signedMul b).interval = a.interval.signedMul b.interval := by
  unfold IntervalDomain.signedMul
  by_cases htop : (a.interval.signedMul b.interval).isTop = true
  · rw [if_pos htop]; rfl
  · rw [if_neg htop]

/-- one step of the bound selection of `signed_mul` keeps the hint or takes the candidate -/
theorem pick_cases {c : Prop} [Decidable c] {d : Int → Prop} [DecidablePred d] (acc : Option Int) (bd : Int) :
    (if c then (match acc with | some prev => if d prev then some bd else acc | none => some bd) else acc) = acc ∨
    (if c then (match acc with | some prev => if d prev then some bd else acc | none => some bd) else acc)
      = some bd := by
  split
  · cases acc with
    | none => exact .inr rfl
    | some prev =>
      dsimp only; split
      · exact .inr rfl
      · exact .inl rfl
  · exact .inl rfl

theorem signedMul_dom_wf (a b : IntervalDomain) (ha : a.WF) (hb : b.WF)
    (hI : (a.interval.signedMul b.interval).WF) (hwI : (a.interval.signedMul b.interval).w = a.interval.w) :
    (a.signedMul b).WF := by
  unfold IntervalDomain.signedMul
  by_cases htop : (a.interval.signedMul b.interval).isTop = true
  · rw [if_pos htop]; exact ofInterval_wf hI
  · rw [if_neg htop]
    have hall : ∀ v ∈ (IntervalDomain.hintProduct a.w a.lower b.lower ++ IntervalDomain.hintProduct a.w a.lower b.upper ++
        IntervalDomain.hintProduct a.w a.upper b.lower ++ IntervalDomain.hintProduct a.w a.upper b.upper),
        InRange (a.interval.signedMul b.interval).w v := by
      intro v hv
      rw [hwI]
      simp only [List.mem_append] at hv
      rcases hv with ((h | h) | h) | h <;> exact hintProduct_inRange _ ha.interval.w_pos _ _ v h
    refine dom_wf_mk hI ?_ ?_ (max_lt ha.delay_lt hb.delay_lt) <;> intro v hv <;>
      exact hall v ((fold_pick (fun acc bd => pick_cases acc bd) _ none v hv).resolve_left nofun)

theorem signedMul_dom_spec (a b : IntervalDomain) (ha : a.WF) (hb : b.WF) (hw : b.interval.w = a.interval.w)
    {x y : Int} (hx : a.Mem x) (hy : b.Mem y) :
    (a.signedMul b).Mem (cmul a.interval.w x y) ∧ (a.signedMul b).WF ∧
      (a.signedMul b).interval.w = a.interval.w := by
  obtain ⟨h1, h2, h3⟩ := signedMul_mem_wf _ _ ha.interval hb.interval hw hx hy
  have hwf := signedMul_dom_wf a b ha hb h2 h3
  rw [← signedMul_interval] at h1 h3
  exact ⟨h1, hwf, h3⟩

theorem cshl_eq_cmul (w : Nat) (hw : 0 < w) (x : Int) (n : Nat) (hn : n < w) :
    cshl w x n = cmul w x (wrap w ((2 ^ n : Nat) : Int)) := by
  unfold cshl cmul
  rw [if_pos hn]
  apply wrap_congr w hw
  rw [← Int.mul_sub]
  exact Int.dvd_mul_of_dvd_right (dvd_sub_comm (wrap_dvd w _))

theorem shiftLeft_eq_mul (a b : IntervalDomain) (hs : b.interval.start = b.interval.stop)
    (hn : toU b.interval.w b.interval.start < a.interval.w) :
    a.shiftLeft b = a.signedMul (IntervalDomain.single a.interval.w
      (wrap a.interval.w ((2 ^ toU b.interval.w b.interval.start : Nat) : Int))) := by
  unfold IntervalDomain.shiftLeft IntervalDomain.w
  rw [if_pos hs]; simp only; rw [if_pos hn]

theorem shiftLeft_eq_zero (a b : IntervalDomain) (hs : b.interval.start = b.interval.stop)
    (hn : ¬ toU b.interval.w b.interval.start < a.interval.w) :
    a.shiftLeft b = IntervalDomain.single a.interval.w 0 := by
  unfold IntervalDomain.shiftLeft IntervalDomain.w
  rw [if_pos hs]; simp only; rw [if_neg hn]

theorem shiftLeft_eq_top (a b : IntervalDomain) (hs : ¬ b.interval.start = b.interval.stop) :
    a.shiftLeft b = IntervalDomain.newTop a.interval.w := by
  unfold IntervalDomain.shiftLeft IntervalDomain.w
  rw [if_neg hs]

/-- **C02-shl.** Soundness and well-formedness of `IntervalDomain::shift_left`; nothing is asked of the shift amount. -/
theorem shiftLeft_mem_wf (a b : IntervalDomain) (ha : a.WF) {x y : Int} (hx : a.Mem x) (hy : b.Mem y) :
    (a.shiftLeft b).Mem (cshl a.interval.w x (toU b.interval.w y)) ∧ (a.shiftLeft b).WF ∧
      (a.shiftLeft b).interval.w = a.interval.w := by
  have hw0 := ha.interval.w_pos
  by_cases hsingle : b.interval.start = b.interval.stop
  · rw [mem_eq_start hy hsingle]
    by_cases hn : toU b.interval.w b.interval.start < a.interval.w
    · rw [shiftLeft_eq_mul a b hsingle hn, cshl_eq_cmul _ hw0 _ _ hn]
      exact signedMul_dom_spec a _ ha (ofInterval_wf (Interval.wf_single _ hw0 _ (wrap_inRange _ hw0 _))) rfl
        hx ((Interval.mem_single _ _ _).mpr rfl)
    · rw [shiftLeft_eq_zero a b hsingle hn, cshl, if_neg hn]
      exact ⟨(Interval.mem_single _ _ _).mpr rfl,
        ofInterval_wf (Interval.wf_single _ hw0 _ (inRange_zero _)), rfl⟩
  · rw [shiftLeft_eq_top a b hsingle]
    refine ⟨(Interval.mem_newTop _ _).mpr ?_, ofInterval_wf (Interval.wf_newTop _ hw0), rfl⟩
    unfold cshl
    split
    · exact wrap_inRange _ hw0 _
    · exact inRange_zero _

theorem shiftLeft_spec (a b : IntervalDomain) (ha : a.WF) (_hb : b.WF) (hw1 : 1 < a.interval.w) {x y : Int}
    (hx : a.Mem x) (hy : b.Mem y) :
    (a.shiftLeft b).Mem (cshl a.interval.w x (toU b.interval.w y)) ∧ (a.shiftLeft b).WF ∧
      (a.shiftLeft b).interval.w = a.interval.w := shiftLeft_mem_wf a b ha hx hy

theorem piece_interval (a b : IntervalDomain) : (a.piece b).interval = a.interval.piece b.interval := by
  unfold IntervalDomain.piece
  simp only
  split <;> rfl

theorem cpiece_inRange (wh wl : Nat) (h : 0 < wh + wl) (x y : Int) : InRange (wh + wl) (cpiece wh wl x y) :=
  wrap_inRange _ h _

theorem piece_dom_wf (a b : IntervalDomain) (hb : b.WF) (hI : (a.interval.piece b.interval).WF)
    (hwI : (a.interval.piece b.interval).w = a.interval.w + b.interval.w) : (a.piece b).WF := by
  have hr : ∀ x y, InRange (a.interval.piece b.interval).w (cpiece a.interval.w b.interval.w x y) := fun x y => by
    rw [hwI]; exact cpiece_inRange _ _ (hwI ▸ hI.w_pos) x y
  unfold IntervalDomain.piece
  simp only
  split
  · refine dom_wf_mk hI ?_ ?_ hb.delay_lt <;> intro v hv <;> split at hv
    · exact ite_some_inRange (hr _ _) hv
    · cases hv
    · exact ite_some_inRange (hr _ _) hv
    · cases hv
  · exact dom_wf_mk hI none_inRange none_inRange (by decide)

/-- the operations with a dedicated transfer function -/
def isSpecial : BinOp → Bool
  | .piece | .intAdd | .intSub | .intMult | .intLeft => true
  | _ => false

/-- the concrete evaluation returns values of the result width -/
def ConcInRange (conc : BinOp → Int → Int → Option Int) (wa wb : Nat) : Prop :=
  ∀ op x y v, conc op x y = some v → InRange (binOpWidth op wa wb) v

theorem special_cases {op : BinOp} (h : isSpecial op = true) :
    op = .piece ∨ op = .intAdd ∨ op = .intSub ∨ op = .intMult ∨ op = .intLeft := by
  cases op <;> first | exact Bool.noConfusion h | simp

theorem binOp_fallthrough (conc : BinOp → Int → Int → Option Int) (a b : IntervalDomain) (op : BinOp)
    (hop : isSpecial op = false) :
    a.binOp conc op b =
      { interval :=
          if a.interval.start = a.interval.stop ∧ b.interval.start = b.interval.stop then
            match conc op a.interval.start b.interval.start with
            | some v => Interval.single (binOpWidth op a.w b.w) v
            | none => Interval.newTop (binOpWidth op a.w b.w)
          else Interval.newTop (binOpWidth op a.w b.w),
        lower := none, upper := none, delay := max a.delay b.delay } := by
  cases op <;> first | exact Bool.noConfusion hop | rfl

theorem concBin_fallthrough (conc : BinOp → Int → Int → Option Int) (op : BinOp) (wa wb : Nat) (x y : Int)
    (hop : isSpecial op = false) : concBin conc op wa wb x y = conc op x y := by
  cases op <;> first | exact Bool.noConfusion hop | rfl

theorem binOpWidth_pos (op : BinOp) (wa wb : Nat) (h : 0 < wa) : 0 < binOpWidth op wa wb := by
  cases op <;> first | exact h | exact (by decide : 0 < 8) | exact Nat.lt_add_right wb h

theorem binOp_fallthrough_spec (conc : BinOp → Int → Int → Option Int) (a b : IntervalDomain) (op : BinOp)
    (hop : isSpecial op = false) (ha : a.WF) (hb : b.WF)
    (hconc : ∀ x y v, conc op x y = some v → InRange (binOpWidth op a.interval.w b.interval.w) v) :
    (∀ {x y z : Int}, a.Mem x → b.Mem y → conc op x y = some z → (a.binOp conc op b).Mem z) ∧
    (a.binOp conc op b).WF ∧ (a.binOp conc op b).interval.w = binOpWidth op a.interval.w b.interval.w := by
  have hwr := binOpWidth_pos op a.interval.w b.interval.w ha.interval.w_pos
  rw [binOp_fallthrough conc a b op hop]
  refine ⟨fun {x y z} hx hy hz => ?_, ?_⟩
  · show (if _ then _ else _ : Interval).Mem z
    split
    · rename_i hs
      rw [← mem_eq_start hx hs.1, ← mem_eq_start hy hs.2, hz]
      exact (Interval.mem_single _ _ _).mpr rfl
    · exact (Interval.mem_newTop _ _).mpr (hconc x y z hz)
  · suffices h : ∀ I : Interval, I.WF ∧ I.w = binOpWidth op a.interval.w b.interval.w →
        (IntervalDomain.mk I none none (max a.delay b.delay)).WF ∧ I.w = _ from h _ (by
      split
      · split
        · rename_i v hv
          exact ⟨Interval.wf_single _ hwr _ (hconc _ _ v hv), rfl⟩
        · exact ⟨Interval.wf_newTop _ hwr, rfl⟩
      · exact ⟨Interval.wf_newTop _ hwr, rfl⟩)
    exact fun I hI => ⟨dom_wf_mk hI.1 none_inRange none_inRange (max_lt ha.delay_lt hb.delay_lt), hI.2⟩

/-- **C02-binop.** Soundness, well-formedness and width of `bin_op`; the range of the concrete evaluation
`conc` is asked for `op` only. -/
theorem binOp_spec (conc : BinOp → Int → Int → Option Int) (a b : IntervalDomain) (op : BinOp)
    (ha : a.WF) (hb : b.WF) (hwid : BinWidths op a.interval.w b.interval.w)
    (hconc : ∀ x y v, conc op x y = some v → InRange (binOpWidth op a.interval.w b.interval.w) v)
    {x y : Int} (hx : a.Mem x) (hy : b.Mem y) :
    (∀ z, concBin conc op a.interval.w b.interval.w x y = some z → (a.binOp conc op b).Mem z) ∧
    (a.binOp conc op b).WF ∧ (a.binOp conc op b).interval.w = binOpWidth op a.interval.w b.interval.w := by
  by_cases hsp : isSpecial op = true
  · rcases special_cases hsp with rfl | rfl | rfl | rfl | rfl
    · obtain ⟨h1, h2, h3⟩ := piece_spec _ _ ha.interval hb.interval hx hy
      rw [← piece_interval] at h1 h3
      exact ⟨fun z hz => by cases hz; exact h1, piece_dom_wf a b hb h2 (piece_interval a b ▸ h3), h3⟩
    · obtain ⟨h1, h2, h3⟩ := add_spec _ _ ha.interval hb.interval hwid hx hy
      have hwf := add_dom_wf a b ha hb h2 h3
      rw [← add_interval] at h1 h3
      exact ⟨fun z hz => by cases hz; exact h1, hwf, h3⟩
    · obtain ⟨h1, h2, h3⟩ := sub_spec _ _ ha.interval hb.interval hwid hx hy
      have hwf := sub_dom_wf a b ha hb h2 h3
      rw [← sub_interval] at h1 h3
      exact ⟨fun z hz => by cases hz; exact h1, hwf, h3⟩
    · have := signedMul_dom_spec a b ha hb hwid hx hy
      exact ⟨fun z hz => by cases hz; exact this.1, this.2⟩
    · have := shiftLeft_mem_wf a b ha hx hy
      exact ⟨fun z hz => by cases hz; exact this.1, this.2⟩
  · have hsp := Bool.eq_false_iff.mpr hsp
    have := binOp_fallthrough_spec conc a b op hsp ha hb hconc
    exact ⟨fun z hz => this.1 hx hy (concBin_fallthrough conc op _ _ x y hsp ▸ hz), this.2⟩

/-- **C02-binop (soundness).** Every concrete result of a binary operation on members of the operands
is a member of the abstract result. -/
theorem binOp_sound (conc : BinOp → Int → Int → Option Int) (a b : IntervalDomain) (op : BinOp)
    (ha : a.WF) (hb : b.WF) (hw1 : 1 < a.interval.w) (hwid : BinWidths op a.interval.w b.interval.w)
    (hconc : ConcInRange conc a.interval.w b.interval.w)
    {x y z : Int} (hx : a.Mem x) (hy : b.Mem y)
    (hz : concBin conc op a.interval.w b.interval.w x y = some z) : (a.binOp conc op b).Mem z :=
  (binOp_spec conc a b op ha hb hwid (hconc op) hx hy).1 z hz

/-- **C02-binop (well-formedness).** The result of a binary operation is well-formed (bounds ordered and
in range, stride 0 exactly for singletons and dividing the length, hints in range) and has the width
`bin_op_bytesize` prescribes. -/
theorem binOp_wf (conc : BinOp → Int → Int → Option Int) (a b : IntervalDomain) (op : BinOp)
    (ha : a.WF) (hb : b.WF) (hw1 : 1 < a.interval.w) (hwid : BinWidths op a.interval.w b.interval.w)
    (hconc : ConcInRange conc a.interval.w b.interval.w) :
    (a.binOp conc op b).WF ∧ (a.binOp conc op b).interval.w = binOpWidth op a.interval.w b.interval.w :=
  (binOp_spec conc a b op ha hb hwid (hconc op) (a.interval.start_mem ha.interval.start_le_stop)
    (b.interval.start_mem hb.interval.start_le_stop)).2

theorem cneg_inRange (w : Nat) (hw : 0 < w) (x : Int) : InRange w (cneg w x) := wrap_inRange w hw _

/-- **C02-unop (soundness).** -/
theorem unOp_sound (a : IntervalDomain) (op : UnOp) (ha : a.WF) {x z : Int} (hx : a.Mem x)
    (hz : concUn op a.interval.w x = some z) : (a.unOp op).Mem z := by
  cases op with
  | intNegate => cases hz; exact bitwiseNot_sound a.interval ha.interval hx
  | int2Comp => cases hz; exact int2Comp_sound a.interval ha.interval hx
  | boolNegate =>
    dsimp only [concUn] at hz
    by_cases hw8 : a.interval.w = 8
    · rw [if_pos hw8] at hz
      -- the operand is a boolean and `z` its negation
      have hxz : (x = 0 ∧ z = 1) ∨ (x = 1 ∧ z = 0) := by
        split at hz
        · exact .inl ⟨‹_›, (Option.some.inj hz).symm⟩
        · split at hz
          · exact .inr ⟨‹_›, (Option.some.inj hz).symm⟩
          · cases hz
      unfold IntervalDomain.unOp
      simp only
      split
      · rename_i hs
        rw [← mem_eq_start hx hs]
        rcases hxz with ⟨rfl, rfl⟩ | ⟨rfl, rfl⟩
        · rw [if_pos ⟨rfl, hw8⟩]; exact (Interval.mem_single _ _ _).mpr rfl
        · rw [if_neg fun h => absurd h.1 (by decide)]; exact (Interval.mem_single _ _ _).mpr rfl
      · apply (Interval.mem_newTop _ _).mpr
        show InRange a.interval.w z
        rw [hw8]
        rcases hxz with ⟨_, rfl⟩ | ⟨_, rfl⟩ <;> decide
    · rw [if_neg hw8] at hz; cases hz
  | _ => cases hz

/-- **C02-unop (well-formedness).** -/
theorem unOp_wf (a : IntervalDomain) (op : UnOp) (ha : a.WF) (hw1 : 1 < a.interval.w) :
    (a.unOp op).WF := by
  have htop : ∀ w, 1 < w → (IntervalDomain.newTop w).WF := fun w h => ofInterval_wf (Interval.wf_newTop w (Nat.lt_trans Nat.zero_lt_one h))
  cases op with
  | intNegate => exact dom_wf_mk (bitwiseNot_wf a.interval ha.interval hw1).1 none_inRange none_inRange ha.delay_lt
  | int2Comp =>
    have hI := int2Comp_wf a.interval ha.interval hw1
    have hr : ∀ x, InRange a.interval.int2Comp.w (cneg a.w x) := fun x => by
      rw [hI.2]; exact cneg_inRange _ ha.interval.w_pos x
    refine dom_wf_mk hI.1 (fun v hv => ?_) (map_inRange _ _ hr) ha.delay_lt
    split at hv
    · exact ite_some_inRange (hr _) hv
    · cases hv
  | boolNegate =>
    unfold IntervalDomain.unOp
    simp only
    split
    · split
      · exact ofInterval_wf (Interval.wf_single 8 (by decide) 1 (by decide))
      · exact ofInterval_wf (Interval.wf_single 8 (by decide) 0 (by decide))
    · exact htop _ hw1
  | floatNaN => exact htop 8 (by decide)
  | _ => exact htop _ hw1

theorem zeroExtend_dom_interval (a : IntervalDomain) (w' : Nat) :
    (a.zeroExtend w').interval = a.interval.zeroExtend w' := rfl

/-- **C02-cast (soundness).** `w'` is the result width; extensions require `a.w ≤ w'`; the count casts
ask nothing of the operand width (repaired: `Top` if the bit length does not fit the result). -/
theorem cast_sound (a : IntervalDomain) (op : CastOp) (w' : Nat) (ha : a.WF) (hw' : 1 < w')
    (hext : (op = .intZExt ∨ op = .intSExt) → a.interval.w ≤ w')
    {x z : Int} (hx : a.Mem x) (hz : concCast op a.interval.w w' x = some z) : (a.cast op w').Mem z := by
  cases op with
  | intZExt =>
    cases hz
    unfold IntervalDomain.cast
    simp only
    split
    · rename_i heq
      rw [← show a.interval.w = w' from heq, czext_self ha.interval.w_pos (Interval.mem_inRange ha.interval hx)]; exact hx
    · exact zeroExtend_sound a.interval ha.interval w' (hext (.inl rfl)) hx
  | intSExt => cases hz; exact signExtend_sound a.interval ha.interval w' (hext (.inr rfl)) hx
  | popCount => cases hz; exact popCount_sound a ha w' hw' hx
  | lzCount => cases hz; exact lzCount_sound a ha w' hw' hx
  | _ => cases hz

theorem czext_inRange (w w' : Nat) (h : 0 < w') (x : Int) : InRange w' (czext w w' x) := wrap_inRange _ h _
theorem csext_inRange (w w' : Nat) (h : 0 < w') (x : Int) : InRange w' (csext w w' x) := wrap_inRange _ h _

/-- **C02-cast (well-formedness).** -/
theorem cast_wf (a : IntervalDomain) (op : CastOp) (w' : Nat) (ha : a.WF) (hw' : 1 < w')
    (hext : (op = .intZExt ∨ op = .intSExt) → a.interval.w ≤ w') :
    (a.cast op w').WF ∧ (a.cast op w').interval.w = w' := by
  have hw0' : 0 < w' := by omega
  cases op with
  | intZExt =>
    unfold IntervalDomain.cast
    simp only
    split
    · rename_i heq; exact ⟨ha, heq⟩
    · obtain ⟨hI, hwI⟩ := zeroExtend_wf a.interval ha.interval w' (hext (.inl rfl))
      have hr : ∀ x, InRange (a.interval.zeroExtend w').w (czext a.interval.w w' x) := fun x => by
        rw [hwI]; exact czext_inRange _ _ hw0' x
      refine ⟨dom_wf_mk hI ?_ ?_ ha.delay_lt, hwI⟩ <;> intro v hv <;> split at hv
      · exact ite_some_inRange (hr _) hv
      · cases hv
      · exact ite_some_inRange (hr _) hv
      · cases hv
  | intSExt =>
    obtain ⟨hI, hwI⟩ := signExtend_wf a.interval ha.interval w' (hext (.inr rfl))
    exact ⟨dom_wf_mk hI (map_inRange _ _ (csext_inRange _ _ hw0')) (map_inRange _ _ (csext_inRange _ _ hw0'))
      ha.delay_lt, hwI⟩
  | popCount => exact popCount_wf a ha w' hw'
  | lzCount => exact lzCount_wf a ha w' hw'
  | _ => exact ⟨ofInterval_wf (Interval.wf_newTop w' hw0'), rfl⟩

theorem csubpiece_inRange (w low size : Nat) (h : 0 < size) (x : Int) : InRange size (csubpiece w low size x) :=
  wrap_inRange _ h _

theorem subpieceHigher_dom_wf (a : IntervalDomain) (low : Nat) (ha : a.WF) (hI : (a.interval.subpieceHigher low).WF)
    (hwI : (a.interval.subpieceHigher low).w = a.interval.w - low) : (a.subpieceHigher low).WF := by
  have hr : ∀ x, InRange (a.interval.subpieceHigher low).w (csubpiece a.interval.w low (a.interval.w - low) x) :=
    fun x => by rw [hwI]; exact csubpiece_inRange _ _ _ (hwI ▸ hI.w_pos) x
  refine dom_wf_mk hI ?_ ?_ (Nat.lt_of_le_of_lt (Nat.shiftRight_le _ _) ha.delay_lt) <;> intro v hv <;> split at hv
  · exact ite_some_inRange (hr _) hv
  · cases hv
  · exact ite_some_inRange (hr _) hv
  · cases hv

theorem subpieceLower_dom_wf (a : IntervalDomain) (size : Nat) (ha : a.WF) (hI : (a.interval.subpieceLower size).WF)
    (hwI : (a.interval.subpieceLower size).w = size) : (a.subpieceLower size).WF := by
  have hr : ∀ x, InRange (a.interval.subpieceLower size).w (csubpiece a.interval.w 0 size x) :=
    fun x => by rw [hwI]; exact csubpiece_inRange _ _ _ (hwI ▸ hI.w_pos) x
  refine dom_wf_mk hI ?_ ?_ ha.delay_lt <;> intro v hv <;> split at hv
  · split at hv
    · exact ite_some_inRange (hr _) hv
    · cases hv
  · cases hv
  · split at hv
    · exact ite_some_inRange (hr _) hv
    · cases hv
  · cases hv

/-- the two stages of `subpiece` on the domain value run on the interval exactly as `Interval::subpiece` does, and
each keeps the value well-formed -/
theorem subpiece_dom (a : IntervalDomain) (low size : Nat) (ha : a.WF) (hs0 : 0 < size)
    (hs : low + size ≤ a.interval.w) :
    (a.subpiece low size).interval = a.interval.subpiece low size ∧ (a.subpiece low size).WF := by
  -- the second stage, on any well-formed value `c` the first stage may leave
  have lower : ∀ c : IntervalDomain, c.WF →
      (if c.interval.w > size then c.subpieceLower size else c).interval =
        (if c.interval.w > size then c.interval.subpieceLower size else c.interval) ∧
      (if c.interval.w > size then c.subpieceLower size else c).WF := fun c hc => by
    by_cases h : c.interval.w > size
    · obtain ⟨_, h2, h3⟩ := subpieceLower_spec c.interval hc.interval size hs0
        (Interval.start_mem c.interval hc.interval.start_le_stop)
      rw [if_pos h, if_pos h]
      exact ⟨rfl, subpieceLower_dom_wf c size hc h2 h3⟩
    · rw [if_neg h, if_neg h]
      exact ⟨rfl, hc⟩
  unfold IntervalDomain.subpiece Interval.subpiece
  by_cases hl : low = 0
  · simp only [ne_eq, hl, not_true_eq_false, if_false]
    exact lower a ha
  · simp only [ne_eq, hl, not_false_eq_true, if_true]
    obtain ⟨_, h2, h3⟩ := subpieceHigher_spec a.interval ha.interval low (by omega)
      (Interval.start_mem a.interval ha.interval.start_le_stop)
    exact lower _ (subpieceHigher_dom_wf a low ha h2 h3)

/-- **C02-subpiece (soundness).** `low` bits are dropped and `size` bits kept (`low + size ≤ w`). -/
theorem subpiece_sound (a : IntervalDomain) (low size : Nat) (ha : a.WF) (hs0 : 1 < size)
    (hs : low + size ≤ a.interval.w) {x : Int} (hx : a.Mem x) :
    (a.subpiece low size).Mem (csubpiece a.interval.w low size x) := by
  show ((a.subpiece low size).interval).Mem _
  rw [(subpiece_dom a low size ha (Nat.lt_trans Nat.zero_lt_one hs0) hs).1]
  exact (subpiece_spec a.interval ha.interval low size hs0 hs hx).1

/-- **C02-subpiece (well-formedness).** -/
theorem subpiece_wf (a : IntervalDomain) (low size : Nat) (ha : a.WF) (hs0 : 1 < size)
    (hs : low + size ≤ a.interval.w) :
    (a.subpiece low size).WF ∧ (a.subpiece low size).interval.w = size := by
  obtain ⟨e, hwf⟩ := subpiece_dom a low size ha (Nat.lt_trans Nat.zero_lt_one hs0) hs
  exact ⟨hwf, e ▸ (subpiece_spec a.interval ha.interval low size hs0 hs
    (Interval.start_mem a.interval ha.interval.start_le_stop)).2.2⟩

/-! ### the reference semantics on signed values is core's `BitVec` arithmetic -/

theorem cadd_toInt {w : Nat} (x y : BitVec w) : cadd w x.toInt y.toInt = (x + y).toInt :=
  (BitVec.toInt_add x y).symm
theorem csub_toInt {w : Nat} (x y : BitVec w) : csub w x.toInt y.toInt = (x - y).toInt :=
  (BitVec.toInt_sub (x := x) (y := y)).symm
theorem cmul_toInt {w : Nat} (x y : BitVec w) : cmul w x.toInt y.toInt = (x * y).toInt :=
  (BitVec.toInt_mul x y).symm
theorem cneg_toInt {w : Nat} (x : BitVec w) : cneg w x.toInt = (-x).toInt :=
  (BitVec.toInt_neg (x := x)).symm

/-- **C02-bitvec-add.** Soundness of `Interval::add` with the members given as `BitVec w`. -/
theorem add_sound_bitvec {w : Nat} (I J : Interval) (hI : I.WF) (hJ : J.WF) (hwI : I.w = w) (hwJ : J.w = w)
    (x y : BitVec w) (hx : I.Mem x.toInt) (hy : J.Mem y.toInt) : (I.add J).Mem (x + y).toInt := by
  subst hwI
  rw [← cadd_toInt]
  exact add_sound I J hI hJ hwJ hx hy

/-! ### non-vacuity: the hypotheses are satisfiable on concrete non-trivial values -/

/-- `[-3, stride 2, 5]` (1 byte) with a lower hint -/
def exA : IntervalDomain := ⟨⟨8, -3, 5, 2⟩, none, some (-7), 3⟩
/-- `[10, stride 5, 30]` (1 byte) with an upper hint -/
def exB : IntervalDomain := ⟨⟨8, 10, 30, 5⟩, some 40, none, 0⟩

theorem exA_wf : exA.WF :=
  dom_wf_mk (by decide) (by intro u h; cases h) (by intro l h; cases h; decide) (by decide)
theorem exB_wf : exB.WF :=
  dom_wf_mk (by decide) (by intro u h; cases h; decide) (by intro l h; cases h) (by decide)

example : (exA.binOp (fun _ _ _ => none) .intAdd exB).Mem (cadd 8 3 25) :=
  binOp_sound (fun _ _ _ => none) exA exB .intAdd exA_wf exB_wf (by decide) rfl
    (by intro op x y v h; cases h) (x := 3) (y := 25) (by decide) (by decide) rfl

example : (exA.binOp (fun _ _ _ => none) .intMult exB).Mem (cmul 8 (-3) 30) :=
  binOp_sound (fun _ _ _ => none) exA exB .intMult exA_wf exB_wf (by decide) rfl
    (by intro op x y v h; cases h) (x := -3) (y := 30) (by decide) (by decide) rfl

example : exA.binOp (fun _ _ _ => none) .intAdd exB = ⟨⟨8, 7, 35, 1⟩, some 45, some 3, 3⟩ := by decide
example : (exA.cast .intZExt 16).Mem (czext 8 16 (-1)) :=
  cast_sound exA .intZExt 16 exA_wf (by decide) (by intro _; decide) (x := -1) (by decide) rfl

end CweModel.C02
