/-
C02 — arithmetic shared by the operation files: congruences modulo powers of two, `wrap` as a
translation on ranges it does not tear apart, bounds on `bitLen`, and the shapes in which results are put
together (`Top`; a constant; the same stride after a translation; stride `0` exactly for a singleton).
-/
import CweModel.C02.Model

namespace CweModel.C02
open CweModel.Itv

theorem pow2_nat (a : Nat) : ((2 ^ a : Nat) : Int) = pow2 a := rfl

theorem pow2_dvd_pow2 {a b : Nat} (h : a ≤ b) : pow2 a ∣ pow2 b := by
  obtain ⟨c, rfl⟩ : ∃ c, b = a + c := ⟨b - a, by omega⟩
  rw [pow2_add]; exact Int.dvd_mul_right _ _

theorem pow2_dvd_of_lt {t w : Nat} (h : pow2 t < pow2 w) : pow2 t ∣ pow2 w := by
  apply pow2_dvd_pow2
  by_cases hle : t ≤ w
  · exact hle
  · have := pow2_le_pow2 (show w ≤ t by omega); omega

theorem eq_zero_of_dvd_of_lt {P t : Int} (hP : 0 < P) (h : P ∣ t) (h1 : -P < t) (h2 : t < P) : t = 0 :=
  Int.eq_zero_of_dvd_of_natAbs_lt_natAbs h (by omega)

theorem wrap_dvd (n : Nat) (x : Int) : pow2 n ∣ wrap n x - x := Int.dvd_bmod_sub_self

theorem wrap_congr (s : Nat) (hs : 0 < s) {a b : Int} (h : pow2 s ∣ a - b) : wrap s a = wrap s b := by
  obtain ⟨k, hk⟩ := h
  obtain ⟨hr, k', hk'⟩ := wrap_spec s hs b
  exact wrap_eq s hs (k - k') hr (by rw [hk', Int.sub_mul, Int.mul_comm k]; omega)

theorem inRange_mono {w w' : Nat} (h : w ≤ w') {x : Int} (hx : InRange w x) : InRange w' x := by
  have := pow2_le_pow2 (show w - 1 ≤ w' - 1 by omega)
  unfold InRange smin smax at *; omega

theorem inRange_zero (w : Nat) : InRange w 0 := by
  have := pow2_pos (w - 1); unfold InRange smin smax; omega

theorem inRange_neg_one (w : Nat) : InRange w (-1) := by
  have := pow2_pos (w - 1); unfold InRange smin smax; omega

theorem one_lt_pow2 {w : Nat} (hw : 0 < w) : 1 < pow2 w := by
  have := pow2_eq w hw; have := pow2_pos (w - 1); omega

theorem gcd_dvd_left_int (s t : Nat) {a : Int} (h : (s : Int) ∣ a) : ((Nat.gcd s t : Nat) : Int) ∣ a :=
  Int.dvd_trans (Int.natCast_dvd_natCast.mpr (Nat.gcd_dvd_left s t)) h

theorem gcd_dvd_right_int (s t : Nat) {a : Int} (h : (t : Int) ∣ a) : ((Nat.gcd s t : Nat) : Int) ∣ a :=
  Int.dvd_trans (Int.natCast_dvd_natCast.mpr (Nat.gcd_dvd_right s t)) h

theorem gcd_lt (s t : Nat) (hs : s < 2 ^ 64) (ht : t < 2 ^ 64) : Nat.gcd s t < 2 ^ 64 := by
  rcases Nat.eq_zero_or_pos s with h | h
  · subst h; simpa using ht
  · exact Nat.lt_of_le_of_lt (Nat.gcd_le_left t h) hs

theorem wrap_sub_wrap (n : Nat) (hn : 0 < n) {s e x : Int} (h1 : s ≤ x) (h2 : x ≤ e) (hlen : e - s < pow2 n)
    (hse : wrap n s ≤ wrap n e) : wrap n x - wrap n s = x - s ∧ wrap n e - wrap n s = e - s := by
  have hP2 := pow2_eq n hn
  obtain ⟨rs, ks, hks⟩ := wrap_spec n hn s
  obtain ⟨re, ke, hke⟩ := wrap_spec n hn e
  unfold InRange smin smax at rs re
  have he : wrap n e - wrap n s - (e - s) = 0 :=
    eq_zero_of_dvd_of_lt (pow2_pos n) ⟨ke - ks, by rw [Int.mul_comm, Int.sub_mul]; omega⟩ (by omega) (by omega)
  have hx : wrap n x = x + ks * pow2 n :=
    wrap_eq n hn (-ks) (by unfold InRange smin smax; omega) (by rw [Int.neg_mul]; omega)
  omega

/-- `bitLen` counts binary digits: the one fact about it -/
theorem bitLen_le_iff (fuel : Nat) {n k : Nat} (h : n < 2 ^ fuel) : bitLen fuel n ≤ k ↔ n < 2 ^ k := by
  induction fuel generalizing n k with
  | zero =>
    obtain rfl : n = 0 := by simpa using h
    exact ⟨fun _ => Nat.two_pow_pos k, fun _ => Nat.zero_le k⟩
  | succ f ih =>
    unfold bitLen
    split
    · next hn => subst hn; exact ⟨fun _ => Nat.two_pow_pos k, fun _ => Nat.zero_le k⟩
    · next hn =>
      cases k with
      | zero => exact ⟨fun h0 => absurd h0 (by omega), fun h1 => absurd h1 (by simp; omega)⟩
      | succ k =>
        have := ih (n := n / 2) (k := k) (Nat.div_lt_of_lt_mul (Nat.pow_succ' ▸ h))
        rw [Nat.pow_succ, Nat.add_comm 1, Nat.succ_le_succ_iff, this, Nat.div_lt_iff_lt_mul (by decide)]

/-- the same for the number of leading zeros `w - bitLen w n` of a `w`-bit number -/
theorem le_sub_bitLen_iff (w : Nat) {n k : Nat} (hn : n < 2 ^ w) (hk : k ≤ w) :
    k ≤ w - bitLen w n ↔ n < 2 ^ (w - k) := by
  have := (bitLen_le_iff w hn).mpr hn
  rw [← bitLen_le_iff w hn]; omega

theorem mem_eq_start {I : Interval} {x : Int} (hx : I.Mem x) (h : I.start = I.stop) : x = I.start :=
  Int.le_antisymm (h ▸ hx.2.1) hx.1

theorem newTop_spec {w : Nat} (hw : 0 < w) {z : Int} (hz : InRange w z) :
    (Interval.newTop w).Mem z ∧ (Interval.newTop w).WF ∧ (Interval.newTop w).w = w :=
  ⟨(Interval.mem_newTop w z).mpr hz, Interval.wf_newTop w hw, rfl⟩

theorem single_spec {w : Nat} (hw : 0 < w) {z : Int} (hz : InRange w z) :
    (Interval.single w z).Mem z ∧ (Interval.single w z).WF ∧ (Interval.single w z).w = w :=
  ⟨(Interval.mem_single w z z).mpr rfl, Interval.wf_single w hw z hz, rfl⟩

theorem translate_spec {I : Interval} (hI : I.WF) {x : Int} (hx : I.Mem x) {w' : Nat} {s' e' x' : Int}
    (hw' : 0 < w') (hs' : InRange w' s') (he' : InRange w' e') (hxs : x' - s' = x - I.start)
    (hes : e' - s' = I.stop - I.start) :
    ({ w := w', start := s', stop := e', stride := I.stride } : Interval).Mem x' ∧
    ({ w := w', start := s', stop := e', stride := I.stride } : Interval).WF := by
  obtain ⟨_, _, _, hle, h0, hd, hu⟩ := hI
  obtain ⟨hx1, hx2, hx3⟩ := hx
  have hb : s' ≤ x' ∧ x' ≤ e' := by omega
  refine ⟨⟨hb.1, hb.2, by show _ ∣ x' - s'; rw [hxs]; exact hx3⟩,
    hw', hs', he', Int.le_trans hb.1 hb.2, ?_, by show _ ∣ e' - s'; rw [hes]; exact hd, hu⟩
  show I.stride = 0 ↔ s' = e'
  rw [h0]; omega

theorem iteStride_spec {w : Nat} {s e x : Int} {st : Nat} (hw : 0 < w) (hs : InRange w s) (he : InRange w e)
    (hx1 : s ≤ x) (hx2 : x ≤ e) (hst : 0 < st) (hu : st < 2 ^ 64) (hdx : (st : Int) ∣ x - s)
    (hde : (st : Int) ∣ e - s) :
    ({ w := w, start := s, stop := e, stride := if s = e then 0 else st } : Interval).Mem x ∧
    ({ w := w, start := s, stop := e, stride := if s = e then 0 else st } : Interval).WF :=
  ⟨Interval.mem_ifStride.mpr ⟨hx1, hx2, hdx⟩, Interval.wf_ifStride hw hs he (Int.le_trans hx1 hx2) hst hu hde⟩

theorem unitStride_spec {w : Nat} {s e x : Int} (hw : 0 < w) (hs : InRange w s) (he : InRange w e)
    (hx1 : s ≤ x) (hx2 : x ≤ e) (hse : s ≠ e) :
    ({ w := w, start := s, stop := e, stride := 1 } : Interval).Mem x ∧
    ({ w := w, start := s, stop := e, stride := 1 } : Interval).WF := by
  have := iteStride_spec (st := 1) hw hs he hx1 hx2 (by decide) (by decide) (Int.one_dvd _) (Int.one_dvd _)
  rwa [if_neg hse] at this

end CweModel.C02
