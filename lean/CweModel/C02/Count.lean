/-
C02 — `Interval::contains` decides the concretisation, and the count casts `cast(PopCount)` /
`cast(LzCount)` of `IntervalDomain` (interval.rs, `impl RegisterDomain`) are sound and well-formed.
-/
import CweModel.C02.Ext

namespace CweModel.C02
open CweModel.Itv

/-- away from the shortcut `start == bitvec`, `Interval::contains` decides `γ` -/
theorem contains_of_ne (I : Interval) (hw0 : 0 < I.w) (hw : I.w ≤ 64) (hs : InRange I.w I.start)
    {x : Int} (hx : InRange I.w x) (hsx : I.start ≠ x) : I.contains x = true ↔ I.Mem x := by
  unfold Interval.contains Interval.Mem
  rw [if_neg hsx]
  by_cases h1 : I.start ≤ x
  · by_cases h2 : x ≤ I.stop
    · -- the distance from `start` is read back unchanged and fits a `u64`
      rw [tryToU64_diff hw0 hw hs hx h1]
      simp only [h1, h2, decide_true, Bool.true_and, true_and, Bool.and_eq_true, decide_eq_true_eq]
      rw [← Nat.dvd_iff_mod_eq_zero, ← Int.natCast_dvd_natCast, Int.toNat_of_nonneg (Int.sub_nonneg_of_le h1)]
      exact ⟨fun h => h.2, fun h => ⟨Nat.pos_of_ne_zero fun h0 => by
        rw [h0] at h; have := Int.zero_dvd.mp h; omega, h⟩⟩
    · simp [h2]
  · simp [h1]

/-- **C02-contains-raw.** Without any assumption on the order of the bounds: `Interval::contains`
answers `true` exactly for `start` itself (the shortcut `self.start == *bitvec`) and for the members. -/
theorem contains_iff (I : Interval) (hw0 : 0 < I.w) (hw : I.w ≤ 64) (hs : InRange I.w I.start)
    {x : Int} (hx : InRange I.w x) : I.contains x = true ↔ x = I.start ∨ I.Mem x := by
  by_cases hsx : I.start = x
  · have : I.contains x = true := by unfold Interval.contains; rw [if_pos hsx]
    simp [this, hsx]
  · rw [contains_of_ne I hw0 hw hs hx hsx]
    constructor
    · exact Or.inr
    · rintro (h | h)
      · exact absurd h.symm hsx
      · exact h

/-- **C02-contains.** `Interval::contains` decides `γ` for intervals of at most 64 bit with
`start ≤ end` (part of `Interval.WF`; no other part of well-formedness is needed). The hypothesis
`hse` cannot be dropped: for `start > end` the shortcut `self.start == *bitvec` answers `true` for
`x = start` although `γ` is empty (see the `example` below). -/
theorem contains_iff_mem (I : Interval) (hw0 : 0 < I.w) (hw : I.w ≤ 64) (hs : InRange I.w I.start)
    (hse : I.start ≤ I.stop) {x : Int} (hx : InRange I.w x) : I.contains x = true ↔ I.Mem x := by
  rw [contains_iff I hw0 hw hs hx]
  constructor
  · rintro (h | h)
    · subst h; exact Interval.start_mem I hse
    · exact h
  · exact Or.inr

example : let I : Interval := { w := 8, start := -3, stop := 5, stride := 2 }
    (I.contains 3 = true ↔ I.Mem 3) ∧ I.contains 3 = true ∧ I.contains 4 = false ∧ ¬ I.Mem 4 :=
  ⟨contains_iff_mem _ (by decide) (by decide) (by decide) (by decide) (by decide), by decide, by decide, by decide⟩

/-- `start ≤ end` is needed in `contains_iff_mem` -/
example : let I : Interval := { w := 8, start := 5, stop := 3, stride := 1 }
    I.contains 5 = true ∧ ¬ I.Mem 5 := by decide

theorem popCountNat_le (fuel n : Nat) : popCountNat fuel n ≤ fuel := by
  induction fuel generalizing n with
  | zero => simp [popCountNat]
  | succ f ih =>
    unfold popCountNat
    have := ih (n / 2)
    have := Nat.mod_lt n (show 0 < 2 by decide)
    omega

theorem toU_lt_nat (w : Nat) (x : Int) : toU w x < 2 ^ w := by
  have := toU_lt w x; unfold pow2 at this; omega

theorem leadingZeros_le (w : Nat) (x : Int) : leadingZeros w x ≤ w := Nat.sub_le _ _

theorem le_leadingZeros_iff (w : Nat) (x : Int) {k : Nat} (hk : k ≤ w) :
    k ≤ leadingZeros w x ↔ toU w x < 2 ^ (w - k) := le_sub_bitLen_iff w (toU_lt_nat w x) hk

theorem leadingZeros_anti (w : Nat) {x y : Int} (h : toU w x ≤ toU w y) :
    leadingZeros w y ≤ leadingZeros w x :=
  (le_leadingZeros_iff w x (leadingZeros_le w y)).mpr
    (Nat.lt_of_le_of_lt h ((le_leadingZeros_iff w y (leadingZeros_le w y)).mp (Nat.le_refl _)))

theorem toU_lt_half_iff (w : Nat) (hw : 0 < w) {x : Int} (hx : InRange w x) : toU w x < 2 ^ (w - 1) ↔ 0 ≤ x := by
  have hU := toU_of_inRange w hw hx
  have h2 := pow2_eq w hw
  have hp : ((2 ^ (w - 1) : Nat) : Int) = pow2 (w - 1) := rfl
  unfold InRange smin smax at hx
  split at hU <;> omega

theorem leadingZeros_neg (w : Nat) (hw : 0 < w) {x : Int} (hx : InRange w x) (hn : x < 0) :
    leadingZeros w x = 0 :=
  Nat.eq_zero_of_not_pos fun h =>
    Int.not_lt.mpr ((toU_lt_half_iff w hw hx).mp ((le_leadingZeros_iff w x hw).mp h)) hn

theorem leadingZeros_nonneg (w : Nat) (hw : 0 < w) {x : Int} (hx : InRange w x) (hn : 0 ≤ x) :
    1 ≤ leadingZeros w x :=
  (le_leadingZeros_iff w x hw).mpr ((toU_lt_half_iff w hw hx).mpr hn)

theorem new_of_ne (w : Nat) {s e : Int} (h : s ≠ e) :
    Interval.new w s e 1 = { w := w, start := s, stop := e, stride := 1 } := by
  unfold Interval.new Interval.adjustEnd
  rw [if_neg (show ¬ (1:Nat) = 0 by decide), if_pos ⟨rfl, h⟩]

theorem new_self (w : Nat) (hw : 0 < w) {s : Int} (hs : InRange w s) :
    Interval.new w s s 1 = Interval.single w s := by
  unfold Interval.new Interval.adjustEnd
  rw [if_neg (show ¬ (1:Nat) = 0 by decide), if_neg (by simp)]
  unfold Interval.adjustDiff
  split
  · rename_i d hd
    split at hd
    · injection hd with hd
      subst hd
      simp [Interval.single, Nat.mod_one, fromU64, wrap_of_inRange w hw hs, wrap_of_inRange w hw (inRange_zero w)]
    · cases hd
  · simp [Interval.single, Interval.setStrideToUnknown]

theorem new_spec (w : Nat) (hw : 0 < w) {s e : Int} (hs : InRange w s) (he : InRange w e) (hse : s ≤ e) :
    (Interval.new w s e 1).WF ∧ (Interval.new w s e 1).w = w ∧
    ∀ z, s ≤ z → z ≤ e → (Interval.new w s e 1).Mem z := by
  by_cases h : s = e
  · subst h
    rw [new_self w hw hs]
    exact ⟨Interval.wf_single w hw s hs, rfl, fun z h1 h2 => (Interval.mem_single _ _ _).mpr (Int.le_antisymm h2 h1)⟩
  · rw [new_of_ne w h]
    exact ⟨(unitStride_spec hw hs he (Int.le_refl s) hse h).2, rfl, fun z h1 h2 => (unitStride_spec hw hs he h1 h2 h).1⟩

theorem ofInterval_wf {I : Interval} (h : I.WF) : (IntervalDomain.ofInterval I).WF :=
  ⟨h, fun u hu => (by cases hu), fun l hl => (by cases hl), show 0 < 2 ^ 64 by decide⟩

theorem inRange_nat_of_le {w' : Nat} {n w : Nat} (hn : n ≤ w) (hfit : (w : Int) ≤ smax w') :
    InRange w' (n : Int) := by
  have := pow2_pos (w' - 1)
  unfold InRange smin; unfold smax at *; omega

theorem wrap_nat_of_le {w' : Nat} (hw' : 0 < w') {n w : Nat} (hn : n ≤ w) (hfit : (w : Int) ≤ smax w') :
    wrap w' (n : Int) = n := wrap_of_inRange w' hw' (inRange_nat_of_le hn hfit)

theorem countRange_spec (w w' : Nat) (hw' : 0 < w') (hfit : (w : Int) ≤ smax w') :
    (IntervalDomain.countRange w w').WF ∧ (IntervalDomain.countRange w w').w = w' ∧
    ∀ n : Nat, n ≤ w → (IntervalDomain.countRange w w').Mem (wrap w' (n : Int)) := by
  unfold IntervalDomain.countRange IntervalDomain.new
  rw [wrap_nat_of_le hw' (Nat.le_refl w) hfit]
  obtain ⟨h1, h2, h3⟩ := new_spec w' hw' (inRange_nat_of_le (Nat.zero_le w) hfit)
    (inRange_nat_of_le (Nat.le_refl w) hfit) (show ((0 : Nat) : Int) ≤ (w : Int) by omega)
  refine ⟨ofInterval_wf h1, h2, ?_⟩
  intro n hn
  rw [wrap_nat_of_le hw' hn hfit]
  exact h3 _ (by omega) (by omega)

theorem countFits_iff (w w' : Nat) : IntervalDomain.countFits w w' = true ↔ (w : Int) ≤ smax w' := by
  simp only [IntervalDomain.countFits, decide_eq_true_eq]

/-- the guard is what the Rust code computes on `usize` values:
`!(w' <= 64 && w >> (w' - 1) != 0)` -/
theorem countFits_eq_rust (w w' : Nat) (hw : w < 2 ^ 64) :
    IntervalDomain.countFits w w' = !(decide (w' ≤ 64) && (w >>> (w' - 1) != 0)) := by
  have hpow : (pow2 (w' - 1) : Int) = ((2 ^ (w' - 1) : Nat) : Int) := rfl
  have hp := Nat.two_pow_pos (w' - 1)
  rw [Bool.eq_iff_iff, countFits_iff]
  simp only [Bool.not_eq_true', Bool.and_eq_false_iff, decide_eq_false_iff_not, bne_eq_false_iff_eq,
    Nat.shiftRight_eq_div_pow]
  unfold smax
  rw [hpow]
  constructor
  · intro h
    right
    exact Nat.div_eq_of_lt (by omega)
  · rintro (h | h)
    · have : 2 ^ 64 ≤ 2 ^ (w' - 1) := Nat.pow_le_pow_right (by decide) (by omega)
      omega
    · have := (Nat.div_eq_zero_iff_lt hp).mp h
      omega

theorem countGuard_false (a : IntervalDomain) (w' : Nat)
    (h : a.interval.start = a.interval.stop ∨ (a.w : Int) ≤ smax w') :
    (a.tryToBitvec.isNone && !IntervalDomain.countFits a.w w') = false := by
  rcases h with h | h
  · have ht : a.tryToBitvec = some a.interval.start := if_pos h
    simp [ht]
  · simp [(countFits_iff a.w w').mpr h]

theorem countGuard_true (a : IntervalDomain) (w' : Nat)
    (h1 : ¬ a.interval.start = a.interval.stop) (h2 : ¬ (a.w : Int) ≤ smax w') :
    (a.tryToBitvec.isNone && !IntervalDomain.countFits a.w w') = true := by
  have ht : a.tryToBitvec = none := if_neg h1
  have hf : IntervalDomain.countFits a.w w' = false := by
    rw [Bool.eq_false_iff]; intro h; exact h2 ((countFits_iff a.w w').mp h)
  simp [ht, hf]

theorem newTop_dom_spec (w' : Nat) (hw0 : 0 < w') :
    (IntervalDomain.newTop w').WF ∧ (IntervalDomain.newTop w').w = w' ∧
    ∀ z, InRange w' z → (IntervalDomain.newTop w').Mem z :=
  ⟨ofInterval_wf (Interval.wf_newTop w' hw0), rfl, fun _ hz => (Interval.mem_newTop _ _).mpr hz⟩

theorem popCount_spec (a : IntervalDomain) (w' : Nat) (hw0 : 0 < w') {x : Int} (hx : a.Mem x) :
    (a.cast .popCount w').Mem (cpopcount a.w w' x) ∧ (a.cast .popCount w').WF ∧ (a.cast .popCount w').w = w' := by
  simp only [IntervalDomain.cast]
  by_cases h : a.interval.start = a.interval.stop
  · rw [countGuard_false a w' (.inl h), show a.tryToBitvec = some a.interval.start from if_pos h,
      mem_eq_start hx h]
    exact ⟨(Interval.mem_single _ _ _).mpr rfl,
      ofInterval_wf (Interval.wf_single w' hw0 _ (wrap_inRange w' hw0 _)), rfl⟩
  · have ht : a.tryToBitvec = none := if_neg h
    by_cases hfit : (a.w : Int) ≤ smax w'
    · rw [countGuard_false a w' (.inr hfit), ht]
      have := countRange_spec a.w w' hw0 hfit
      exact ⟨this.2.2 _ (popCountNat_le _ _), this.1, this.2.1⟩
    · rw [countGuard_true a w' h hfit]
      have := newTop_dom_spec w' hw0
      exact ⟨this.2.2 _ (wrap_inRange w' hw0 _), this.1, this.2.1⟩

/-- **C02-popcount.** Soundness of `cast(PopCount)`: the population count of every member of `a`
is a member of the result (no condition relating operand and result width). -/
theorem popCount_sound (a : IntervalDomain) (_ha : a.WF) (w' : Nat) (hw' : 1 < w')
    {x : Int} (hx : a.Mem x) :
    (a.cast .popCount w').Mem (cpopcount a.w w' x) := (popCount_spec a w' (Nat.lt_trans Nat.zero_lt_one hw') hx).1

/-- **C02-popcount-wf.** The result of `cast(PopCount)` is well-formed and has the requested width
(no condition relating operand and result width: a bit length that does not fit the result gives `Top`). -/
theorem popCount_wf (a : IntervalDomain) (ha : a.WF) (w' : Nat) (hw' : 1 < w') :
    (a.cast .popCount w').WF ∧ (a.cast .popCount w').w = w' :=
  (popCount_spec a w' (Nat.lt_trans Nat.zero_lt_one hw') (a.interval.start_mem ha.interval.start_le_stop)).2

/-- `leading_zeros` is antitone on an interval that does not cross zero, and the branch
`lz start ≥ lz stop` of `cast(LzCount)` is not taken for an interval that crosses zero -/
theorem leadingZeros_between (w : Nat) (hw : 0 < w) {s e x : Int} (hs : InRange w s) (he : InRange w e)
    (h1 : s ≤ x) (h2 : x ≤ e) (hge : leadingZeros w e ≤ leadingZeros w s) :
    leadingZeros w e ≤ leadingZeros w x ∧ leadingZeros w x ≤ leadingZeros w s := by
  by_cases hcross : s < 0 ∧ 0 ≤ e
  · have := leadingZeros_neg w hw hs hcross.1
    have := leadingZeros_nonneg w hw he hcross.2
    omega
  · have hx : InRange w x := ⟨Int.le_trans hs.1 h1, Int.le_trans h2 he.2⟩
    exact ⟨leadingZeros_anti w (Int.ofNat_le.mp (toU_le_toU w hw hx he h2
        fun hc => hcross ⟨Int.lt_of_le_of_lt h1 hc.1, hc.2⟩)),
      leadingZeros_anti w (Int.ofNat_le.mp (toU_le_toU w hw hs hx h1
        fun hc => hcross ⟨hc.1, Int.le_trans hc.2 h2⟩))⟩

theorem isTop_single_false (a : IntervalDomain) (ha : a.WF) (h : a.interval.start = a.interval.stop) :
    a.isTop = false := by
  have h0 : a.interval.stride = 0 := ha.1.2.2.2.2.1.mpr h
  simp [IntervalDomain.isTop, Interval.isTop, h0]

theorem lzCount_spec (a : IntervalDomain) (ha : a.WF) (w' : Nat) (hw0 : 0 < w') {x : Int} (hx : a.Mem x) :
    (a.cast .lzCount w').Mem (clzcount a.w w' x) ∧ (a.cast .lzCount w').WF ∧ (a.cast .lzCount w').w = w' := by
  have hnew : ∀ {s e z : Int}, InRange w' s → InRange w' e → s ≤ z → z ≤ e →
      (IntervalDomain.new w' s e).Mem z ∧ (IntervalDomain.new w' s e).WF ∧ (IntervalDomain.new w' s e).w = w' :=
    fun hs he h1 h2 =>
      have := new_spec w' hw0 hs he (Int.le_trans h1 h2)
      ⟨this.2.2 _ h1 h2, ofInterval_wf this.1, this.2.1⟩
  simp only [IntervalDomain.cast]
  by_cases hfit : (a.w : Int) ≤ smax w'
  · have hcr := countRange_spec a.w w' hw0 hfit
    have hcr : _ ∧ _ ∧ _ := ⟨hcr.2.2 _ (leadingZeros_le a.w x), hcr.1, hcr.2.1⟩
    rw [countGuard_false a w' (.inr hfit)]
    simp only [Bool.false_eq_true, if_false]
    split
    · exact hcr
    · split
      · rename_i hge
        have hb := leadingZeros_between a.w ha.interval.w_pos ha.interval.start_inRange ha.interval.stop_inRange hx.1 hx.2.1 hge
        have hr := fun v => inRange_nat_of_le (leadingZeros_le a.w v) hfit
        unfold clzcount
        rw [wrap_of_inRange w' hw0 (hr _), wrap_of_inRange w' hw0 (hr _), wrap_of_inRange w' hw0 (hr _)]
        exact hnew (hr _) (hr _) (Int.ofNat_le.mpr hb.1) (Int.ofNat_le.mpr hb.2)
      · exact hcr
  · by_cases h : a.interval.start = a.interval.stop
    · -- a constant: the exact count (resized like the reference does)
      rw [countGuard_false a w' (.inl h), isTop_single_false a ha h, mem_eq_start hx h]
      simp only [Bool.false_eq_true, if_false]
      rw [← h, if_pos (Nat.le_refl _)]
      exact hnew (wrap_inRange w' hw0 _) (wrap_inRange w' hw0 _) (Int.le_refl _) (Int.le_refl _)
    · rw [countGuard_true a w' h hfit]
      have := newTop_dom_spec w' hw0
      exact ⟨this.2.2 _ (wrap_inRange w' hw0 _), this.1, this.2.1⟩

/-- **C02-lzcount.** Soundness of `cast(LzCount)`: the number of leading zeros of every member of
`a` is a member of the result (no condition relating operand and result width). -/
theorem lzCount_sound (a : IntervalDomain) (ha : a.WF) (w' : Nat) (hw' : 1 < w')
    {x : Int} (hx : a.Mem x) :
    (a.cast .lzCount w').Mem (clzcount a.w w' x) := (lzCount_spec a ha w' (Nat.lt_trans Nat.zero_lt_one hw') hx).1

/-- **C02-lzcount-wf.** The result of `cast(LzCount)` is well-formed and has the requested width
(no condition relating operand and result width). -/
theorem lzCount_wf (a : IntervalDomain) (ha : a.WF) (w' : Nat) (hw' : 1 < w') :
    (a.cast .lzCount w').WF ∧ (a.cast .lzCount w').w = w' :=
  (lzCount_spec a ha w' (Nat.lt_trans Nat.zero_lt_one hw') (a.interval.start_mem ha.interval.start_le_stop)).2

/-- the repaired corner: a non-constant 16-byte operand and a 1-byte result (the bit length 128 is not
an `i8`) give `Top`, a 16-byte constant is still counted exactly (`popcount(-1) = 128 = -128 as i8`) -/
example : let a : IntervalDomain := ⟨{ w := 128, start := 0, stop := 5, stride := 1 }, none, none, 0⟩
    a.cast .popCount 8 = IntervalDomain.newTop 8 ∧ a.cast .lzCount 8 = IntervalDomain.newTop 8 ∧
    (IntervalDomain.single 128 (-1)).cast .popCount 8 = IntervalDomain.single 8 (-128) := by decide +kernel

example : let a : IntervalDomain := ⟨{ w := 8, start := -3, stop := 5, stride := 2 }, none, some (-7), 0⟩
    (a.cast .popCount 8).Mem (cpopcount 8 8 (-1)) ∧ cpopcount 8 8 (-1) = 8 ∧
    (a.cast .lzCount 8).Mem (clzcount 8 8 3) ∧ clzcount 8 8 3 = 6 := by
  intro a
  have ha : a.WF := ⟨by decide, fun u hu => (by cases hu), fun l hl => (by cases hl; decide), by decide⟩
  exact ⟨popCount_sound a ha 8 (by decide) (by decide), by decide,
    lzCount_sound a ha 8 (by decide) (by decide), by decide⟩

end CweModel.C02
