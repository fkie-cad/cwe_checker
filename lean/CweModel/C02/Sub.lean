/-
C02 — `subpiece_higher`, `subpiece_lower`, `subpiece`.
-/
import CweModel.C02.Basic

namespace CweModel.C02
open CweModel.Itv

theorem csubpiece_high (w low : Nat) (hlow : low < w) {x : Int} (hx : InRange w x) :
    csubpiece w low (w - low) x = x / pow2 low ∧ InRange (w - low) (x / pow2 low) := by
  have hw0 : 0 < w := by omega
  have hL := pow2_pos low
  have hsplit : pow2 w = pow2 (w - low) * pow2 low := by
    rw [← pow2_add]; congr 1; omega
  have hsplit1 : pow2 (w - 1) = pow2 (w - low - 1) * pow2 low := by
    rw [← pow2_add]; congr 1; omega
  have hH := pow2_pos (w - low - 1)
  have hH2 := pow2_eq (w - low) (by omega)
  have hin : InRange (w - low) (x / pow2 low) := by
    unfold InRange smin smax at *
    constructor
    · have : -pow2 (w - low - 1) * pow2 low ≤ x := by rw [Int.neg_mul, ← hsplit1]; exact hx.1
      exact Int.le_ediv_of_mul_le hL this
    · have : x < pow2 (w - low - 1) * pow2 low := by rw [← hsplit1]; omega
      have := Int.ediv_lt_of_lt_mul hL this
      omega
  refine ⟨?_, hin⟩
  unfold csubpiece
  rw [Int.natCast_ediv, pow2_nat, toU_of_inRange w hw0 hx]
  split
  · rw [hsplit, Int.add_mul_ediv_right _ _ (by omega)]
    exact wrap_eq (w - low) (by omega) 1 hin (by omega)
  · exact wrap_of_inRange (w - low) (by omega) hin

theorem csubpiece_low (w size : Nat) (hs0 : 0 < size) (hs : size ≤ w) (x : Int) :
    csubpiece w 0 size x = wrap size x := by
  unfold csubpiece
  simp only [Nat.pow_zero, Nat.div_one]
  exact wrap_congr size hs0 (Int.dvd_trans (pow2_dvd_pow2 hs) (toU_congr w x))

theorem subpieceHigher_spec (I : Interval) (hI : I.WF) (low : Nat) (hlow : low < I.w) {x : Int}
    (hx : I.Mem x) :
    (I.subpieceHigher low).Mem (csubpiece I.w low (I.w - low) x) ∧ (I.subpieceHigher low).WF ∧
      (I.subpieceHigher low).w = I.w - low := by
  have hL := pow2_pos low
  obtain ⟨e1, r1⟩ := csubpiece_high I.w low hlow hI.start_inRange
  obtain ⟨e2, r2⟩ := csubpiece_high I.w low hlow hI.stop_inRange
  obtain ⟨e3, _⟩ := csubpiece_high I.w low hlow (Interval.mem_inRange hI hx)
  unfold Interval.subpieceHigher
  simp only [e1, e2, e3]
  have := iteStride_spec (st := 1) (Nat.sub_pos_of_lt hlow) r1 r2 (Int.ediv_le_ediv hL hx.1)
    (Int.ediv_le_ediv hL hx.2.1) (by decide) (by decide) (Int.one_dvd _) (Int.one_dvd _)
  exact ⟨this.1, this.2, trivial⟩

theorem subpieceLower_spec (I : Interval) (hI : I.WF) (size : Nat) (hsz : 0 < size) {x : Int} (hx : I.Mem x) :
    (I.subpieceLower size).Mem (wrap size x) ∧ (I.subpieceLower size).WF ∧ (I.subpieceLower size).w = size := by
  have htop := newTop_spec hsz (wrap_inRange size hsz x)
  unfold Interval.subpieceLower
  simp only
  split
  · rename_i hcond
    split
    · rename_i hse
      -- no wrap-around between the truncated bounds: all members are moved by the same multiple of `2^size`
      obtain ⟨h0, h1⟩ := diff_bounds hI.w_pos hI.start_inRange hI.stop_inRange hI.start_le_stop
      rw [toU_wrap_of_nonneg h0 h1] at hcond
      have hlen : I.stop - I.start < pow2 size := by
        rw [← Int.toNat_of_nonneg h0]
        exact Int.ofNat_lt.mpr (Nat.lt_of_le_of_lt hcond (Nat.sub_lt (Nat.two_pow_pos size) Nat.one_pos))
      obtain ⟨t1, t2⟩ := wrap_sub_wrap size hsz hx.1 hx.2.1 hlen hse
      have := translate_spec hI hx hsz (wrap_inRange size hsz _) (wrap_inRange size hsz _) t1 t2
      exact ⟨this.1, this.2, rfl⟩
    · exact htop
  · exact htop

/-- SUBPIECE decomposes into dropping the low bits and truncating: wrapping to `w - low` bits first changes
the value by a multiple of `2^(w-low)`, hence of `2^size` -/
theorem csubpiece_split (w low size : Nat) (hs0 : 0 < size) (hs : low + size ≤ w) (x : Int) :
    csubpiece w low size x = wrap size (csubpiece w low (w - low) x) :=
  (wrap_congr size hs0 (Int.dvd_trans (pow2_dvd_pow2 (by omega)) (wrap_dvd (w - low) _))).symm

theorem csubpiece_id (w : Nat) (hw : 0 < w) {x : Int} (hx : InRange w x) : csubpiece w 0 w x = x := by
  rw [csubpiece_low w w hw (Nat.le_refl w) x]; exact wrap_of_inRange w hw hx

/-- **C02-subpiece.** Soundness and well-formedness of `Interval::subpiece` (`low`, `size` in bits). -/
theorem subpiece_spec (I : Interval) (hI : I.WF) (low size : Nat) (hs0 : 1 < size) (hs : low + size ≤ I.w)
    {x : Int} (hx : I.Mem x) :
    (I.subpiece low size).Mem (csubpiece I.w low size x) ∧ (I.subpiece low size).WF ∧
      (I.subpiece low size).w = size := by
  have hxr := Interval.mem_inRange hI hx
  have hw0 := hI.w_pos
  unfold Interval.subpiece
  by_cases hl : low = 0
  · subst hl
    simp only [ne_eq, not_true_eq_false, if_false]
    by_cases hgt : I.w > size
    · rw [if_pos hgt, csubpiece_low I.w size (by omega) (by omega) x]
      exact subpieceLower_spec I hI size (Nat.lt_trans Nat.zero_lt_one hs0) hx
    · rw [if_neg hgt]
      have : size = I.w := by omega
      subst this
      rw [csubpiece_id I.w hw0 hxr]
      exact ⟨hx, hI, rfl⟩
  · simp only [ne_eq, hl, not_false_eq_true, if_true]
    obtain ⟨hm, hwf, hwid⟩ := subpieceHigher_spec I hI low (by omega) hx
    rw [csubpiece_split I.w low size (by omega) hs x]
    by_cases hgt : (I.subpieceHigher low).w > size
    · rw [if_pos hgt]
      exact subpieceLower_spec _ hwf size (Nat.lt_trans Nat.zero_lt_one hs0) hm
    · rw [if_neg hgt]
      have hsz : size = I.w - low := by omega
      obtain ⟨e, hin⟩ := csubpiece_high I.w low (by omega) hxr
      rw [hsz, wrap_of_inRange (I.w - low) (by omega) (e ▸ hin)]
      exact ⟨hm, hwf, hwid⟩

end CweModel.C02
