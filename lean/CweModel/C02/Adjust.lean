/-
C02 — `adjust_to_stride_and_remainder` (used by `zero_extend`, `piece` and, in C04, `signed_intersect`):
the result stays inside the input range and contains every value of that range in the given residue class.
-/
import CweModel.C02.Arith

namespace CweModel.C02
open CweModel.Itv

/-- the idiom `((a % n) + n) % n` with Rust's truncated `%` is the non-negative remainder -/
theorem trem_fix (a n : Int) (hn : 0 < n) : trem (trem a n + n) n = a % n := by
  unfold trem
  have h1 := Int.lt_tmod_of_pos a hn
  rw [Int.tmod_eq_emod_of_nonneg (by omega), Int.tmod_def,
    show a - n * a.tdiv n + n = a + n * (1 - a.tdiv n) by rw [Int.mul_sub, Int.mul_one]; omega,
    Int.add_mul_emod_self_left]

theorem inRange_le_i64 (w : Nat) (hw64 : w ≤ 64) {x : Int} (hx : InRange w x) :
    -(2 ^ 63) ≤ x ∧ x ≤ 2 ^ 63 - 1 := by
  have h := pow2_le_pow2 (show w - 1 ≤ 63 by omega)
  have : pow2 63 = 2 ^ 63 := rfl
  unfold InRange smin smax at hx
  omega

/-- `adjust_to_stride_and_remainder` for at most 64 bit in closed form: the bounds are rounded inwards into the
residue class, nothing wraps, and the `i64` range tests only fire when the rounded bounds have crossed anyway -/
theorem adjust_eq (I : Interval) (st rem : Nat) (hw0 : 0 < I.w) (hw : I.w ≤ 64) (hs : InRange I.w I.start)
    (he : InRange I.w I.stop) (hst : 0 < st) :
    I.adjustToStrideAndRemainder st rem =
      if lastIn I.stop rem st < firstIn I.start rem st then none
      else some { w := I.w, start := firstIn I.start rem st, stop := lastIn I.stop rem st,
                  stride := if firstIn I.start rem st = lastIn I.stop rem st then 0 else st } := by
  have hn : (0 : Int) < (st : Int) := Int.natCast_pos.mpr hst
  have hS := le_firstIn I.start rem hn
  have hE := lastIn_le I.stop rem hn
  unfold Interval.adjustToStrideAndRemainder
  rw [if_neg (Nat.not_lt.mpr hw)]
  simp only [trem_fix _ _ hn]
  rw [← firstIn, ← lastIn]
  generalize firstIn I.start rem st = S at *
  generalize lastIn I.stop rem st = E at *
  by_cases h : E < S
  · rw [if_pos h, if_pos (Or.inr (Or.inr h))]
  · have hSE := Int.not_lt.mp h
    have hSr : InRange I.w S := ⟨Int.le_trans hs.1 hS, Int.le_trans hSE (Int.le_trans hE he.2)⟩
    have hEr : InRange I.w E := ⟨Int.le_trans hs.1 (Int.le_trans hS hSE), Int.le_trans hE he.2⟩
    have hi1 := (inRange_le_i64 I.w hw hSr).2
    have hi2 := (inRange_le_i64 I.w hw hEr).1
    rw [if_neg h, if_neg (by omega), wrap_of_inRange I.w hw0 hSr, wrap_of_inRange I.w hw0 hEr]

theorem mem_adjust {I : Interval} {st rem : Nat} (hw0 : 0 < I.w) (hw : I.w ≤ 64) (hs : InRange I.w I.start)
    (he : InRange I.w I.stop) (hst : 0 < st) (hst64 : st < 2 ^ 64) {r : Interval}
    (h : I.adjustToStrideAndRemainder st rem = some r) :
    r.WF ∧ r.w = I.w ∧ ∀ x, r.Mem x ↔ I.start ≤ x ∧ x ≤ I.stop ∧ (st : Int) ∣ x - rem := by
  have hn : (0 : Int) < (st : Int) := Int.natCast_pos.mpr hst
  have hS := le_firstIn I.start rem hn
  have hE := lastIn_le I.stop rem hn
  have hd1 := firstIn_dvd I.start rem st
  have hd2 := lastIn_dvd I.stop rem st
  rw [adjust_eq I st rem hw0 hw hs he hst] at h
  split at h
  · cases h
  · next hSE =>
    have hSE := Int.not_lt.mp hSE
    cases h
    refine ⟨Interval.wf_ifStride hw0 ⟨Int.le_trans hs.1 hS, Int.le_trans hSE (Int.le_trans hE he.2)⟩
      ⟨Int.le_trans hs.1 (Int.le_trans hS hSE), Int.le_trans hE he.2⟩ hSE hst hst64
      (dvd_sub_of_dvd_sub hd2 hd1), rfl, fun x => ?_⟩
    rw [Interval.mem_ifStride]
    exact ⟨fun ⟨h1, h2, h3⟩ => ⟨Int.le_trans hS h1, Int.le_trans h2 hE, dvd_sub_trans h3 hd1⟩,
      fun ⟨h1, h2, h3⟩ => ⟨firstIn_le hn h1 h3, le_lastIn hn h2 h3, dvd_sub_of_dvd_sub h3 hd1⟩⟩

theorem adjust_none {I : Interval} {st rem : Nat} (hw0 : 0 < I.w) (hw : I.w ≤ 64) (hs : InRange I.w I.start)
    (he : InRange I.w I.stop) (hst : 0 < st) (h : I.adjustToStrideAndRemainder st rem = none) {x : Int}
    (h1 : I.start ≤ x) (h2 : x ≤ I.stop) (h3 : (st : Int) ∣ x - rem) : False := by
  have hn : (0 : Int) < (st : Int) := Int.natCast_pos.mpr hst
  rw [adjust_eq I st rem hw0 hw hs he hst] at h
  split at h
  · next hc => exact Int.not_lt.mpr (Int.le_trans (firstIn_le hn h1 h3) (le_lastIn hn h2 h3)) hc
  · cases h

/-- Above 64 bit the function keeps the bounds and sets the stride to unknown, so the residue class of `x`
(`hx3`) is only asked for up to 64 bit. -/
theorem adjust_sound (I : Interval) (stride rem : Nat) (hw0 : 0 < I.w) (hs : InRange I.w I.start)
    (he : InRange I.w I.stop) (hst : 0 < stride) (hst64 : stride < 2 ^ 64) {x : Int} (hx1 : I.start ≤ x)
    (hx2 : x ≤ I.stop) (hx3 : I.w ≤ 64 → (stride : Int) ∣ x - rem) :
    ∃ r, I.adjustToStrideAndRemainder stride rem = some r ∧ r.WF ∧ r.w = I.w ∧ r.Mem x ∧
      I.start ≤ r.start ∧ r.stop ≤ I.stop := by
  by_cases hw : I.w > 64
  · refine ⟨_, if_pos hw, Interval.wf_ifStride (st := 1) hw0 hs he (Int.le_trans hx1 hx2) (by decide) (by decide)
      (Int.one_dvd _), rfl, Interval.mem_ifStride.mpr ⟨hx1, hx2, Int.one_dvd _⟩, Int.le_refl _, Int.le_refl _⟩
  · have hw : I.w ≤ 64 := Nat.le_of_not_gt hw
    cases h : I.adjustToStrideAndRemainder stride rem with
    | none => exact (adjust_none hw0 hw hs he hst h hx1 hx2 (hx3 hw)).elim
    | some r =>
      obtain ⟨hwf, hrw, hm⟩ := mem_adjust hw0 hw hs he hst hst64 h
      exact ⟨r, rfl, hwf, hrw, (hm x).mpr ⟨hx1, hx2, hx3 hw⟩, ((hm _).mp (r.start_mem hwf.start_le_stop)).1,
        ((hm _).mp (r.stop_mem hwf)).2.1⟩

/-- **C02-adjust (soundness and well-formedness)** for at most 64 bit. -/
theorem adjust_spec (I : Interval) (stride rem : Nat) (hw0 : 0 < I.w) (_hw : I.w ≤ 64)
    (hs : InRange I.w I.start) (he : InRange I.w I.stop) (hst : 0 < stride) (hst64 : stride < 2 ^ 64)
    {x : Int} (hx1 : I.start ≤ x) (hx2 : x ≤ I.stop) (hx3 : (stride : Int) ∣ x - rem) :
    ∃ r, I.adjustToStrideAndRemainder stride rem = some r ∧ r.WF ∧ r.w = I.w ∧ r.Mem x ∧
      I.start ≤ r.start ∧ r.stop ≤ I.stop :=
  adjust_sound I stride rem hw0 hs he hst hst64 hx1 hx2 fun _ => hx3

/-- the call pattern of `zero_extend` and `piece`: the stride is a power of two below `2^64` and the
remainder is that of `c` (as a `u64`), for a candidate congruent to `c` -/
theorem adjust_pow2 (I : Interval) (t : Nat) (c : Int) (hw0 : 0 < I.w) (hs : InRange I.w I.start)
    (he : InRange I.w I.stop) (ht : t < 64) {x : Int} (hx1 : I.start ≤ x) (hx2 : x ≤ I.stop)
    (hx3 : I.w ≤ 64 → pow2 t ∣ x - c) :
    ∃ r, I.adjustToStrideAndRemainder (2 ^ t) (toU 64 (c % ((2 ^ t : Nat) : Int))) = some r ∧ r.WF ∧
      r.w = I.w ∧ r.Mem x := by
  have hT := pow2_pos t
  obtain ⟨r, h1, h2, h3, h4, _⟩ := adjust_sound I (2 ^ t) (toU 64 (c % ((2 ^ t : Nat) : Int))) hw0 hs he
    (Nat.two_pow_pos t) (Nat.pow_lt_pow_right (by decide) ht) hx1 hx2 fun hw => by
      rw [pow2_nat, toU_of_nonneg_lt 64 (Int.emod_nonneg _ (by omega))
        (Int.lt_trans (Int.emod_lt_of_pos _ hT) (pow2_lt_pow2 ht))]
      exact dvd_sub_of_dvd_sub (c := c) (hx3 hw) (dvd_sub_comm Int.dvd_self_sub_emod)
  exact ⟨r, h1, h2, h3, h4⟩

end CweModel.C02
