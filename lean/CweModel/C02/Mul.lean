/-
C02 — `signed_mult_with_overflow_flag` (on signed readings the function C01 proves right), `signed_mul`.
-/
import CweModel.C02.Arith

namespace CweModel.C02
open CweModel CweModel.Itv

/-- on signed readings the model of `signed_mult_with_overflow_flag` is C01's: the wrapped product of the
bit-vectors with core's `smulOverflow` as flag (`C01.smulOverflow_eq`) -/
theorem smof_toInt {w : Nat} (hw : 0 < w) (x y : BitVec w) :
    signedMultWithOverflowFlag w x.toInt y.toInt =
      if x.toInt = 0 then (0, false) else ((x * y).toInt, x.smulOverflow y) := by
  unfold signedMultWithOverflowFlag
  by_cases hx0 : x.toInt = 0
  · rw [if_pos hx0, if_pos hx0]
  · have hw' : w ≠ 0 := Nat.ne_of_gt hw
    have hx : x ≠ 0#w := fun h => hx0 (h ▸ BitVec.toInt_zero)
    have h1 : x.toInt = -1 ↔ x = -1#w := by rw [← BitVec.toInt_inj, C01.toInt_neg_one hw']
    have h2 : y.toInt = smin w ↔ y = BitVec.intMin w := by
      rw [← BitVec.toInt_inj, BitVec.toInt_intMin_of_pos hw, smin, pow2_int]
    rw [if_neg hx0, if_neg hx0, C01.smulOverflow_eq hw' hx y]
    show (if _ ∨ wrap w ((wrap w (x.toInt * y.toInt)).tdiv x.toInt) ≠ y.toInt then _ else _) = _
    rw [show wrap w (x.toInt * y.toInt) = (x * y).toInt from (BitVec.toInt_mul x y).symm,
      show wrap w ((x * y).toInt.tdiv x.toInt) = ((x * y).sdiv x).toInt from (BitVec.toInt_sdiv _ _).symm]
    by_cases hc : (x.toInt = -1 ∧ y.toInt = smin w) ∨ ((x * y).sdiv x).toInt ≠ y.toInt
    · rw [if_pos hc]
      rw [h1, h2, Ne, BitVec.toInt_inj] at hc
      exact congrArg _ (by simpa using hc)
    · rw [if_neg hc]
      rw [h1, h2, Ne, BitVec.toInt_inj] at hc
      exact congrArg _ (by simpa using hc)

/-- **no overflow flag ⇒ exact product.** If `signed_mult_with_overflow_flag` reports no overflow, the
returned value is the mathematical product and it is representable. -/
theorem smof_exact (w : Nat) (hw : 0 < w) {x y : Int} (hx : InRange w x) (hy : InRange w y)
    (h : (signedMultWithOverflowFlag w x y).2 = false) :
    (signedMultWithOverflowFlag w x y).1 = x * y ∧ InRange w (x * y) := by
  have ex := toInt_ofInt_of_inRange hw hx
  have ey := toInt_ofInt_of_inRange hw hy
  have hb := smof_toInt hw (BitVec.ofInt w x) (BitVec.ofInt w y)
  rw [ex, ey] at hb
  rw [hb] at h ⊢
  split at h
  · next h0 => rw [if_pos h0, h0, Int.zero_mul]; exact ⟨rfl, inRange_zero w⟩
  · next h0 =>
    have := BitVec.toInt_mul_of_not_smulOverflow (x := BitVec.ofInt w x) (y := BitVec.ofInt w y) (by simpa using h)
    rw [ex, ey] at this
    rw [if_neg h0]
    exact ⟨this, this ▸ inRange_toInt _⟩

theorem le_mul_of_le_ends {m k c d y : Int} (hy1 : c ≤ y) (hy2 : y ≤ d) (h1 : m ≤ k * c) (h2 : m ≤ k * d) :
    m ≤ k * y := by
  rcases Int.le_total 0 k with h | h
  · exact Int.le_trans h1 (Int.mul_le_mul_of_nonneg_left hy1 h)
  · exact Int.le_trans h2 (Int.mul_le_mul_of_nonpos_left h hy2)

theorem le_mul_of_le_corners {m a b c d x y : Int} (hx1 : a ≤ x) (hx2 : x ≤ b) (hy1 : c ≤ y) (hy2 : y ≤ d)
    (h1 : m ≤ a * c) (h2 : m ≤ a * d) (h3 : m ≤ b * c) (h4 : m ≤ b * d) : m ≤ x * y := by
  have ha := le_mul_of_le_ends hy1 hy2 h1 h2
  have hb := le_mul_of_le_ends hy1 hy2 h3 h4
  rw [Int.mul_comm] at ha hb ⊢
  exact le_mul_of_le_ends hx1 hx2 ha hb

theorem mul_le_of_corners_le {m a b c d x y : Int} (hx1 : a ≤ x) (hx2 : x ≤ b) (hy1 : c ≤ y) (hy2 : y ≤ d)
    (h1 : a * c ≤ m) (h2 : a * d ≤ m) (h3 : b * c ≤ m) (h4 : b * d ≤ m) : x * y ≤ m := by
  have := le_mul_of_le_corners (m := -m) hx1 hx2 (Int.neg_le_neg hy2) (Int.neg_le_neg hy1)
    (by rw [Int.mul_neg]; exact Int.neg_le_neg h2) (by rw [Int.mul_neg]; exact Int.neg_le_neg h1)
    (by rw [Int.mul_neg]; exact Int.neg_le_neg h4) (by rw [Int.mul_neg]; exact Int.neg_le_neg h3)
  rw [Int.mul_neg] at this
  exact Int.neg_le_neg_iff.mp this

theorem smin2_le_left (a b : Int) : Interval.smin2 a b ≤ a := by unfold Interval.smin2; split <;> omega
theorem smin2_le_right (a b : Int) : Interval.smin2 a b ≤ b := by unfold Interval.smin2; split <;> omega
theorem le_smax2_left (a b : Int) : a ≤ Interval.smax2 a b := by unfold Interval.smax2; split <;> omega
theorem le_smax2_right (a b : Int) : b ≤ Interval.smax2 a b := by unfold Interval.smax2; split <;> omega

theorem smin2_ind {P : Int → Prop} {a b : Int} (ha : P a) (hb : P b) : P (Interval.smin2 a b) := by
  unfold Interval.smin2; split <;> assumption
theorem smax2_ind {P : Int → Prop} {a b : Int} (ha : P a) (hb : P b) : P (Interval.smax2 a b) := by
  unfold Interval.smax2; split <;> assumption

theorem corners {a b c d x y : Int} (hx1 : a ≤ x) (hx2 : x ≤ b) (hy1 : c ≤ y) (hy2 : y ≤ d) :
    Interval.smin2 (a * c) (Interval.smin2 (a * d) (Interval.smin2 (b * c) (b * d))) ≤ x * y ∧
    x * y ≤ Interval.smax2 (a * c) (Interval.smax2 (a * d) (Interval.smax2 (b * c) (b * d))) :=
  ⟨le_mul_of_le_corners hx1 hx2 hy1 hy2 (smin2_le_left _ _)
      (Int.le_trans (smin2_le_right _ _) (smin2_le_left _ _))
      (Int.le_trans (smin2_le_right _ _) (Int.le_trans (smin2_le_right _ _) (smin2_le_left _ _)))
      (Int.le_trans (smin2_le_right _ _) (Int.le_trans (smin2_le_right _ _) (smin2_le_right _ _))),
    mul_le_of_corners_le hx1 hx2 hy1 hy2 (le_smax2_left _ _)
      (Int.le_trans (le_smax2_left _ _) (le_smax2_right _ _))
      (Int.le_trans (le_smax2_left _ _) (Int.le_trans (le_smax2_right _ _) (le_smax2_right _ _)))
      (Int.le_trans (le_smax2_right _ _) (Int.le_trans (le_smax2_right _ _) (le_smax2_right _ _)))⟩

theorem mul_congr {g a c x y : Int} (hx : g ∣ x - a) (hy : g ∣ y - c) : g ∣ x * y - a * c := by
  have : x * y - a * c = (x - a) * y + a * (y - c) := by
    rw [Int.sub_mul, Int.mul_sub]; omega
  rw [this]
  exact Int.dvd_add (Int.dvd_trans hx (Int.dvd_mul_right _ _)) (Int.dvd_trans hy (Int.dvd_mul_left _ _))

/-- **C02-mul.** Soundness and well-formedness of `Interval::signed_mul` (all widths; above 64 bit the
result is `Top`). -/
theorem signedMul_mem_wf (I J : Interval) (hI : I.WF) (hJ : J.WF) (hw : J.w = I.w) {x y : Int}
    (hx : I.Mem x) (hy : J.Mem y) :
    (I.signedMul J).Mem (cmul I.w x y) ∧ (I.signedMul J).WF ∧ (I.signedMul J).w = I.w := by
  have hw0 := hI.w_pos
  have htop := newTop_spec hw0 (wrap_inRange I.w hw0 (x * y))
  -- the case analysis is done on one copy of the result
  generalize hR : I.signedMul J = R
  unfold Interval.signedMul at hR
  by_cases h64 : I.w > 64
  · rw [if_pos h64] at hR; subst hR; exact htop
  rw [if_neg h64] at hR
  by_cases hs : I.start = I.stop ∧ J.start = J.stop
  · -- both singletons: the exact (wrapping) product
    rw [if_pos hs] at hR; subst hR
    rw [mem_eq_start hx hs.1, mem_eq_start hy hs.2]
    exact single_spec hw0 (wrap_inRange I.w hw0 _)
  rw [if_neg hs] at hR
  simp only at hR
  split at hR
  · subst hR; exact htop
  · rename_i hflags
    simp only [Bool.or_eq_true, not_or, Bool.not_eq_true] at hflags
    obtain ⟨⟨⟨f1, f2⟩, f3⟩, f4⟩ := hflags
    have hIs := I.start_mem hI.start_le_stop
    have hJs := J.start_mem hJ.start_le_stop
    -- a corner product without overflow flag is exact, in range, and congruent to every other product of
    -- members modulo the gcd of the strides
    have corner : ∀ {u v : Int}, I.Mem u → J.Mem v → (signedMultWithOverflowFlag I.w u v).2 = false →
        (signedMultWithOverflowFlag I.w u v).1 = u * v ∧ InRange I.w (u * v) ∧
          ((Nat.gcd I.stride J.stride : Nat) : Int) ∣ u * v - I.start * J.start := fun hu hv hf =>
      have := smof_exact I.w hw0 (Interval.mem_inRange hI hu) (hw ▸ Interval.mem_inRange hJ hv) hf
      ⟨this.1, this.2, mul_congr (gcd_dvd_left_int _ _ hu.2.2) (gcd_dvd_right_int _ _ hv.2.2)⟩
    obtain ⟨e1, k1⟩ := corner hIs hJs f1
    obtain ⟨e2, k2⟩ := corner hIs (J.stop_mem hJ) f2
    obtain ⟨e3, k3⟩ := corner (I.stop_mem hI) hJs f3
    obtain ⟨e4, k4⟩ := corner (I.stop_mem hI) (J.stop_mem hJ) f4
    rw [e1, e2, e3, e4] at hR
    subst hR
    obtain ⟨c1, c2⟩ := corners hx.1 hx.2.1 hy.1 hy.2.1
    have imn := @smin2_ind fun v => InRange I.w v ∧ ((Nat.gcd I.stride J.stride : Nat) : Int) ∣ v - I.start * J.start
    have imx := @smax2_ind fun v => InRange I.w v ∧ ((Nat.gcd I.stride J.stride : Nat) : Int) ∣ v - I.start * J.start
    have kmn := imn k1 (imn k2 (imn k3 k4))
    have kmx := imx k1 (imx k2 (imx k3 k4))
    have hzr : InRange I.w (x * y) := ⟨Int.le_trans kmn.1.1 c1, Int.le_trans c2 kmx.1.2⟩
    have kz := mul_congr (gcd_dvd_left_int I.stride J.stride hx.2.2) (gcd_dvd_right_int I.stride J.stride hy.2.2)
    have hg : 0 < Nat.gcd I.stride J.stride := Nat.pos_of_ne_zero fun h =>
      hs ⟨hI.2.2.2.2.1.mp (Nat.gcd_eq_zero_iff.mp h).1, hJ.2.2.2.2.1.mp (Nat.gcd_eq_zero_iff.mp h).2⟩
    rw [cmul, wrap_of_inRange I.w hw0 hzr]
    have := iteStride_spec hw0 kmn.1 kmx.1 c1 c2 hg (gcd_lt _ _ hI.stride_lt hJ.stride_lt)
      (dvd_sub_of_dvd_sub kz kmn.2) (dvd_sub_of_dvd_sub kmx.2 kmn.2)
    exact ⟨this.1, this.2, rfl⟩

theorem signedMul_spec (I J : Interval) (hI : I.WF) (hJ : J.WF) (hw : J.w = I.w) (hw1 : 1 < I.w) {x y : Int}
    (hx : I.Mem x) (hy : J.Mem y) :
    (I.signedMul J).Mem (cmul I.w x y) ∧ (I.signedMul J).WF ∧ (I.signedMul J).w = I.w :=
  signedMul_mem_wf I J hI hJ hw hx hy

end CweModel.C02
