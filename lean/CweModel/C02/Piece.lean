import CweModel.C02.Ext

namespace CweModel.C02
open CweModel.Itv

/-- the value of PIECE without wrap: core's `toInt_append` -/
theorem cpiece_eq (wh wl : Nat) (hh : 0 < wh) {x : Int} (hx : InRange wh x) (y : Int) :
    cpiece wh wl x y = x * pow2 wl + (toU wl y : Int) ∧ InRange (wh + wl) (x * pow2 wl + (toU wl y : Int)) := by
  have h := @BitVec.toInt_append wh wl (BitVec.ofInt wh x) (BitVec.ofInt wl y)
  rw [if_neg (by simpa using Nat.ne_of_gt hh), toInt_ofInt_of_inRange hh hx, ← toU_toInt, BitVec.toInt_ofInt, ← wrap,
    toU_wrap, Int.mul_comm, ← pow2_int] at h
  have hin := h ▸ inRange_toInt (BitVec.ofInt wh x ++ BitVec.ofInt wl y)
  exact ⟨wrap_of_inRange (wh + wl) (Nat.add_pos_left hh _) hin, hin⟩

theorem u64shl_exact (s n : Nat) (hs : s < 2 ^ 64) (hs0 : s ≠ 0) (h : n ≤ leadingZeros 64 (s : Int)) :
    u64shl s n = s * 2 ^ n ∧ s * 2 ^ n < 2 ^ 64 := by
  unfold leadingZeros at h
  rw [Int.ofNat_inj.mp (toU_of_nonneg_lt 64 (Int.natCast_nonneg s) (Int.ofNat_lt.mpr hs))] at h
  have hn : n ≤ 64 := Nat.le_trans h (Nat.sub_le _ _)
  -- `n` leading zeros: `s < 2^(64-n)`
  have hlt := (le_sub_bitLen_iff 64 hs hn).mp h
  have hn64 : n < 64 := Nat.lt_of_le_of_ne hn fun e => hs0 (by rw [e] at hlt; omega)
  have hmul : s * 2 ^ n < 2 ^ 64 := by
    have := Nat.mul_lt_mul_of_pos_right hlt (Nat.two_pow_pos n)
    rwa [← Nat.pow_add, Nat.sub_add_cancel hn] at this
  refine ⟨?_, hmul⟩
  unfold u64shl u64
  rw [Nat.mod_eq_of_lt hn64, Nat.shiftLeft_eq, Nat.mod_eq_of_lt hmul]

theorem u64shl_one (t : Nat) (ht : t < 64) : u64shl 1 t = 2 ^ t := by
  unfold u64shl u64
  rw [Nat.mod_eq_of_lt ht, Nat.shiftLeft_eq, Nat.one_mul]
  exact Nat.mod_eq_of_lt (Nat.pow_lt_pow_right (by decide) ht)

/-- the stride `Interval::piece` gives the result when the low part does not cross zero -/
def pieceStride (I J : Interval) : Nat :=
  if I.stride = 0 then J.stride
  else if J.stride = 0 then (if J.w ≤ leadingZeros 64 I.stride then u64shl I.stride J.w else 1)
  else u64shl 1 (trailingZeros64 J.stride)

theorem pieceStride_spec (I J : Interval) (hI : I.WF) (hJ : J.WF) :
    pieceStride I J < 2 ^ 64 ∧ (pieceStride I J = 0 ↔ I.stride = 0 ∧ J.stride = 0) ∧
    ∀ a b : Int, (I.stride : Int) ∣ a → (J.stride : Int) ∣ b → (pieceStride I J : Int) ∣ a * pow2 J.w + b := by
  unfold pieceStride
  by_cases hi0 : I.stride = 0
  · -- `I` is a constant: the stride of `J`
    simp only [hi0, if_true, true_and]
    refine ⟨hJ.stride_lt, fun a b ha hb => ?_⟩
    rw [Int.zero_dvd.mp ha, Int.zero_mul, Int.zero_add]; exact hb
  rw [if_neg hi0]
  by_cases hj0 : J.stride = 0
  · -- `J` is a constant: the stride of `I`, shifted if that fits a `u64`
    simp only [hj0, if_true, and_true]
    split
    · rename_i hlz
      obtain ⟨e, hlt⟩ := u64shl_exact I.stride J.w hI.stride_lt hi0 hlz
      rw [e]
      refine ⟨hlt, ⟨fun h => ?_, fun h => absurd h hi0⟩, fun a b ha hb => ?_⟩
      · have := Nat.two_pow_pos J.w
        rcases Nat.mul_eq_zero.mp h with h | h <;> omega
      · rw [Int.zero_dvd.mp hb, Int.add_zero, Int.natCast_mul, pow2_nat]
        exact Int.mul_dvd_mul ha (Int.dvd_refl _)
    · exact ⟨by decide, ⟨fun h => absurd h (by decide), fun h => absurd h hi0⟩, fun _ _ _ _ => Int.one_dvd _⟩
  · -- otherwise the power of two in the stride of `J`
    rw [if_neg hj0]
    obtain ⟨htz, hTP, _⟩ := pow_tz_facts J hJ fun h => hj0 (hJ.2.2.2.2.1.mpr h)
    rw [u64shl_one _ htz]
    refine ⟨Nat.pow_lt_pow_right (by decide) htz, ⟨fun h => ?_, fun h => absurd h.1 hi0⟩, fun a b _ hb => ?_⟩
    · have := Nat.two_pow_pos (trailingZeros64 J.stride); omega
    · exact Int.dvd_add (Int.dvd_trans hTP (Int.dvd_mul_left _ _))
        (Int.dvd_trans (Int.natCast_dvd_natCast.mpr (pow_tz_dvd J.stride hj0)) hb)

theorem piece_sub (a b u v P : Int) : a * P + u - (b * P + v) = (a - b) * P + (u - v) := by
  rw [Int.sub_mul]; omega

theorem eq_of_add_eq_add {a b c d : Int} (h : a + b = c + d) (h1 : a ≤ c) (h2 : b ≤ d) : a = c ∧ b = d := by
  omega

/-- **C02-piece.** Soundness and well-formedness of `Interval::piece`. -/
theorem piece_spec (I J : Interval) (hI : I.WF) (hJ : J.WF) {x y : Int} (hx : I.Mem x) (hy : J.Mem y) :
    (I.piece J).Mem (cpiece I.w J.w x y) ∧ (I.piece J).WF ∧ (I.piece J).w = I.w + J.w := by
  have hw0 := hI.w_pos
  have hv0 := hJ.w_pos
  have hP := pow2_pos J.w
  have hw : 0 < I.w + J.w := Nat.add_pos_left hw0 _
  have mx1 := Int.mul_le_mul_of_nonneg_right hx.1 (Int.le_of_lt hP)
  have mx2 := Int.mul_le_mul_of_nonneg_right hx.2.1 (Int.le_of_lt hP)
  have mxe := Int.mul_le_mul_of_nonneg_right hI.start_le_stop (Int.le_of_lt hP)
  rw [(cpiece_eq I.w J.w hw0 (Interval.mem_inRange hI hx) y).1]
  -- the case analysis is done on one copy of the result
  generalize hR : I.piece J = R
  unfold Interval.piece at hR
  simp only at hR
  by_cases hcross : J.start < 0 ∧ ¬ J.stop < 0
  · -- `J` contains -1 and 0: all low parts `[0, 2^J.w - 1]`, adjusted to the residue class of `J.start`
    -- modulo the power of two in its stride
    have hP2 := one_lt_pow2 hv0
    obtain ⟨htz, hTP, hcls⟩ := pow_tz_facts J hJ (fun h => by omega)
    obtain ⟨e1, r1⟩ := cpiece_eq I.w J.w hw0 hI.start_inRange 0
    obtain ⟨e2, r2⟩ := cpiece_eq I.w J.w hw0 hI.stop_inRange (-1)
    rw [toU_of_nonneg_lt J.w (Int.le_refl 0) hP] at e1 r1
    rw [toU_of_inRange J.w hv0 (inRange_neg_one J.w), if_pos (by decide)] at e2 r2
    rw [if_pos hcross, e1, e2] at hR
    have hz1 := Int.add_le_add mx1 (toU_nonneg J.w y)
    have hz2 := Int.add_le_add mx2 (show (toU J.w y : Int) ≤ -1 + pow2 J.w by have := toU_lt J.w y; omega)
    by_cases hJw : J.w > 64
    · rw [if_pos hJw] at hR; subst hR
      have := unitStride_spec hw r1 r2 hz1 hz2
        (Int.ne_of_lt (Int.add_lt_add_of_le_of_lt mxe (show 0 < -1 + pow2 J.w by omega)))
      exact ⟨this.1, this.2, rfl⟩
    · obtain ⟨r, hr, hrwf, hrw, hmem⟩ := adjust_pow2
        { w := I.w + J.w, start := I.start * pow2 J.w + 0, stop := I.stop * pow2 J.w + (-1 + pow2 J.w), stride := 1 }
        (trailingZeros64 J.stride) J.start hw r1 r2 htz hz1 hz2 fun _ => by
          rw [Int.add_sub_assoc]
          exact Int.dvd_add (Int.dvd_trans hTP (Int.dvd_mul_left _ _)) (hcls y hy)
      rw [if_neg hJw, u64shl_one _ htz, trem_fix J.start ((2 ^ trailingZeros64 J.stride : Nat) : Int) (pow2_pos _),
        hr] at hR
      subst hR; exact ⟨hmem, hrwf, hrw⟩
  · -- all members of `J` have the same sign: the low parts are those of `J` moved by a common amount
    have hns : ¬ (J.start < 0 ∧ 0 ≤ J.stop) := fun hc => hcross ⟨hc.1, by omega⟩
    obtain ⟨e1, r1⟩ := cpiece_eq I.w J.w hw0 hI.start_inRange J.start
    obtain ⟨e2, r2⟩ := cpiece_eq I.w J.w hw0 hI.stop_inRange J.stop
    rw [if_neg hcross, e1, e2] at hR
    subst hR
    obtain ⟨gu, g0, gd⟩ := pieceStride_spec I J hI hJ
    have hnsy : ¬ (J.start < 0 ∧ 0 ≤ y) := fun hc => hns ⟨hc.1, Int.le_trans hc.2 hy.2.1⟩
    have hyr := Interval.mem_inRange hJ hy
    have ty := toU_sub_toU J.w hv0 hJ.start_inRange hyr hy.1 hnsy
    have te := toU_sub_toU J.w hv0 hJ.start_inRange hJ.stop_inRange hJ.start_le_stop hns
    have l1 := toU_le_toU J.w hv0 hJ.start_inRange hyr hy.1 hnsy
    have l2 := toU_le_toU J.w hv0 hyr hJ.stop_inRange hy.2.1 fun hc => hns ⟨Int.lt_of_le_of_lt hy.1 hc.1, hc.2⟩
    refine ⟨⟨Int.add_le_add mx1 l1, Int.add_le_add mx2 l2, ?_⟩,
      ⟨hw, r1, r2, Int.add_le_add mxe (Int.le_trans l1 l2), g0.trans ?_, ?_, gu⟩, rfl⟩
    · show _ ∣ _ * pow2 J.w + _ - (_ * pow2 J.w + _)
      rw [piece_sub, ty]; exact gd _ _ hx.2.2 hy.2.2
    · show I.stride = 0 ∧ J.stride = 0 ↔
        I.start * pow2 J.w + (toU J.w J.start : Int) = I.stop * pow2 J.w + (toU J.w J.stop : Int)
      rw [hI.stride_eq_zero_iff, hJ.stride_eq_zero_iff]
      constructor
      · rintro ⟨h1, h2⟩; rw [h1, h2]
      · intro h
        obtain ⟨h1, h2⟩ := eq_of_add_eq_add h mxe (Int.le_trans l1 l2)
        rw [h2, Int.sub_self] at te
        exact ⟨Int.eq_of_mul_eq_mul_right (Int.ne_of_gt hP) h1, (Int.eq_of_sub_eq_zero te.symm).symm⟩
    · show _ ∣ _ * pow2 J.w + _ - (_ * pow2 J.w + _)
      rw [piece_sub, te]; exact gd _ _ hI.stride_dvd hJ.stride_dvd

end CweModel.C02
