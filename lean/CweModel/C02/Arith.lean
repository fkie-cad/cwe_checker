/-
C02 — the additive operations: `add`, `sub` (the sum with the mirror image), `int_2_comp` (the mirror image),
`bitwise_not`, and the hint bookkeeping (`update_widening_*_bound` only replaces the hint).
-/
import CweModel.C02.Basic
import CweModel.C01.Kernels

namespace CweModel.C02
open CweModel CweModel.Itv

theorem pow2_int (a : Nat) : pow2 a = (2 : Int) ^ a := Int.natCast_pow 2 a

theorem toInt_ofInt_of_inRange {w : Nat} (hw : 0 < w) {x : Int} (hx : InRange w x) : (BitVec.ofInt w x).toInt = x :=
  (BitVec.toInt_ofInt x).trans (wrap_of_inRange w hw hx)

/-- on signed readings the model of `signed_add_overflow_checked` is the function C01 proves right: its sign test is
INT_SCARRY (`C01.sle_add`) -/
theorem sAOC_toInt {w : Nat} (x y : BitVec w) :
    signedAddOverflowChecked w x.toInt y.toInt = if Ref.scarry x y then none else some (x + y).toInt := by
  unfold signedAddOverflowChecked
  rw [← C01.sle_add, BitVec.msb_eq_toInt, BitVec.sle_eq_decide, BitVec.toInt_add]; rfl

/-- … and `signed_sub_overflow_checked` tests INT_SBORROW (`C01.sub_sle`) -/
theorem sSOC_toInt {w : Nat} (x y : BitVec w) :
    signedSubOverflowChecked w x.toInt y.toInt = if Ref.sborrow x y then none else some (x - y).toInt := by
  unfold signedSubOverflowChecked
  rw [← C01.sub_sle, BitVec.msb_eq_toInt, BitVec.sle_eq_decide, BitVec.toInt_sub]; rfl

/-- the reference's overflow test says that the exact result is not a `w`-bit value -/
theorem overflow_ite (w : Nat) (hw : 0 < w) (z : Int) :
    (if (decide (z ≥ 2 ^ (w - 1)) || decide (z < -2 ^ (w - 1))) = true then none else some (wrap w z)) =
      if InRange w z then some z else none := by
  have hiff : ¬ InRange w z ↔ z ≥ 2 ^ (w - 1) ∨ z < -2 ^ (w - 1) := by
    unfold InRange smin smax; rw [pow2_int]; omega
  rw [← Bool.decide_or]
  by_cases hr : InRange w z
  · rw [if_pos hr, if_neg fun hc => hiff.mpr (of_decide_eq_true hc) hr, wrap_of_inRange w hw hr]
  · rw [if_neg hr, if_pos (decide_eq_true (hiff.mp hr))]

theorem sAOC_spec (w : Nat) (hw : 0 < w) {x y : Int} (hx : InRange w x) (hy : InRange w y) :
    signedAddOverflowChecked w x y = if InRange w (x + y) then some (x + y) else none := by
  have h := sAOC_toInt (BitVec.ofInt w x) (BitVec.ofInt w y)
  rw [BitVec.toInt_add, Ref.scarry, toInt_ofInt_of_inRange hw hx, toInt_ofInt_of_inRange hw hy] at h
  exact h.trans (overflow_ite w hw (x + y))

theorem sSOC_spec (w : Nat) (hw : 0 < w) {x y : Int} (hx : InRange w x) (hy : InRange w y) :
    signedSubOverflowChecked w x y = if InRange w (x - y) then some (x - y) else none := by
  have h := sSOC_toInt (BitVec.ofInt w x) (BitVec.ofInt w y)
  rw [BitVec.toInt_sub, Ref.sborrow, toInt_ofInt_of_inRange hw hx, toInt_ofInt_of_inRange hw hy] at h
  exact h.trans (overflow_ite w hw (x - y))

theorem combine_spec {I J : Interval} (hI : I.WF) (hJ : J.WF) {x y : Int} (hx : I.Mem x) (hy : J.Mem y)
    {w' : Nat} {s' e' z' : Int} (hw' : 0 < w') (hs' : InRange w' s') (he' : InRange w' e')
    (hz : z' - s' = (x - I.start) + (y - J.start))
    (he : e' - s' = (I.stop - I.start) + (J.stop - J.start)) :
    ({ w := w', start := s', stop := e', stride := Nat.gcd I.stride J.stride } : Interval).Mem z' ∧
    ({ w := w', start := s', stop := e', stride := Nat.gcd I.stride J.stride } : Interval).WF := by
  have hb : s' ≤ z' ∧ z' ≤ e' := by
    have := hx.1; have := hx.2.1; have := hy.1; have := hy.2.1; omega
  obtain ⟨_, _, _, hIle, hI0, hId, hIu⟩ := hI
  obtain ⟨_, _, _, hJle, hJ0, hJd, hJu⟩ := hJ
  refine ⟨⟨hb.1, hb.2, ?_⟩, hw', hs', he', Int.le_trans hb.1 hb.2, ?_, ?_, gcd_lt _ _ hIu hJu⟩
  · show _ ∣ z' - s'
    rw [hz]; exact Int.dvd_add (gcd_dvd_left_int _ _ hx.2.2) (gcd_dvd_right_int _ _ hy.2.2)
  · show Nat.gcd I.stride J.stride = 0 ↔ s' = e'
    rw [Nat.gcd_eq_zero_iff, hI0, hJ0]; omega
  · show _ ∣ e' - s'
    rw [he]; exact Int.dvd_add (gcd_dvd_left_int _ _ hId) (gcd_dvd_right_int _ _ hJd)

/-- the negatives of the members of `J`, one bit wider so that `-MIN` fits -/
def mirror (J : Interval) : Interval := { w := J.w + 1, start := -J.stop, stop := -J.start, stride := J.stride }

theorem mirror_spec {J : Interval} (hJ : J.WF) {y : Int} (hy : J.Mem y) : (mirror J).Mem (-y) ∧ (mirror J).WF := by
  obtain ⟨hw0, hJs, hJe, hJle, hJ0, hJd, hJu⟩ := hJ
  obtain ⟨hy1, hy2, hy3⟩ := hy
  have h2 := pow2_eq J.w hw0
  have hr : ∀ v, InRange J.w v → InRange (J.w + 1) (-v) := fun v hv => by
    unfold InRange smin smax at *; rw [Nat.add_sub_cancel]; omega
  refine ⟨⟨Int.neg_le_neg hy2, Int.neg_le_neg hy1, ?_⟩, Nat.succ_pos _, hr _ hJe, hr _ hJs, Int.neg_le_neg hJle, ?_, ?_, hJu⟩
  · show _ ∣ -y - -J.stop
    rw [show -y - -J.stop = (J.stop - J.start) - (y - J.start) by omega]; exact Int.dvd_sub hJd hy3
  · show J.stride = 0 ↔ -J.stop = -J.start
    rw [hJ0]; omega
  · show _ ∣ -J.start - -J.stop
    rw [show -J.start - -J.stop = J.stop - J.start by omega]; exact hJd

theorem add_spec (I J : Interval) (hI : I.WF) (hJ : J.WF) (hw : J.w = I.w) {x y : Int}
    (hx : I.Mem x) (hy : J.Mem y) :
    (I.add J).Mem (cadd I.w x y) ∧ (I.add J).WF ∧ (I.add J).w = I.w := by
  have hw0 := hI.w_pos
  have htop := newTop_spec hw0 (wrap_inRange I.w hw0 (x + y))
  unfold Interval.add
  split
  · -- both singletons: the exact (wrapping) sum
    rename_i hs
    rw [mem_eq_start hx hs.1, mem_eq_start hy hs.2]
    exact single_spec hw0 (wrap_inRange I.w hw0 _)
  rw [sAOC_spec I.w hw0 hI.start_inRange (hw ▸ hJ.start_inRange), sAOC_spec I.w hw0 hI.stop_inRange (hw ▸ hJ.stop_inRange)]
  by_cases h1 : InRange I.w (I.start + J.start)
  · by_cases h2 : InRange I.w (I.stop + J.stop)
    · rw [if_pos h1, if_pos h2]
      have := combine_spec hI hJ hx hy hw0 h1 h2 (z' := x + y) (by omega) (by omega)
      rw [cadd, wrap_of_inRange I.w hw0 ⟨Int.le_trans h1.1 this.1.1, Int.le_trans this.1.2.1 h2.2⟩]
      exact ⟨this.1, this.2, rfl⟩
    · rw [if_pos h1, if_neg h2]; exact htop
  · rw [if_neg h1]; exact htop

/-- **C02-add (soundness).** -/
theorem add_sound (I J : Interval) (hI : I.WF) (hJ : J.WF) (hw : J.w = I.w) {x y : Int}
    (hx : I.Mem x) (hy : J.Mem y) : (I.add J).Mem (cadd I.w x y) := (add_spec I J hI hJ hw hx hy).1

/-- **C02-add (well-formedness).** -/
theorem add_wf (I J : Interval) (hI : I.WF) (hJ : J.WF) (hw : J.w = I.w) (hw1 : 1 < I.w) :
    (I.add J).WF ∧ (I.add J).w = I.w :=
  (add_spec I J hI hJ hw (I.start_mem hI.start_le_stop) (J.start_mem hJ.start_le_stop)).2

theorem sub_spec (I J : Interval) (hI : I.WF) (hJ : J.WF) (hw : J.w = I.w) {x y : Int}
    (hx : I.Mem x) (hy : J.Mem y) :
    (I.sub J).Mem (csub I.w x y) ∧ (I.sub J).WF ∧ (I.sub J).w = I.w := by
  have hw0 := hI.w_pos
  have htop := newTop_spec hw0 (wrap_inRange I.w hw0 (x - y))
  unfold Interval.sub
  split
  · rename_i hs
    rw [mem_eq_start hx hs.1, mem_eq_start hy hs.2]
    exact single_spec hw0 (wrap_inRange I.w hw0 _)
  rw [sSOC_spec I.w hw0 hI.start_inRange (hw ▸ hJ.stop_inRange), sSOC_spec I.w hw0 hI.stop_inRange (hw ▸ hJ.start_inRange)]
  by_cases h1 : InRange I.w (I.start - J.stop)
  · by_cases h2 : InRange I.w (I.stop - J.start)
    · rw [if_pos h1, if_pos h2]
      obtain ⟨my, mJ⟩ := mirror_spec hJ hy
      have := combine_spec hI mJ hx my hw0 h1 h2 (z' := x - y)
        (by show _ = x - I.start + (-y - -J.stop); omega)
        (by show _ = I.stop - I.start + (-J.start - -J.stop); omega)
      rw [csub, wrap_of_inRange I.w hw0 ⟨Int.le_trans h1.1 this.1.1, Int.le_trans this.1.2.1 h2.2⟩]
      exact ⟨this.1, this.2, rfl⟩
    · rw [if_pos h1, if_neg h2]; exact htop
  · rw [if_neg h1]; exact htop

/-- **C02-sub (soundness).** -/
theorem sub_sound (I J : Interval) (hI : I.WF) (hJ : J.WF) (hw : J.w = I.w) {x y : Int}
    (hx : I.Mem x) (hy : J.Mem y) : (I.sub J).Mem (csub I.w x y) := (sub_spec I J hI hJ hw hx hy).1

/-- **C02-sub (well-formedness).** -/
theorem sub_wf (I J : Interval) (hI : I.WF) (hJ : J.WF) (hw : J.w = I.w) (hw1 : 1 < I.w) :
    (I.sub J).WF ∧ (I.sub J).w = I.w :=
  (sub_spec I J hI hJ hw (I.start_mem hI.start_le_stop) (J.start_mem hJ.start_le_stop)).2

theorem int2Comp_spec (I : Interval) (hI : I.WF) {x : Int} (hx : I.Mem x) :
    I.int2Comp.Mem (cneg I.w x) ∧ I.int2Comp.WF ∧ I.int2Comp.w = I.w := by
  have hw0 := hI.w_pos
  unfold Interval.int2Comp
  split
  · rename_i h
    by_cases hsing : I.start = I.stop
    · -- a singleton is negated exactly (also `-MIN = MIN`)
      have := translate_spec hI hx hw0 (wrap_inRange I.w hw0 (-I.stop)) (wrap_inRange I.w hw0 (-I.start))
        (x' := cneg I.w x) (by rw [mem_eq_start hx hsing, ← hsing, cneg, Int.sub_self, Int.sub_self])
        (by rw [hsing, Int.sub_self, Int.sub_self])
      exact ⟨this.1, this.2, rfl⟩
    · have hr : ∀ {v : Int}, I.Mem v → cneg I.w v = -v ∧ InRange I.w (-v) := fun {v} hv => by
        have hv' := Interval.mem_inRange hI hv
        have : InRange I.w (-v) := by
          have := hv.1; unfold InRange smin smax at *; omega
        exact ⟨wrap_of_inRange I.w hw0 this, this⟩
      obtain ⟨mx, mI⟩ := mirror_spec hI hx
      have hs := hr (I.start_mem hI.start_le_stop)
      have he := hr (I.stop_mem hI)
      have := translate_spec mI mx hw0 he.2 hs.2 rfl rfl
      rw [(hr hx).1]
      show (⟨I.w, cneg I.w I.stop, cneg I.w I.start, I.stride⟩ : Interval).Mem (-x) ∧ _
      rw [hs.1, he.1]
      exact ⟨this.1, this.2, rfl⟩
  · exact newTop_spec hw0 (wrap_inRange I.w hw0 _)

/-- **C02-int2comp (soundness).** -/
theorem int2Comp_sound (I : Interval) (hI : I.WF) {x : Int} (hx : I.Mem x) :
    I.int2Comp.Mem (cneg I.w x) := (int2Comp_spec I hI hx).1

/-- **C02-int2comp (well-formedness).** -/
theorem int2Comp_wf (I : Interval) (hI : I.WF) (hw1 : 1 < I.w) :
    I.int2Comp.WF ∧ I.int2Comp.w = I.w :=
  (int2Comp_spec I hI (I.start_mem hI.start_le_stop)).2

theorem cnot_inRange (w : Nat) {x : Int} (hx : InRange w x) : InRange w (cnot w x) := by
  unfold cnot InRange smin smax at *; omega

theorem bitwiseNot_spec (I : Interval) (hI : I.WF) {x : Int} (hx : I.Mem x) :
    I.bitwiseNot.Mem (cnot I.w x) ∧ I.bitwiseNot.WF ∧ I.bitwiseNot.w = I.w := by
  unfold Interval.bitwiseNot
  split
  · rename_i h
    rw [mem_eq_start hx h]
    exact single_spec hI.w_pos (cnot_inRange _ hI.start_inRange)
  · exact newTop_spec hI.w_pos (cnot_inRange _ (Interval.mem_inRange hI hx))

/-- **C02-not (soundness).** -/
theorem bitwiseNot_sound (I : Interval) (hI : I.WF) {x : Int} (hx : I.Mem x) :
    I.bitwiseNot.Mem (cnot I.w x) := (bitwiseNot_spec I hI hx).1

/-- **C02-not (well-formedness).** -/
theorem bitwiseNot_wf (I : Interval) (hI : I.WF) (hw1 : 1 < I.w) :
    I.bitwiseNot.WF ∧ I.bitwiseNot.w = I.w :=
  (bitwiseNot_spec I hI (I.start_mem hI.start_le_stop)).2

theorem updateLower_delay (a : IntervalDomain) (b : Option Int) : (a.updateLower b).delay = a.delay := by
  rcases updateLower_cases a b with h | ⟨_, _, _, _, _, h⟩ <;> rw [h]

theorem updateUpper_delay (a : IntervalDomain) (b : Option Int) : (a.updateUpper b).delay = a.delay := by
  rcases updateUpper_cases a b with h | ⟨_, _, _, _, _, h⟩ <;> rw [h]

theorem updateLower_wf (a : IntervalDomain) (b : Option Int) (ha : a.WF)
    (hb : ∀ v, b = some v → InRange a.interval.w v) : (a.updateLower b).WF := by
  rcases updateLower_cases a b with h | ⟨v, r, hv, hr, -, h⟩ <;> rw [h]
  · exact ha
  · exact ⟨ha.1, ha.2.1, fun l hl => by cases hl; exact roundUp_inRange ha.interval.w_pos (hb v hv) hr, ha.2.2.2⟩

theorem updateUpper_wf (a : IntervalDomain) (b : Option Int) (ha : a.WF)
    (hb : ∀ v, b = some v → InRange a.interval.w v) : (a.updateUpper b).WF := by
  rcases updateUpper_cases a b with h | ⟨v, r, hv, hr, -, h⟩ <;> rw [h]
  · exact ha
  · exact ⟨ha.1, fun u hu => by cases hu; exact roundDown_inRange ha.interval.w_pos (hb v hv) hr, ha.2.2.1, ha.2.2.2⟩

theorem hintUpdates_wf {r : IntervalDomain} (hr : r.WF) {l1 l2 u1 u2 : Option Int}
    (hl1 : ∀ v, l1 = some v → InRange r.interval.w v) (hl2 : ∀ v, l2 = some v → InRange r.interval.w v)
    (hu1 : ∀ v, u1 = some v → InRange r.interval.w v) (hu2 : ∀ v, u2 = some v → InRange r.interval.w v) :
    ((((r.updateLower l1).updateLower l2).updateUpper u1).updateUpper u2).WF := by
  refine updateUpper_wf _ _ (updateUpper_wf _ _ (updateLower_wf _ _ (updateLower_wf _ _ hr hl1) ?_) ?_) ?_
  · rwa [updateLower_interval]
  · rwa [updateLower_interval, updateLower_interval]
  · rwa [updateUpper_interval, updateLower_interval, updateLower_interval]

end CweModel.C02
