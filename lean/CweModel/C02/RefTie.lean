/-
C02 — the tie of the concrete side of the soundness theorems to the P-Code REFERENCE semantics
`CweModel.Ref` (Base/Bv.lean) on core `BitVec`.

`C02/Props.lean` states soundness with the concrete semantics written as `Int` formulas (section `Conc`
of `C02/Model.lean`: `cadd … clzcount`). Here every one of these formulas is proved equal to the signed
reading (`BitVec.toInt`) of the corresponding reference operation, for every width (`cnot`: every positive
width), and the four summary theorems are restated with the concrete side being
`Ref.binOp / Ref.unOp / Ref.cast / Ref.subpieceOp` on bit-vectors whose signed readings are members.

The parameter `conc` of `IntervalDomain.binOp` (the call of `Bitvector::bin_op` for the operations the
domain evaluates on singletons only) is instantiated with the reference semantics itself (`refConc`);
by C01 (`binOp_eq_ref`) that is the model of `Bitvector::bin_op` (`implConc_eq_refConc`).
-/
import CweModel.C02.Props
import CweModel.C02.RefSem
import CweModel.C01.Props

namespace CweModel.C02
open CweModel CweModel.Itv

theorem toInt_ofInt_wrap (w : Nat) (i : Int) : (BitVec.ofInt w i).toInt = wrap w i := BitVec.toInt_ofInt i
theorem toInt_ofNat_wrap (w n : Nat) : (BitVec.ofNat w n).toInt = wrap w (n : Int) := BitVec.toInt_ofNat n

theorem toInt_congr_toNat {w : Nat} (x : BitVec w) : pow2 w ∣ x.toInt - (x.toNat : Int) :=
  dvd_sub_comm (toU_toInt x ▸ toU_congr w x.toInt)

theorem cnot_toInt {w : Nat} (hw : 0 < w) (x : BitVec w) : cnot w x.toInt = (Ref.not x).toInt := by
  have hr : InRange w (cnot w x.toInt) := cnot_inRange w (inRange_toInt x)
  rw [Ref.not, toInt_ofNat_wrap, ← wrap_of_inRange w hw hr]
  apply wrap_congr w hw
  obtain ⟨k, hk⟩ := toInt_congr_toNat x
  have hx := x.isLt
  have hc : ((2 ^ w - 1 - x.toNat : Nat) : Int) = pow2 w - 1 - (x.toNat : Int) := by
    unfold pow2; omega
  rw [hc]
  unfold cnot
  refine ⟨-k - 1, ?_⟩
  rw [Int.mul_sub, Int.mul_neg, ← hk]; omega

theorem cshl_toInt {w : Nat} (x : BitVec w) (n : Nat) : cshl w x.toInt n = (Ref.shl x n).toInt := by
  unfold cshl
  split
  · rename_i hn
    have hw : 0 < w := by omega
    rw [Ref.shl, toInt_ofNat_wrap]
    apply wrap_congr w hw
    obtain ⟨k, hk⟩ := toInt_congr_toNat x
    refine ⟨k * ((2 ^ n : Nat) : Int), ?_⟩
    rw [Int.natCast_mul, ← Int.sub_mul, hk, Int.mul_assoc]
  · rename_i hn
    rw [← C01.shl_eq, Impl.shl, if_neg hn]; simp

theorem czext_toInt {w : Nat} (x : BitVec w) (w' : Nat) : czext w w' x.toInt = (Ref.zext x w').toInt := by
  rw [czext, toU_toInt, Ref.zext, toInt_ofNat_wrap]

theorem csext_toInt {w : Nat} (x : BitVec w) (w' : Nat) : csext w w' x.toInt = (Ref.sext x w').toInt := by
  rw [csext, Ref.sext, toInt_ofInt_wrap]

theorem csubpiece_toInt {w : Nat} (x : BitVec w) (low size : Nat) :
    csubpiece w low size x.toInt = (Ref.subpiece x low size).toInt := by
  rw [csubpiece, toU_toInt, Ref.subpiece, toInt_ofNat_wrap]

/-- PIECE: both sides are core's `toInt_append` (`cpiece_eq`, `C01.ref_piece_eq_append`) -/
theorem cpiece_toInt {wh wl : Nat} (x : BitVec wh) (y : BitVec wl) :
    cpiece wh wl x.toInt y.toInt = (Ref.piece x y).toInt := by
  rw [C01.ref_piece_eq_append, BitVec.toInt_append]
  rcases Nat.eq_zero_or_pos wh with rfl | hh
  · rw [BitVec.of_length_zero (x := x), if_pos (by decide), cpiece, toU_toInt, BitVec.toInt_zero, Int.zero_mul,
      Int.zero_add, Nat.zero_add, BitVec.toInt_eq_toNat_bmod]; rfl
  · rw [if_neg (by simpa using Nat.ne_of_gt hh), (cpiece_eq wh wl hh (inRange_toInt x) y.toInt).1, toU_toInt,
      Int.mul_comm, pow2_int]

/-- one more (high) bit: `popCountNat` peels from the low end, `cpopNatRec` from the high end -/
theorem popCountNat_succ_mod (n m : Nat) :
    popCountNat (n + 1) (m % 2 ^ (n + 1)) = popCountNat n (m % 2 ^ n) + (m.testBit n).toNat := by
  induction n generalizing m with
  | zero =>
    simp only [popCountNat, Nat.toNat_testBit]
    simp
  | succ k ih =>
    have h1 : ∀ j, m % 2 ^ (j + 1) % 2 = m % 2 := fun j => by
      rw [Nat.pow_succ, Nat.mod_mul_left_mod]
    have h2 : ∀ j, m % 2 ^ (j + 1) / 2 = m / 2 % 2 ^ j := fun j => by
      rw [Nat.pow_succ, Nat.mul_comm, Nat.mod_mul_right_div_self]
    have hb : m.testBit (k + 1) = (m / 2).testBit k := by
      rw [Nat.testBit_succ]
    rw [popCountNat, h1, h2, ih (m / 2)]
    conv => rhs; rw [popCountNat, h1, h2]
    rw [hb]; omega

theorem cpopNatRec_eq_popCountNat {w : Nat} (x : BitVec w) (n : Nat) :
    x.cpopNatRec n 0 = popCountNat n (x.toNat % 2 ^ n) := by
  induction n with
  | zero => simp [popCountNat]
  | succ k ih =>
    rw [BitVec.cpopNatRec_succ, BitVec.cpopNatRec_eq, ih, popCountNat_succ_mod, BitVec.testBit_toNat]
    omega

theorem popCountNat_toNat {w : Nat} (x : BitVec w) : popCountNat w x.toNat = Ref.popcount x := by
  rw [Ref.popcount, BitVec.toNat_cpop, cpopNatRec_eq_popCountNat, Nat.mod_eq_of_lt x.isLt]

theorem cpopcount_toInt {w : Nat} (x : BitVec w) (w' : Nat) :
    cpopcount w w' x.toInt = (BitVec.ofNat w' (Ref.popcount x)).toInt := by
  rw [cpopcount, toU_toInt, popCountNat_toNat, toInt_ofNat_wrap]

/-- both sides have at least `k` leading zeros exactly when `x < 2^(w-k)` -/
theorem bitLen_toNat {w : Nat} (x : BitVec w) : w - bitLen w x.toNat = Ref.lzcount x := by
  unfold Ref.lzcount
  have hle := C01.clz_toNat_le x
  apply Nat.le_antisymm
  · -- one more leading zero than `clz` would put a non-zero `x` below its leading bit
    apply Nat.le_of_not_lt fun hlt => ?_
    have hk : x.clz.toNat + 1 ≤ w := Nat.le_trans hlt (Nat.sub_le _ _)
    have hx := (le_sub_bitLen_iff w x.isLt hk).mp hlt
    have hne : x ≠ 0#w := fun h0 => by
      have : (0#w).clz = BitVec.ofNat w w := BitVec.clz_eq_iff_eq_zero.mpr rfl
      rw [h0, this, BitVec.toNat_ofNat, Nat.mod_eq_of_lt Nat.lt_two_pow_self] at hk
      exact Nat.not_succ_le_self w hk
    have := BitVec.two_pow_sub_clz_le_toNat_of_ne_zero (Nat.lt_of_lt_of_le (Nat.succ_pos _) hk) hne
    rw [Nat.sub_add_eq, Nat.sub_right_comm] at hx
    exact Nat.not_lt.mpr this hx
  · exact (le_sub_bitLen_iff w x.isLt hle).mpr BitVec.toNat_lt_two_pow_sub_clz

theorem clzcount_toInt {w : Nat} (x : BitVec w) (w' : Nat) :
    clzcount w w' x.toInt = (BitVec.ofNat w' (Ref.lzcount x)).toInt := by
  rw [clzcount, leadingZeros, toU_toInt, bitLen_toNat, toInt_ofNat_wrap]

theorem cadd_ref {w : Nat} (x y : BitVec w) : cadd w x.toInt y.toInt = (Ref.add x y).toInt := by
  rw [← C01.add_eq, cadd_toInt]
theorem csub_ref {w : Nat} (x y : BitVec w) : csub w x.toInt y.toInt = (Ref.sub x y).toInt := by
  rw [← C01.sub_eq, csub_toInt]
theorem cmul_ref {w : Nat} (x y : BitVec w) : cmul w x.toInt y.toInt = (Ref.mul x y).toInt := by
  rw [← C01.mul_eq, cmul_toInt]
theorem cneg_ref {w : Nat} (x : BitVec w) : cneg w x.toInt = (Ref.neg x).toInt := by
  rw [← C01.neg_eq, cneg_toInt]

/-- the boolean operations are defined on 1-byte operands -/
def isBool : BinOp → Bool
  | .boolXOr | .boolAnd | .boolOr => true
  | _ => false

/-- what the soundness of `bin_op` against the reference semantics asks of the parameter `conc` at `op`: values
of the result width, and the value of the reference where the reference has one -/
structure ConcRef (conc : BinOp → Int → Int → Option Int) (op : BinOp) (wa wb : Nat) : Prop where
  range : ∀ x y v, conc op x y = some v → InRange (binOpWidth op wa wb) v
  ref : ∀ (x : BitVec wa) (y : BitVec wb) (r : Bv), Ref.binOp (toIRBin op) ⟨wa, x⟩ ⟨wb, y⟩ = .val r →
    conc op x.toInt y.toInt = some r.toInt

/-- **C02-ref-binop-conc.** Whenever the reference semantics defines a value `r` for `x op y`, the
concrete semantics used by `binOp_sound` (the `Int` formulas for the five operations with a transfer
function of their own, `conc` for the others) yields the signed reading of `r`. -/
theorem ref_binOp_conc_of {conc : BinOp → Int → Int → Option Int} (op : BinOp) (wa wb : Nat) (hwid : BinWidths op wa wb)
    (x : BitVec wa) (y : BitVec wb) {r : Bv} (hr : Ref.binOp (toIRBin op) ⟨wa, x⟩ ⟨wb, y⟩ = .val r)
    (hc : conc op x.toInt y.toInt = some r.toInt) :
    concBin conc op wa wb x.toInt y.toInt = some r.toInt := by
  by_cases hsp : isSpecial op = true
  · rcases special_cases hsp with rfl | rfl | rfl | rfl | rfl
    · -- PIECE
      cases hr
      exact congrArg some (cpiece_toInt x y)
    · -- INT_ADD
      obtain rfl : wb = wa := hwid
      simp only [toIRBin, Ref.binOp, sameW, dite_true, valV, Res.val.injEq] at hr
      subst hr
      exact congrArg some (cadd_ref x y)
    · -- INT_SUB
      obtain rfl : wb = wa := hwid
      simp only [toIRBin, Ref.binOp, sameW, dite_true, valV, Res.val.injEq] at hr
      subst hr
      exact congrArg some (csub_ref x y)
    · -- INT_MULT
      obtain rfl : wb = wa := hwid
      simp only [toIRBin, Ref.binOp] at hr
      split at hr
      · cases hr
      · simp only [sameW, dite_true, valV, Res.val.injEq] at hr
        subst hr
        exact congrArg some (cmul_ref x y)
    · -- INT_LEFT
      simp only [toIRBin, Ref.binOp, valV] at hr
      split at hr
      · cases hr
        simp only [concBin, Bv.toInt, Bv.toNat, C01.Ref.shl_clamp, toU_toInt, cshl_toInt]
      · cases hr
  · rw [concBin_fallthrough _ op _ _ _ _ (Bool.eq_false_iff.mpr hsp)]
    exact hc

/-- the reference result has the width `bin_op_bytesize` prescribes (boolean operations: on bytes): C01's
width of a reference result, read through `toIRBin` -/
theorem ref_binOp_width (op : BinOp) (wa wb : Nat) (hwid : BinWidths op wa wb)
    (hbool : isBool op = true → wa = 8) (x : BitVec wa) (y : BitVec wb)
    {r : Bv} (hr : Ref.binOp (toIRBin op) ⟨wa, x⟩ ⟨wb, y⟩ = .val r) : r.w = binOpWidth op wa wb := by
  rw [C01.ref_binOp_w hr]
  cases op <;> first | rfl | exact hbool rfl

theorem resInt_eq_some {R : Res} {v : Int} (h : resInt R = some v) : ∃ r, R = .val r ∧ r.toInt = v := by
  cases R <;> first | exact ⟨_, rfl, Option.some.inj h⟩ | cases h

/-- **C02-ref-binop (soundness against the P-Code reference semantics), for every evaluation on singletons that computes
the reference value.** The result of `bin_op` is well-formed and has the width `bin_op_bytesize` prescribes; for all
bit-vectors `x`, `y` whose signed readings are members of γ a, γ b: if the reference semantics defines `x op y = r`,
then the signed reading of `r` is a member of γ (a op b), and `r` has the width of the abstract result. -/
theorem binOp_sound_conc (conc : BinOp → Int → Int → Option Int) (a b : IntervalDomain) (op : BinOp) (ha : a.WF) (hb : b.WF)
    (hwid : BinWidths op a.interval.w b.interval.w) (hbool : isBool op = true → a.interval.w = 8)
    (hc : ConcRef conc op a.interval.w b.interval.w) :
    ((a.binOp conc op b).WF ∧ (a.binOp conc op b).interval.w = binOpWidth op a.interval.w b.interval.w) ∧
    ∀ (x : BitVec a.interval.w) (y : BitVec b.interval.w) {r : Bv}, a.Mem x.toInt → b.Mem y.toInt →
      Ref.binOp (toIRBin op) ⟨a.interval.w, x⟩ ⟨b.interval.w, y⟩ = .val r →
      (a.binOp conc op b).Mem r.toInt ∧ r.w = (a.binOp conc op b).interval.w := by
  have hwf := (binOp_spec conc a b op ha hb hwid hc.range (a.interval.start_mem ha.interval.start_le_stop)
    (b.interval.start_mem hb.interval.start_le_stop)).2
  refine ⟨hwf, fun x y r hx hy hr => ⟨?_, (ref_binOp_width op _ _ hwid hbool x y hr).trans hwf.2.symm⟩⟩
  exact (binOp_spec conc a b op ha hb hwid hc.range hx hy).1 _
    (ref_binOp_conc_of op _ _ hwid x y hr (hc.ref x y r hr))

theorem refConc_ref (op : BinOp) (wa wb : Nat) (hwid : BinWidths op wa wb) (hbool : isBool op = true → wa = 8) :
    ConcRef (refConc wa wb) op wa wb where
  range x' y' v hv := by
    obtain ⟨r', hR, rfl⟩ := resInt_eq_some hv
    exact (ref_binOp_width op _ _ hwid hbool _ _ hR) ▸ inRange_toInt r'.v
  ref x y r hr := by rw [refConc, BitVec.ofInt_toInt, BitVec.ofInt_toInt, hr]; rfl

theorem ref_binOp_conc (op : BinOp) (wa wb : Nat) (hwid : BinWidths op wa wb) (x : BitVec wa) (y : BitVec wb)
    {r : Bv} (hr : Ref.binOp (toIRBin op) ⟨wa, x⟩ ⟨wb, y⟩ = .val r) :
    concBin (refConc wa wb) op wa wb x.toInt y.toInt = some r.toInt :=
  ref_binOp_conc_of op wa wb hwid x y hr (by rw [refConc, BitVec.ofInt_toInt, BitVec.ofInt_toInt, hr]; rfl)

/-- **C02-ref-binop.** `binOp_sound_conc` with the `Bitvector::bin_op` call inside `bin_op` being the reference itself
(`refConc`). -/
theorem binOp_sound_ref (a b : IntervalDomain) (op : BinOp) (ha : a.WF) (hb : b.WF) (hw1 : 1 < a.interval.w)
    (hwid : BinWidths op a.interval.w b.interval.w) (hbool : isBool op = true → a.interval.w = 8)
    (x : BitVec a.interval.w) (y : BitVec b.interval.w) (hx : a.Mem x.toInt) (hy : b.Mem y.toInt)
    {r : Bv} (hr : Ref.binOp (toIRBin op) ⟨a.interval.w, x⟩ ⟨b.interval.w, y⟩ = .val r) :
    (a.binOp (refConc a.interval.w b.interval.w) op b).Mem r.toInt ∧
      r.w = (a.binOp (refConc a.interval.w b.interval.w) op b).interval.w :=
  (binOp_sound_conc _ a b op ha hb hwid hbool (refConc_ref op _ _ hwid hbool)).2 x y hx hy hr

theorem toInt_byte_eq_zero (x : BitVec 8) : x.toInt = 0 ↔ x.toNat = 0 := by
  have := x.isLt
  rw [BitVec.toInt_eq_toNat_cond]; split <;> omega

theorem toInt_byte_eq_one (x : BitVec 8) : x.toInt = 1 ↔ x.toNat = 1 := by
  have := x.isLt
  rw [BitVec.toInt_eq_toNat_cond]; split <;> omega

/-- **C02-ref-unop-conc.** `concUn` yields the signed reading of the reference value (BOOL_NEGATE: on
bytes, where it is defined). -/
theorem ref_unOp_conc (op : UnOp) (w : Nat) (hw : 0 < w) (hbool : op = .boolNegate → w = 8) (x : BitVec w)
    {r : Bv} (hr : Ref.unOp (toIRUn op) ⟨w, x⟩ = .val r) : concUn op w x.toInt = some r.toInt := by
  cases op with
  | intNegate => cases hr; exact congrArg some (cnot_toInt hw x)
  | int2Comp => cases hr; exact congrArg some (cneg_ref x)
  | boolNegate =>
    obtain rfl := hbool rfl
    simp only [toIRUn, Ref.unOp, Bv.toNat] at hr
    simp only [concUn, if_true]
    by_cases h0 : x.toNat = 0
    · rw [if_pos h0] at hr; cases hr
      rw [if_pos ((toInt_byte_eq_zero x).mpr h0)]; rfl
    · rw [if_neg h0] at hr
      rw [if_neg fun h => h0 ((toInt_byte_eq_zero x).mp h)]
      by_cases h1 : x.toNat = 1
      · rw [if_pos ⟨trivial, h1⟩] at hr; cases hr
        rw [if_pos ((toInt_byte_eq_one x).mpr h1)]; rfl
      · rw [if_neg fun h => h1 h.2] at hr; cases hr
  | _ => cases hr

theorem ref_unOp_width (a : IntervalDomain) (op : UnOp) (hbool : op = .boolNegate → a.interval.w = 8)
    (x : BitVec a.interval.w) {r : Bv} (hr : Ref.unOp (toIRUn op) ⟨a.interval.w, x⟩ = .val r) :
    r.w = (a.unOp op).interval.w := by
  cases op with
  | intNegate =>
    rw [valV_w hr]
    show _ = (a.interval.bitwiseNot).w
    unfold Interval.bitwiseNot; split <;> rfl
  | int2Comp =>
    rw [valV_w hr]
    show _ = (a.interval.int2Comp).w
    unfold Interval.int2Comp; split <;> rfl
  | boolNegate =>
    have hr8 : r.w = 8 := by
      dsimp only [toIRUn, Ref.unOp] at hr
      split at hr
      · exact valB_w hr
      · split at hr
        · exact valB_w hr
        · cases hr
    rw [hr8]
    unfold IntervalDomain.unOp
    simp only
    split
    · split <;> rfl
    · exact (hbool rfl).symm
  | _ => cases hr

/-- **C02-ref-unop (soundness against the P-Code reference semantics).** For every bit-vector `x` whose
signed reading is a member of γ a: if the reference defines `op x = r`, the signed reading of `r` is a
member of γ (op a), and `r` has the width of the abstract result. -/
theorem unOp_sound_ref (a : IntervalDomain) (op : UnOp) (ha : a.WF) (hbool : op = .boolNegate → a.interval.w = 8)
    (x : BitVec a.interval.w) (hx : a.Mem x.toInt)
    {r : Bv} (hr : Ref.unOp (toIRUn op) ⟨a.interval.w, x⟩ = .val r) :
    (a.unOp op).Mem r.toInt ∧ r.w = (a.unOp op).interval.w :=
  ⟨unOp_sound a op ha hx (ref_unOp_conc op _ ha.interval.w_pos hbool x hr), ref_unOp_width a op hbool x hr⟩

/-- **C02-ref-cast-conc.** `concCast` yields the signed reading of the reference value; the reference
defines the extensions only towards a width that is not smaller. -/
theorem ref_cast_conc (op : CastOp) (w bytes : Nat) (x : BitVec w)
    {r : Bv} (hr : Ref.cast (toIRCast op) bytes ⟨w, x⟩ = .val r) :
    concCast op w (8 * bytes) x.toInt = some r.toInt ∧ r.w = 8 * bytes ∧
      ((op = .intZExt ∨ op = .intSExt) → w ≤ 8 * bytes) := by
  cases op with
  | intZExt =>
    dsimp only [toIRCast, Ref.cast] at hr
    split at hr
    · cases hr; exact ⟨congrArg some (czext_toInt x _), rfl, fun _ => ‹_›⟩
    · cases hr
  | intSExt =>
    dsimp only [toIRCast, Ref.cast] at hr
    split at hr
    · cases hr; exact ⟨congrArg some (csext_toInt x _), rfl, fun _ => ‹_›⟩
    · cases hr
  | popCount => cases hr; exact ⟨congrArg some (cpopcount_toInt x _), rfl, fun h => h.elim nofun nofun⟩
  | lzCount => cases hr; exact ⟨congrArg some (clzcount_toInt x _), rfl, fun h => h.elim nofun nofun⟩
  | _ => cases hr

/-- **C02-ref-cast (soundness against the P-Code reference semantics).** `bytes` is the target size
(no restriction on the widths of the count casts). -/
theorem cast_sound_ref (a : IntervalDomain) (op : CastOp) (bytes : Nat) (ha : a.WF) (hb : 0 < bytes)
    (x : BitVec a.interval.w) (hx : a.Mem x.toInt)
    {r : Bv} (hr : Ref.cast (toIRCast op) bytes ⟨a.interval.w, x⟩ = .val r) :
    (a.cast op (8 * bytes)).Mem r.toInt ∧ r.w = (a.cast op (8 * bytes)).interval.w := by
  obtain ⟨hz, hrw, hext⟩ := ref_cast_conc op _ bytes x hr
  have hw' : 1 < 8 * bytes := by omega
  exact ⟨cast_sound a op (8 * bytes) ha hw' hext hx hz,
    by rw [hrw, (cast_wf a op (8 * bytes) ha hw' hext).2]⟩

/-- **C02-ref-subpiece (soundness against the P-Code reference semantics).** `lowByte` bytes are dropped
and `size` bytes kept; the extracted bytes lie inside the operand. -/
theorem subpiece_sound_ref (a : IntervalDomain) (lowByte size : Nat) (ha : a.WF) (hs0 : 0 < size)
    (hs : 8 * lowByte + 8 * size ≤ a.interval.w) (x : BitVec a.interval.w) (hx : a.Mem x.toInt)
    {r : Bv} (hr : Ref.subpieceOp lowByte size ⟨a.interval.w, x⟩ = .val r) :
    (a.subpiece (8 * lowByte) (8 * size)).Mem r.toInt ∧
      r.w = (a.subpiece (8 * lowByte) (8 * size)).interval.w := by
  have hsz : 1 < 8 * size := by omega
  simp only [Ref.subpieceOp, valV] at hr
  split at hr
  · simp only [Res.val.injEq] at hr; subst hr
    refine ⟨?_, (subpiece_wf a _ _ ha hsz hs).2.symm⟩
    simp only [Bv.toInt, ← csubpiece_toInt]
    exact subpiece_sound a _ _ ha hsz hs hx
  · cases hr

/-- under the hypotheses of `subpiece_sound_ref` the reference does define a value -/
theorem ref_subpieceOp_defined (w lowByte size : Nat) (hs0 : 0 < size) (hs : 8 * lowByte + 8 * size ≤ w)
    (x : BitVec w) : Ref.subpieceOp lowByte size ⟨w, x⟩ = .val ⟨8 * size, Ref.subpiece x (8 * lowByte) (8 * size)⟩ := by
  simp only [Ref.subpieceOp, valV]
  rw [if_pos ⟨by omega, by omega⟩]

theorem resInt_sameW_of_ne {a b : Bv} (h : a.w ≠ b.w) (f : {w : Nat} → BitVec w → BitVec w → Res) :
    resInt (sameW a b f) = none := by
  unfold sameW; rw [dif_neg h]; rfl

theorem resInt_sameWErr_of_ne {a b : Bv} (h : a.w ≠ b.w) (f : {w : Nat} → BitVec w → BitVec w → Res) :
    resInt (sameWErr a b f) = none := by
  unfold sameWErr; rw [dif_neg h]; rfl

/-- the model of `Bitvector::bin_op` and the reference define the same values, for operands of all sizes:
on admissible sizes they agree (C01), on the others neither yields a value (`panic` or `Err`) -/
theorem resInt_binOp_eq (op : IR.BinOpType) (a b : Bv) :
    resInt (Impl.binOp op a b) = resInt (Ref.binOp op a b) := by
  by_cases h : C01.WellSizedBin op a b
  · rw [C01.binOp_eq_ref _ _ _ h]
  · cases op with
    | Piece => exact absurd trivial h
    | IntLeft | IntRight | IntSRight =>
      dsimp only [C01.WellSizedBin] at h
      dsimp only [Impl.binOp, Ref.binOp]; rw [if_neg h, if_neg h]
    | IntMult | IntDiv | IntRem | IntSDiv | IntSRem =>
      dsimp only [Impl.binOp, Ref.binOp]
      by_cases h64 : a.w > 64
      · rw [if_pos h64, if_pos h64]
      · simp only [if_neg h64, resInt_sameW_of_ne h, resInt_sameWErr_of_ne h]
    | FloatEqual | FloatNotEqual | FloatLess | FloatLessEqual | FloatAdd | FloatSub | FloatMult | FloatDiv
    | IntXOr | IntAnd | IntOr | BoolXOr | BoolAnd | BoolOr =>
      rfl
    | _ =>
      dsimp only [Impl.binOp, Ref.binOp]
      simp only [resInt_sameW_of_ne h]

/-- the model of `Bitvector::bin_op` (Base/Bv.lean, the subject of C01) as the parameter `conc` -/
def implConc (wa wb : Nat) (op : BinOp) (x y : Int) : Option Int :=
  resInt (Impl.binOp (toIRBin op) ⟨wa, BitVec.ofInt wa x⟩ ⟨wb, BitVec.ofInt wb y⟩)

/-- **C02-conc-is-ref.** The model of `Bitvector::bin_op` and the reference semantics are the same
`conc` parameter — for all operations, widths and operands (outside the admissible operand sizes both
yield no value). Hence `binOp_sound_ref` speaks about `bin_op` with the (model of the) real call. -/
theorem implConc_eq_refConc : implConc = refConc := by
  funext wa wb op x y
  exact resInt_binOp_eq _ _ _

theorem implConc_ref (op : BinOp) (wa wb : Nat) (hwid : BinWidths op wa wb) (hbool : isBool op = true → wa = 8) :
    ConcRef (implConc wa wb) op wa wb :=
  implConc_eq_refConc ▸ refConc_ref op wa wb hwid hbool

/-- **C02-impl-binop.** `binOp_sound_conc` with the model of the real `Bitvector::bin_op` on both sides:
as the call inside `bin_op` (`implConc`) and as the concrete semantics of the operation on members. -/
theorem binOp_sound_impl (a b : IntervalDomain) (op : BinOp) (ha : a.WF) (hb : b.WF) (hw1 : 1 < a.interval.w)
    (hwid : BinWidths op a.interval.w b.interval.w) (hbool : isBool op = true → a.interval.w = 8)
    (x : BitVec a.interval.w) (y : BitVec b.interval.w) (hx : a.Mem x.toInt) (hy : b.Mem y.toInt)
    {r : Bv} (hr : Impl.binOp (toIRBin op) ⟨a.interval.w, x⟩ ⟨b.interval.w, y⟩ = .val r) :
    (a.binOp (implConc a.interval.w b.interval.w) op b).Mem r.toInt := by
  have h := resInt_binOp_eq (toIRBin op) ⟨a.interval.w, x⟩ ⟨b.interval.w, y⟩
  rw [hr] at h
  obtain ⟨r', hR, hv⟩ := resInt_eq_some h.symm
  exact hv ▸ ((binOp_sound_conc _ a b op ha hb hwid hbool (implConc_ref op _ _ hwid hbool)).2 x y hx hy hR).1

/-! ### the reference defines a value under the width hypotheses (the theorems are not vacuous) -/

theorem ref_binOp_add_defined {w : Nat} (x y : BitVec w) :
    Ref.binOp .IntAdd ⟨w, x⟩ ⟨w, y⟩ = .val ⟨w, Ref.add x y⟩ := by
  simp only [Ref.binOp, sameW, dite_true, valV]

theorem ref_binOp_piece_defined {wh wl : Nat} (x : BitVec wh) (y : BitVec wl) :
    Ref.binOp .Piece ⟨wh, x⟩ ⟨wl, y⟩ = .val ⟨wh + wl, Ref.piece x y⟩ := rfl

theorem ref_binOp_left_defined {w v : Nat} (x : BitVec w) (y : BitVec v) (h : y.toNat < 2 ^ 64) :
    Ref.binOp .IntLeft ⟨w, x⟩ ⟨v, y⟩ = .val ⟨w, Ref.shl x y.toNat⟩ := by
  simp only [Ref.binOp, Bv.toNat, h, if_true, valV, C01.Ref.shl_clamp]

/-- `-3 + 25` on the example values of `Props.lean`: the sum of the bit-vectors is a member -/
example : (exA.binOp (refConc 8 8) .intAdd exB).Mem (Ref.add (BitVec.ofInt 8 (-3)) (25#8)).toInt :=
  (binOp_sound_ref exA exB .intAdd exA_wf exB_wf (by decide) rfl nofun
    (BitVec.ofInt 8 (-3)) (25#8) (by decide) (by decide) (ref_binOp_add_defined _ _)).1

/-- a fall-through operation on singletons is evaluated by the reference itself: `5 <ₛ 30` -/
example : ((IntervalDomain.single 8 5).binOp (refConc 8 8) .intSLess (IntervalDomain.single 8 30)).Mem 1 := by decide

example : (exA.cast .intZExt 16).Mem (Ref.zext (BitVec.ofInt 8 (-1)) 16).toInt :=
  (cast_sound_ref exA .intZExt 2 exA_wf (by decide)
    (BitVec.ofInt 8 (-1)) (by decide) (r := ⟨16, Ref.zext (BitVec.ofInt 8 (-1)) 16⟩) rfl).1

example : (Ref.zext (BitVec.ofInt 8 (-1)) 16).toInt = 255 := by decide
example : (Ref.not (5#8)).toInt = cnot 8 5 := by decide
example : Ref.lzcount (3#8) = 6 ∧ Ref.popcount (0xff#8) = 8 := by decide

end CweModel.C02
