/-
C02 — `sign_extend` and `zero_extend`, with the facts about `trailing_zeros` of the stride that `zero_extend` and
`piece` need for their call of `adjust_to_stride_and_remainder`.
-/
import CweModel.C02.Adjust

namespace CweModel.C02
open CweModel.Itv

/-- the interval part of `IntervalDomain::sign_extend` -/
def signExtendI (I : Interval) (w' : Nat) : Interval :=
  { w := w', start := csext I.w w' I.start, stop := csext I.w w' I.stop, stride := I.stride }

theorem csext_eq {w w' : Nat} (hw0 : 0 < w) (h : w ≤ w') {x : Int} (hx : InRange w x) : csext w w' x = x :=
  wrap_of_inRange w' (by omega) (inRange_mono h hx)

theorem signExtend_spec (I : Interval) (hI : I.WF) (w' : Nat) (h : I.w ≤ w') {x : Int} (hx : I.Mem x) :
    (signExtendI I w').Mem (csext I.w w' x) ∧ (signExtendI I w').WF := by
  have hw0 := hI.w_pos
  unfold signExtendI
  rw [csext_eq hw0 h (Interval.mem_inRange hI hx), csext_eq hw0 h hI.start_inRange, csext_eq hw0 h hI.stop_inRange]
  exact translate_spec hI hx (by omega) (inRange_mono h hI.start_inRange) (inRange_mono h hI.stop_inRange) rfl rfl

/-- **C02-sext (soundness).** -/
theorem signExtend_sound (I : Interval) (hI : I.WF) (w' : Nat) (h : I.w ≤ w') {x : Int} (hx : I.Mem x) :
    (signExtendI I w').Mem (csext I.w w' x) := (signExtend_spec I hI w' h hx).1

/-- **C02-sext (well-formedness).** -/
theorem signExtend_wf (I : Interval) (hI : I.WF) (w' : Nat) (h : I.w ≤ w') :
    (signExtendI I w').WF ∧ (signExtendI I w').w = w' :=
  ⟨(signExtend_spec I hI w' h (I.start_mem hI.start_le_stop)).2, rfl⟩

theorem tz_go_spec (fuel n acc : Nat) : ∃ k, trailingZeros64.go fuel n acc = acc + k ∧ 2 ^ k ∣ n := by
  induction fuel generalizing n acc with
  | zero => exact ⟨0, rfl, Nat.one_dvd n⟩
  | succ f ih =>
    unfold trailingZeros64.go
    split
    · exact ⟨0, rfl, Nat.one_dvd n⟩
    · rename_i hodd
      obtain ⟨k, hk, hd⟩ := ih (n / 2) (acc + 1)
      refine ⟨k + 1, by rw [hk, Nat.add_assoc, Nat.add_comm 1 k], ?_⟩
      rw [Nat.pow_succ, ← Nat.div_mul_cancel (Nat.dvd_of_mod_eq_zero (show n % 2 = 0 by omega))]
      exact Nat.mul_dvd_mul hd (Nat.dvd_refl 2)

theorem pow_tz_dvd (n : Nat) (hn : n ≠ 0) : 2 ^ trailingZeros64 n ∣ n := by
  unfold trailingZeros64
  obtain ⟨k, hk, hd⟩ := tz_go_spec 64 n 0
  rw [if_neg hn, hk, Nat.zero_add]; exact hd

theorem pow_tz_le (n : Nat) (hn : n ≠ 0) : 2 ^ trailingZeros64 n ≤ n :=
  Nat.le_of_dvd (by omega) (pow_tz_dvd n hn)

theorem tz_lt_64 (s : Nat) (hs0 : s ≠ 0) (hs : s < 2 ^ 64) : trailingZeros64 s < 64 := by
  have h := pow_tz_le s hs0
  by_cases hlt : trailingZeros64 s < 64
  · exact hlt
  · have := Nat.pow_le_pow_right (by decide : 0 < 2) (show 64 ≤ trailingZeros64 s by omega)
    omega

theorem pow_tz_facts (J : Interval) (hJ : J.WF) (hne : J.start ≠ J.stop) :
    trailingZeros64 J.stride < 64 ∧ pow2 (trailingZeros64 J.stride) ∣ pow2 J.w ∧
    (∀ y, J.Mem y → pow2 (trailingZeros64 J.stride) ∣ (toU J.w y : Int) - J.start) := by
  obtain ⟨hw0, hJs, hJe, hle, h0, hd, hu⟩ := hJ
  have hst0 : J.stride ≠ 0 := fun hz => hne (h0.mp hz)
  have hTd : pow2 (trailingZeros64 J.stride) ∣ (J.stride : Int) :=
    Int.natCast_dvd_natCast.mpr (pow_tz_dvd J.stride hst0)
  -- `2^tz ≤ stride ≤ stop - start < 2^w`
  have hTP : pow2 (trailingZeros64 J.stride) ∣ pow2 J.w := by
    have hP2 := pow2_eq J.w hw0
    have hTle : pow2 (trailingZeros64 J.stride) ≤ (J.stride : Int) := Int.ofNat_le.mpr (pow_tz_le J.stride hst0)
    have hstle : (J.stride : Int) ≤ J.stop - J.start := Int.le_of_dvd (by omega) hd
    unfold InRange smin smax at hJs hJe
    exact pow2_dvd_of_lt (by omega)
  exact ⟨tz_lt_64 _ hst0 hu, hTP, fun y hy =>
    dvd_sub_of_dvd_sub (c := y) (Int.dvd_trans hTP (toU_congr J.w y))
      (dvd_sub_comm (Int.dvd_trans hTd hy.2.2))⟩

theorem inRange_of_nonneg_lt {w w' : Nat} (h : w < w') {z : Int} (h0 : 0 ≤ z) (h1 : z < pow2 w) :
    InRange w' z := by
  have := pow2_le_pow2 (show w ≤ w' - 1 by omega)
  unfold InRange smin smax; omega

theorem czext_eq {w w' : Nat} (h : w < w') (x : Int) : czext w w' x = (toU w x : Int) :=
  wrap_of_inRange w' (by omega) (inRange_of_nonneg_lt h (toU_nonneg w x) (toU_lt w x))

theorem czext_self {w : Nat} (hw : 0 < w) {x : Int} (hx : InRange w x) : czext w w x = x := by
  unfold czext
  obtain ⟨k, hk⟩ := toU_congr w x
  exact wrap_eq w hw k hx (by rw [Int.mul_comm]; omega)

theorem toU64_two_pow {t : Nat} (ht : t < 64) : toU 64 ((2 ^ t : Nat) : Int) = 2 ^ t :=
  Int.ofNat_inj.mp (toU_of_nonneg_lt 64 (Int.natCast_nonneg _) (pow2_lt_pow2 ht))

theorem zeroExtend_spec (I : Interval) (hI : I.WF) (w' : Nat) (h : I.w ≤ w') {x : Int} (hx : I.Mem x) :
    (I.zeroExtend w').Mem (czext I.w w' x) ∧ (I.zeroExtend w').WF ∧ (I.zeroExtend w').w = w' := by
  have hxr := Interval.mem_inRange hI hx
  obtain ⟨hw0, hIs, hIe, hle, _⟩ := id hI
  -- the case analysis is done on one copy of the result
  generalize hR : I.zeroExtend w' = R
  unfold Interval.zeroExtend at hR
  by_cases heq : I.w = w'
  · rw [if_pos heq] at hR; subst hR heq
    rw [czext_self hw0 hxr]; exact ⟨hx, hI, rfl⟩
  have hlt : I.w < w' := by omega
  have hw0' : 0 < w' := by omega
  have hzr : ∀ y, InRange w' (toU I.w y : Int) := fun y =>
    inRange_of_nonneg_lt hlt (toU_nonneg I.w y) (toU_lt I.w y)
  rw [czext_eq hlt x]
  rw [if_neg heq] at hR
  by_cases hsign : I.start < 0 ↔ I.stop < 0
  · -- both bounds have the same sign: all unsigned readings are shifted by the same amount
    rw [if_pos (by simpa only [beq_iff_eq, decide_eq_decide] using hsign), czext_eq hlt, czext_eq hlt] at hR
    subst hR
    have hns : ¬ (I.start < 0 ∧ 0 ≤ I.stop) := fun hc => by omega
    have := translate_spec hI hx hw0' (hzr I.start) (hzr I.stop)
      (toU_sub_toU I.w hw0 hIs hxr hx.1 fun hc => hns ⟨hc.1, Int.le_trans hc.2 hx.2.1⟩)
      (toU_sub_toU I.w hw0 hIs hIe hle hns)
    exact ⟨this.1, this.2, rfl⟩
  · -- the interval contains -1 and 0: `[0, 2^w - 1]`, adjusted to the residue class of `start` modulo the
    -- power of two in the stride
    have hP2 := pow2_eq I.w hw0
    have hM := pow2_pos (I.w - 1)
    have humax : wrap w' (((2 ^ I.w : Nat) : Int) - 1) = pow2 I.w - 1 :=
      wrap_of_inRange w' hw0' (inRange_of_nonneg_lt hlt (by rw [pow2_nat]; omega) (by rw [pow2_nat]; omega))
    rw [if_neg (by simpa only [beq_iff_eq, decide_eq_decide] using hsign), humax] at hR
    have hJe : InRange w' (pow2 I.w - 1) := inRange_of_nonneg_lt hlt (by omega) (by omega)
    have hx2 : (toU I.w x : Int) ≤ pow2 I.w - 1 := by have := toU_lt I.w x; omega
    obtain ⟨htz, _, hcls⟩ := pow_tz_facts I hI (fun he => hsign (by rw [he]))
    cases hs : tryToI128 I.w I.start with
    | some s =>
      obtain ⟨r, hr, hrwf, hrw, hmem⟩ := adjust_pow2
        { w := w', start := 0, stop := pow2 I.w - 1, stride := 2 ^ trailingZeros64 I.stride }
        (trailingZeros64 I.stride) s hw0' (inRange_zero w') hJe htz (toU_nonneg I.w x) hx2 fun h64 => by
          have := tryToI128_inRange hw0 (Nat.le_of_lt (Nat.lt_of_lt_of_le hlt h64)) hIs
          rw [hs] at this; cases this
          exact hcls x hx
      rw [hs] at hR
      dsimp only at hR
      rw [toU64_two_pow htz, trem_fix s ((2 ^ trailingZeros64 I.stride : Nat) : Int) (pow2_pos _), hr] at hR
      subst hR; exact ⟨hmem, hrwf, hrw⟩
    | none =>
      rw [hs] at hR; subst hR
      have := unitStride_spec hw0' (inRange_zero w') hJe (toU_nonneg I.w x) hx2 (by omega)
      exact ⟨this.1, this.2, rfl⟩

/-- **C02-zext (soundness).** -/
theorem zeroExtend_sound (I : Interval) (hI : I.WF) (w' : Nat) (h : I.w ≤ w') {x : Int} (hx : I.Mem x) :
    (I.zeroExtend w').Mem (czext I.w w' x) := (zeroExtend_spec I hI w' h hx).1

/-- **C02-zext (well-formedness).** -/
theorem zeroExtend_wf (I : Interval) (hI : I.WF) (w' : Nat) (h : I.w ≤ w') :
    (I.zeroExtend w').WF ∧ (I.zeroExtend w').w = w' :=
  (zeroExtend_spec I hI w' h (Interval.start_mem I hI.start_le_stop)).2

end CweModel.C02
