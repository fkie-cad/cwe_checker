/-
C14. Property: "For every function, each parameter register of the function's calling convention whose
entry value can be read on some path from the function entry before being overwritten is reported
as a parameter of the function."

Proved, for all flow programs (so for all IR projects through `compile`):
 * the oracle: the tables of `solveB` (per register, backward reachability in the graph of the edges that
   keep the register; call summaries by Kleene iteration) hold `r` for `f` iff `Exposed P f 0 r`
   (`oracle_correct`, `oracle_canRet_correct`);
 * the model of the register fragment of `function_signature::State`: every closed assignment of its
   fixpoint problem has in the extracted signature each register read by an instruction of the function
   itself, with or without control-flow successor (as the repaired `extract_fn_signatures_from_fixpoint`
   has it), or by a callee on a returning path (`FlaggedX`; `model_sound`, through `Base.Fix.sound_of_closed`).
Not proved, and false for the real analysis (known finding `lost-read-in-callee`): `Exposed → reported`
for the reads of a callee on a path that does not return, of a callee that never returns, of a tail call
(`gap_example`). The real analysis is validated against the oracle, not modelled beyond this fragment.
-/
import CweModel.C14.Model

namespace CweModel.C14
open CweModel.Reach

theorem node_lt {P : FProg} {f n : Nat} {nd : FNode} (h : P.node f n = some nd) :
    f < P.length ∧ n < P.size f := by
  obtain ⟨fn, hf, hn⟩ := Option.bind_eq_some_iff.mp h
  refine ⟨(List.getElem?_eq_some_iff.mp hf).1, ?_⟩
  rw [FProg.size, hf]
  exact (List.getElem?_eq_some_iff.mp hn).1

theorem node_none {P : FProg} {f n : Nat} (h : P.size f ≤ n) : P.node f n = none := by
  cases hn : P.node f n with
  | none => rfl
  | some nd => exact absurd (node_lt hn).2 (Nat.not_lt.mpr h)

theorem feasSucc_none {P : FProg} {T : Tables} {f n : Nat} (h : P.size f ≤ n) : feasSucc P T f n = [] := by
  simp only [feasSucc, node_none h]

theorem nextR_none {P : FProg} {T : Tables} {f r n : Nat} (h : P.size f ≤ n) : nextR P T f r n = [] := by
  simp only [nextR, node_none h]

theorem mem_feasSucc {P : FProg} {T : Tables} {f a b : Nat} :
    b ∈ feasSucc P T f a ↔ ∃ nd, P.node f a = some nd ∧ b ∈ nd.succ ∧
      (nd.call = none ∨ ∃ g, nd.call = some g ∧ T.canRet g = true) := by
  unfold feasSucc
  cases P.node f a with
  | none => simp
  | some nd =>
    simp only [Option.some.injEq, exists_eq_left']
    cases nd.call with
    | none => simp
    | some g => cases hg : T.canRet g <;> simp [hg]

theorem mem_nextR {P : FProg} {T : Tables} {f r a b : Nat} :
    b ∈ nextR P T f r a ↔ ∃ nd, P.node f a = some nd ∧ r ∉ nd.kills ∧ b ∈ feasSucc P T f a := by
  unfold nextR
  cases P.node f a with
  | none => simp
  | some nd => by_cases hk : r ∈ nd.kills <;> simp [hk]

theorem isRetNode_iff {P : FProg} {f n : Nat} :
    isRetNode P f n = true ↔ ∃ nd, P.node f n = some nd ∧ nd.isRet = true := by
  unfold isRetNode
  cases P.node f n <;> simp

theorem goalB_iff {P : FProg} {T : Tables} {f r m : Nat} :
    goalB P T f r m = true ↔ ∃ nd, P.node f m = some nd ∧
      (r ∈ nd.reads ∨ ∃ g, nd.call = some g ∧ r ∈ T.summ g) := by
  unfold goalB
  cases P.node f m with
  | none => simp
  | some nd =>
    simp only [Option.some.injEq, exists_eq_left']
    cases nd.call <;> simp

theorem isRetNode_lt {P : FProg} {f n : Nat} (h : isRetNode P f n = true) : n < P.size f :=
  let ⟨_, hn, _⟩ := isRetNode_iff.mp h
  (node_lt hn).2

theorem goalB_lt {P : FProg} {T : Tables} {f r n : Nat} (h : goalB P T f r n = true) : n < P.size f :=
  let ⟨_, hn, _⟩ := goalB_iff.mp h
  (node_lt hn).2

theorem goalR_lt {P : FProg} {T : Tables} {f r n : Nat} {tgt : Nat → Bool}
    (h : goalR P T f r tgt n = true) : n < P.size f :=
  goalB_lt (Bool.and_eq_true_iff.mp h).1

theorem goalX_lt {P : FProg} {T : Tables} {f r n : Nat} (h : goalX P T f r n = true) : n < P.size f := by
  refine Nat.lt_of_not_le fun hle => ?_
  simp [goalX, goalR, goalB, node_none hle] at h

theorem mem_succs_edgesOf {next : Nat → List Nat} {n a b : Nat} :
    b ∈ succs (edgesOf next n) a ↔ a < n ∧ b ∈ next a := by
  simp only [mem_succs, edgesOf, List.mem_flatMap, List.mem_range, List.mem_map]
  constructor
  · rintro ⟨_, ⟨a', ha', b', hb', rfl⟩, rfl, rfl⟩
    exact ⟨ha', hb'⟩
  · rintro ⟨ha, hb⟩
    exact ⟨_, ⟨a, ha, b, hb, rfl⟩, rfl, rfl⟩

theorem reach_edgesOf {next : Nat → List Nat} {n : Nat} (hnext : ∀ a, n ≤ a → next a = []) {a b : Nat} :
    Reach (succs (edgesOf next n)) a b ↔ Reach next a b := by
  constructor
  · exact Reach.congr (fun x y h => (mem_succs_edgesOf.mp h).2)
  · refine Reach.congr (fun x y h => mem_succs_edgesOf.mpr ⟨?_, h⟩)
    by_cases hx : x < n
    · exact hx
    · rw [hnext x (by omega)] at h; cases h

theorem mem_coreach_iff {next : Nat → List Nat} {n : Nat} {goal : Nat → Bool}
    (hnext : ∀ a, n ≤ a → next a = []) (hgoal : ∀ m, goal m = true → m < n) (x : Nat) :
    x ∈ coreach next n goal ↔ ∃ m, Reach next x m ∧ goal m = true := by
  unfold coreach
  rw [mem_coreachable_iff]
  constructor
  · rintro ⟨t, ht, hr⟩
    simp only [List.mem_filter, List.mem_range] at ht
    exact ⟨t, (reach_edgesOf hnext).mp hr, ht.2⟩
  · rintro ⟨m, hr, hg⟩
    refine ⟨m, ?_, (reach_edgesOf hnext).mpr hr⟩
    simp only [List.mem_filter, List.mem_range]
    exact ⟨hgoal m hg, hg⟩

theorem mem_canRetNodes_iff (P : FProg) (T : Tables) (f n : Nat) :
    n ∈ canRetNodes P T f ↔ CanRetT P T f n :=
  mem_coreach_iff (fun _ h => feasSucc_none h) (fun _ h => isRetNode_lt h) n

/-- **C14-canRet-round.** -/
theorem canRetB_iff (P : FProg) (T : Tables) (f : Nat) : canRetB P T f = true ↔ CanRetT P T f 0 := by
  simp only [canRetB, List.contains_iff_mem]
  exact mem_canRetNodes_iff P T f 0

/-- **C14-oracle-round** ("MOP = MFP" relative to given call summaries): the backward reachability
computation answers `true` for `(f, r)` iff some path from the entry of `f` that keeps the value of `r`
leads to an instruction reading `r`. -/
theorem exposedB_iff (P : FProg) (T : Tables) (f r : Nat) : exposedB P T f r = true ↔ ExposedT P T f 0 r := by
  simp only [exposedB, exposedNodes, List.contains_iff_mem]
  exact mem_coreach_iff (fun _ h => nextR_none h) (fun _ h => goalB_lt h) 0

/-- **C14-flagged-round.** the same for the reads the analysis can record -/
theorem flaggedB_iff (P : FProg) (T : Tables) (f r : Nat) (tgt : Nat → Bool) :
    flaggedB P T f r tgt = true ↔ FlaggedT P T f r tgt := by
  simp only [flaggedB, List.contains_iff_mem]
  exact mem_coreach_iff (fun _ h => nextR_none h) (fun _ h => goalR_lt h) 0

/-- **C14-flaggedX-round.** … and for the reads the repaired analysis records in a signature -/
theorem flaggedXB_iff (P : FProg) (T : Tables) (f r : Nat) :
    flaggedXB P T f r = true ↔ FlaggedX P T f r := by
  simp only [flaggedXB, List.contains_iff_mem]
  exact mem_coreach_iff (fun _ h => nextR_none h) (fun _ h => goalX_lt h) 0

def TablesSound (P : FProg) (T : Tables) : Prop :=
  (∀ g, T.canRet g = true → CanRet P g 0) ∧ (∀ g r, r ∈ T.summ g → Exposed P g 0 r)

theorem canRetT_sound {P : FProg} {T : Tables} (hT : TablesSound P T) {f n : Nat}
    (h : CanRetT P T f n) : CanRet P f n := by
  obtain ⟨m, hr, hm⟩ := h
  obtain ⟨nd, hn, hret⟩ := isRetNode_iff.mp hm
  refine reach_back (Q := (CanRet P f ·)) (fun a b hb hq => ?_) hr (.ret hn hret)
  obtain ⟨nd, hn, hb, hc | ⟨g, hc, hg⟩⟩ := mem_feasSucc.mp hb
  · exact .step hn hc hb hq
  · exact .call hn hc (hT.1 g hg) hb hq

theorem exposedT_sound {P : FProg} {T : Tables} (hT : TablesSound P T) {f n r : Nat}
    (h : ExposedT P T f n r) : Exposed P f n r := by
  obtain ⟨m, hr, hm⟩ := h
  refine reach_back (Q := (Exposed P f · r)) (fun a b hb hq => ?_) hr ?_
  · obtain ⟨nd, hn, hk, hb⟩ := mem_nextR.mp hb
    obtain ⟨nd', hn', hb, hc⟩ := mem_feasSucc.mp hb
    obtain rfl : nd = nd' := Option.some.inj (hn.symm.trans hn')
    rcases hc with hc | ⟨g, hc, hg⟩
    · exact .step hn hk hc hb hq
    · exact .stepCall hn hk hc (hT.1 g hg) hb hq
  · obtain ⟨nd, hn, hrd | ⟨g, hc, hg⟩⟩ := goalB_iff.mp hm
    · exact .read hn hrd
    · exact .callee hn hc (hT.2 g r hg)

theorem getD_map_range {α : Type} (n g : Nat) (fn : Nat → α) (d : α) :
    ((List.range n).map fn).getD g d = if g < n then fn g else d := by
  simp only [List.getD_eq_getElem?_getD, List.getElem?_map]
  by_cases h : g < n <;> simp [h]

theorem roundB_canRet (P : FProg) (nregs : Nat) (T : Tables) (g : Nat) :
    (roundB P nregs T).canRet g = (decide (g < P.length) && canRetB P T g) := by
  simp only [Tables.canRet, roundB, getD_map_range]
  by_cases h : g < P.length <;> simp [h]

theorem roundB_summ (P : FProg) (nregs : Nat) (T : Tables) (g r : Nat) :
    r ∈ (roundB P nregs T).summ g ↔ g < P.length ∧ r < nregs ∧ exposedB P T g r = true := by
  simp only [Tables.summ, roundB, getD_map_range]
  by_cases h : g < P.length <;> simp [h, List.mem_filter]

theorem roundB_sound {P : FProg} {nregs : Nat} {T : Tables} (hT : TablesSound P T) :
    TablesSound P (roundB P nregs T) := by
  constructor
  · intro g hg
    rw [roundB_canRet, Bool.and_eq_true] at hg
    exact canRetT_sound hT ((canRetB_iff P T g).mp hg.2)
  · intro g r hr
    exact exposedT_sound hT ((exposedB_iff P T g r).mp ((roundB_summ ..).mp hr).2.2)

theorem empty_canRet (n g : Nat) : (Tables.empty n).canRet g = false := by
  simp only [Tables.canRet, Tables.empty, List.getD_eq_getElem?_getD, List.getElem?_replicate]
  split <;> rfl

theorem empty_summ (n g : Nat) : (Tables.empty n).summ g = [] := by
  simp only [Tables.summ, Tables.empty, List.getD_eq_getElem?_getD, List.getElem?_replicate]
  split <;> rfl

theorem empty_sound (P : FProg) : TablesSound P (Tables.empty P.length) :=
  ⟨fun g hg => by simp [empty_canRet] at hg, fun g r hr => by simp [empty_summ] at hr⟩

/-- **C14-iteration-sound.** every Kleene iterate only contains true facts -/
theorem iterB_sound (P : FProg) (nregs : Nat) (k : Nat) : TablesSound P (iterB P nregs k) := by
  induction k with
  | zero => exact empty_sound P
  | succ k ih => exact roundB_sound ih

theorem canRet_fn_lt {P : FProg} {f n : Nat} (h : CanRet P f n) : f < P.length := by
  cases h with
  | ret hn _ => exact (node_lt hn).1
  | step hn _ _ _ => exact (node_lt hn).1
  | call hn _ _ _ _ => exact (node_lt hn).1

theorem exposed_fn_lt {P : FProg} {f n r : Nat} (h : Exposed P f n r) : f < P.length := by
  cases h with
  | read hn _ => exact (node_lt hn).1
  | callee hn _ _ => exact (node_lt hn).1
  | step hn _ _ _ _ => exact (node_lt hn).1
  | stepCall hn _ _ _ _ _ => exact (node_lt hn).1

section Fixpoint
variable {P : FProg} {nregs : Nat} {T : Tables} (hfix : roundB P nregs T = T)
include hfix

theorem canRet_of_fix {g : Nat} (hg : g < P.length) (h : CanRetT P T g 0) : T.canRet g = true := by
  rw [← hfix, roundB_canRet, decide_eq_true hg, (canRetB_iff P T g).mpr h]; rfl

theorem summ_of_fix {g r : Nat} (hg : g < P.length) (hr : r < nregs) (h : ExposedT P T g 0 r) :
    r ∈ T.summ g := by
  rw [← hfix, roundB_summ]
  exact ⟨hg, hr, (exposedB_iff P T g r).mpr h⟩

theorem canRet_complete {f n : Nat} (h : CanRet P f n) : CanRetT P T f n := by
  induction h with
  | ret hn hr => exact ⟨_, .refl _, isRetNode_iff.mpr ⟨_, hn, hr⟩⟩
  | step hn hc hq _ ih =>
    obtain ⟨m, hr, hm⟩ := ih
    exact ⟨m, .head (mem_feasSucc.mpr ⟨_, hn, hq, .inl hc⟩) hr, hm⟩
  | call hn hc hg hq _ ihg ih =>
    obtain ⟨m, hr, hm⟩ := ih
    have hgT := canRet_of_fix hfix (canRet_fn_lt hg) ihg
    exact ⟨m, .head (mem_feasSucc.mpr ⟨_, hn, hq, .inr ⟨_, hc, hgT⟩⟩) hr, hm⟩

theorem exposed_complete {f n r : Nat} (hr : r < nregs) (h : Exposed P f n r) : ExposedT P T f n r := by
  induction h with
  | read hn hrd => exact ⟨_, .refl _, goalB_iff.mpr ⟨_, hn, .inl hrd⟩⟩
  | callee hn hc hg ih =>
    exact ⟨_, .refl _, goalB_iff.mpr ⟨_, hn, .inr ⟨_, hc, summ_of_fix hfix (exposed_fn_lt hg) hr (ih hr)⟩⟩⟩
  | step hn hk hc hq _ ih =>
    obtain ⟨m, hre, hm⟩ := ih hr
    exact ⟨m, .head (mem_nextR.mpr ⟨_, hn, hk, mem_feasSucc.mpr ⟨_, hn, hq, .inl hc⟩⟩) hre, hm⟩
  | stepCall hn hk hc hg hq _ ih =>
    obtain ⟨m, hre, hm⟩ := ih hr
    have hgT := canRet_of_fix hfix (canRet_fn_lt hg) (canRet_complete hfix hg)
    exact ⟨m, .head (mem_nextR.mpr ⟨_, hn, hk, mem_feasSucc.mpr ⟨_, hn, hq, .inr ⟨_, hc, hgT⟩⟩⟩) hre, hm⟩

end Fixpoint

theorem solveB_step {P : FProg} {nregs : Nat} {T T' : Tables} (fuel : Nat)
    (h : roundB P nregs T = T') (hne : T' ≠ T) :
    solveB P nregs (fuel + 1) T = solveB P nregs fuel T' := by
  subst h; exact if_neg hne

theorem solveB_done {P : FProg} {nregs : Nat} {T : Tables} (fuel : Nat) (h : roundB P nregs T = T) :
    solveB P nregs (fuel + 1) T = (T, true) := if_pos h

theorem solveR_step {P : FProg} {nregs : Nat} {T T' : Tables} (fuel : Nat)
    (h : roundR P nregs T = T') (hne : T' ≠ T) :
    solveR P nregs (fuel + 1) T = solveR P nregs fuel T' := by
  subst h; exact if_neg hne

theorem solveR_done {P : FProg} {nregs : Nat} {T : Tables} (fuel : Nat) (h : roundR P nregs T = T) :
    solveR P nregs (fuel + 1) T = (T, true) := if_pos h

theorem solveB_fix {P : FProg} {nregs fuel : Nat} {T₀ T : Tables} (h₀ : TablesSound P T₀)
    (h : solveB P nregs fuel T₀ = (T, true)) : TablesSound P T ∧ roundB P nregs T = T := by
  induction fuel generalizing T₀ with
  | zero =>
    obtain ⟨rfl, hd⟩ := Prod.mk.inj h
    exact ⟨h₀, of_decide_eq_true hd⟩
  | succ fuel ih =>
    by_cases hfix : roundB P nregs T₀ = T₀
    · obtain ⟨rfl, _⟩ := Prod.mk.inj ((solveB_done fuel hfix).symm.trans h)
      exact ⟨h₀, hfix⟩
    · exact ih (roundB_sound h₀) ((solveB_step fuel rfl hfix).symm.trans h)

/-- **C14-oracle (MOP = MFP).** If the summary iteration reports a fixpoint, its table of function `f`
contains register `r` EXACTLY IF `r` is exposed at the entry of `f`: some path from the function entry
(descending into callees, continuing behind calls that can return) reads `r` before any instruction
on the path overwrites it. -/
theorem oracle_correct (P : FProg) (nregs fuel : Nat) (T : Tables)
    (h : solveB P nregs fuel (Tables.empty P.length) = (T, true)) {f r : Nat}
    (hf : f < P.length) (hr : r < nregs) : r ∈ T.summ f ↔ Exposed P f 0 r :=
  have ⟨hs, hfix⟩ := solveB_fix (empty_sound P) h
  ⟨hs.2 f r, fun he => summ_of_fix hfix hf hr (exposed_complete hfix hr he)⟩

/-- **C14-oracle-canRet.** … and its `cr` table is exactly `CanRet` at the entry. -/
theorem oracle_canRet_correct (P : FProg) (nregs fuel : Nat) (T : Tables)
    (h : solveB P nregs fuel (Tables.empty P.length) = (T, true)) {f : Nat} (hf : f < P.length) :
    T.canRet f = true ↔ CanRet P f 0 :=
  have ⟨hs, hfix⟩ := solveB_fix (empty_sound P) h
  ⟨hs.1 f, fun he => canRet_of_fix hfix hf (canRet_complete hfix he)⟩

theorem or_eq_iff (x y : Nat) : x ||| y = y ↔ ∀ i, x.testBit i = true → y.testBit i = true := by
  constructor
  · intro h i hi
    rw [← h, Nat.testBit_or, hi, Bool.true_or]
  · intro h
    apply Nat.eq_of_testBit_eq
    intro i
    rw [Nat.testBit_or]
    cases hx : x.testBit i
    · rfl
    · rw [h i hx]; rfl

theorem testBit_foldl_or {α : Type} (l : List α) (g : α → Nat) (m0 r : Nat) :
    (l.foldl (fun m a => m ||| g a) m0).testBit r = true ↔
      m0.testBit r = true ∨ ∃ a ∈ l, (g a).testBit r = true := by
  induction l generalizing m0 with
  | nil => simp
  | cons a l ih => simp [ih, Nat.testBit_or, or_assoc]

theorem testBit_maskOf (l : List Nat) (i : Nat) : (maskOf l).testBit i = l.contains i := by
  rw [Bool.eq_iff_iff, maskOf, testBit_foldl_or]
  simp [Nat.one_shiftLeft, Nat.testBit_two_pow]

/-- the order of the model: bitwise inclusion of both components (`merge(a, b) = b`) -/
def St.le (a b : St) : Prop := St.join a b = b

theorem St.le_iff (a b : St) : St.le a b ↔
    (∀ i, a.holds.testBit i = true → b.holds.testBit i = true) ∧
    (∀ i, a.flags.testBit i = true → b.flags.testBit i = true) := by
  cases a; cases b
  simp only [St.le, St.join, St.mk.injEq, or_eq_iff]

/-- **C14-merge-keeps-flags.** `merge` is an upper bound: whatever one side holds/flags, the merged
state holds/flags. -/
theorem join_upper (c x b : St) (h : St.le c x) : St.le c (St.join x b) := by
  rw [St.le_iff] at h ⊢
  simp only [St.join, Nat.testBit_or, Bool.or_eq_true]
  exact ⟨fun i hi => Or.inl (h.1 i hi), fun i hi => Or.inl (h.2 i hi)⟩

theorem transfer_holds (rm km : Nat) (s : St) (i : Nat) :
    (transfer rm km s).holds.testBit i = (s.holds.testBit i && !km.testBit i) := by
  simp only [transfer, Nat.testBit_xor, Nat.testBit_and]
  cases s.holds.testBit i <;> cases km.testBit i <;> rfl

theorem transfer_flags (rm km : Nat) (s : St) (i : Nat) :
    (transfer rm km s).flags.testBit i = (s.flags.testBit i || (s.holds.testBit i && rm.testBit i)) := by
  simp only [transfer, Nat.testBit_or, Nat.testBit_and]

/-- **C14-sound-step.** the instruction transfer is monotone: a state that over-approximates the
registers still holding their entry id and the flags set so far keeps doing so. -/
theorem transfer_mono (rm km : Nat) {c a : St} (h : St.le c a) : St.le (transfer rm km c) (transfer rm km a) := by
  rw [St.le_iff] at h ⊢
  simp only [transfer_holds, transfer_flags, Bool.and_eq_true, Bool.or_eq_true]
  exact ⟨fun i hi => ⟨h.1 i hi.1, hi.2⟩, fun i hi => hi.imp (h.2 i) fun hi => ⟨h.1 i hi.1, hi.2⟩⟩

theorem mem_problem_edges {P : FProg} {T : Tables} {f : Nat} {e : Fix.Edge St} :
    e ∈ (problem P T f).edges ↔ ∃ nd, P.node f e.src = some nd ∧ e.dst ∈ feasSucc P T f e.src ∧
      e.f = fun s => some (transfer (readMaskOf T nd) (maskOf nd.kills) s) := by
  simp only [problem, List.mem_flatMap, List.mem_range]
  constructor
  · rintro ⟨n, _, he⟩
    cases hn : P.node f n with
    | none => simp [hn] at he
    | some nd =>
      simp only [hn, List.mem_map] at he
      obtain ⟨q, hq, rfl⟩ := he
      exact ⟨nd, hn, hq, rfl⟩
  · rintro ⟨nd, hn, hq, hf⟩
    refine ⟨e.src, (node_lt hn).2, ?_⟩
    simp only [hn, List.mem_map]
    exact ⟨e.dst, hq, by rw [← hf]⟩

/-- the exact state along one path: registers not yet overwritten, reads flagged so far -/
def pathInit (P : FProg) (f : Nat) (i : Nat) (c : St) : Prop := i = 0 ∧ c = initSt P f
def pathStep (e : Fix.Edge St) (c c' : St) : Prop := e.f c = some c'

theorem reach_step {P : FProg} {T : Tables} {f n q : Nat} {nd : FNode} {c : St}
    (hn : P.node f n = some nd) (hq : q ∈ feasSucc P T f n)
    (hc : Fix.Reach (problem P T f) (pathInit P f) pathStep n c) :
    Fix.Reach (problem P T f) (pathInit P f) pathStep q (transfer (readMaskOf T nd) (maskOf nd.kills) c) :=
  .step (e := ⟨n, q, fun s => some (transfer (readMaskOf T nd) (maskOf nd.kills) s)⟩)
    (mem_problem_edges.mpr ⟨nd, hn, hq, rfl⟩) hc rfl

theorem path_holds {P : FProg} {T : Tables} {f r : Nat} (hinit : (initSt P f).holds.testBit r = true)
    {m : Nat} (h : Reach (nextR P T f r) 0 m) :
    ∃ c, Fix.Reach (problem P T f) (pathInit P f) pathStep m c ∧ c.holds.testBit r = true := by
  induction h with
  | refl => exact ⟨initSt P f, .start ⟨rfl, rfl⟩, hinit⟩
  | tail _ hs ih =>
    obtain ⟨c, hc, hh⟩ := ih
    obtain ⟨nd, hn, hk, hs⟩ := mem_nextR.mp hs
    refine ⟨_, reach_step hn hs hc, ?_⟩
    rw [transfer_holds, hh, testBit_maskOf, List.contains_eq_mem, decide_eq_false hk]; rfl

theorem path_below {P : FProg} {T : Tables} {f : Nat} {S : Fix.Assign St}
    (hS : Fix.Closed (problem P T f) S) (h0 : ∃ a, S 0 = some a ∧ St.le (initSt P f) a)
    {m : Nat} {c : St} (hc : Fix.Reach (problem P T f) (pathInit P f) pathStep m c) :
    ∃ a, S m = some a ∧ St.le c a :=
  Fix.sound_of_closed (P := problem P T f) (γ := fun a c => St.le c a)
    (init := pathInit P f) (cstep := pathStep)
    (fun x b c hx => join_upper c x b hx)
    (by
      intro e he a c c' hγ hstep
      obtain ⟨nd', _, _, hf⟩ := mem_problem_edges.mp he
      simp only [pathStep, hf, Option.some.injEq] at hstep
      subst hstep
      exact ⟨_, by rw [hf], transfer_mono _ _ hγ⟩)
    hS
    (by
      rintro i c ⟨rfl, rfl⟩
      exact h0)
    hc

/-- **C14-model-sound-edges.** Reads recorded on an outgoing edge (`FlaggedT`: the reading instruction
has a successor; for a call to an internal function: the callee's summary) are flagged in the state of
that successor. -/
theorem model_sound_edges {P : FProg} {T : Tables} {f r : Nat} {S : Fix.Assign St}
    (hS : Fix.Closed (problem P T f) S) (h0 : ∃ a, S 0 = some a ∧ St.le (initSt P f) a)
    (hparam : (initSt P f).holds.testBit r = true)
    (h : FlaggedT P T f r (fun _ => true)) : ∃ n a, S n = some a ∧ a.flags.testBit r = true := by
  obtain ⟨m, hr, hg⟩ := h
  simp only [goalR, Bool.and_eq_true, List.any_eq_true] at hg
  obtain ⟨hgoal, m', hm', _⟩ := hg
  obtain ⟨nd, hn, hread⟩ := goalB_iff.mp hgoal
  obtain ⟨c, hc, hh⟩ := path_holds (T := T) hparam hr
  obtain ⟨a, ha, hle⟩ := path_below hS h0 (reach_step hn hm' hc)
  refine ⟨m', a, ha, ((St.le_iff _ _).mp hle).2 r ?_⟩
  rw [transfer_flags, hh, readMaskOf, testBit_maskOf]
  rcases hread with h | ⟨g, hc, h⟩ <;> simp [h, hc]

/-- **C14-model-sound.** Let `S` be ANY closed assignment (post-fixpoint) of the model's fixpoint problem
of function `f` whose entry value covers the start state (every parameter register holds its id).
If register `r` is a parameter register of `f` and is read on a path from the entry before being
overwritten — by ANY instruction of `f` itself, with or without control-flow successor, or by a callee
on a path that returns (`FlaggedX`) — then for some node the flags of its state after the accesses of
its instruction (`exitFlagsAt`, what `extract_fn_signatures_from_fixpoint` merges) contain `r`. -/
theorem model_sound {P : FProg} {T : Tables} {f r : Nat} {S : Fix.Assign St}
    (hS : Fix.Closed (problem P T f) S) (h0 : ∃ a, S 0 = some a ∧ St.le (initSt P f) a)
    (hparam : (initSt P f).holds.testBit r = true)
    (h : FlaggedX P T f r) : ∃ n a, S n = some a ∧ (exitFlagsAt P f n a).testBit r = true := by
  obtain ⟨m, hr, hg⟩ := h
  simp only [goalX, Bool.or_eq_true] at hg
  rcases hg with hg | hg
  · -- the instruction at `m` reads `r` itself
    cases hn : P.node f m with
    | none => simp [hn] at hg
    | some nd =>
      simp only [hn, List.contains_iff_mem] at hg
      obtain ⟨c, hc, hh⟩ := path_holds (T := T) hparam hr
      obtain ⟨a, ha, hle⟩ := path_below hS h0 hc
      refine ⟨m, a, ha, ?_⟩
      have hah : a.holds.testBit r = true := ((St.le_iff _ _).mp hle).1 r hh
      simp [exitFlagsAt, hn, exitFlags, localMask, testBit_maskOf, hah, hg]
  · -- recorded on an edge
    obtain ⟨n, a, ha, hbit⟩ := model_sound_edges hS h0 hparam ⟨m, hr, hg⟩
    refine ⟨n, a, ha, ?_⟩
    unfold exitFlagsAt
    cases P.node f n with
    | none => exact hbit
    | some nd => simp [exitFlags, hbit]

theorem closedB_closed {P : FProg} {T : Tables} {f : Nat} {σ : Sol} (h : closedB P T f σ = true) :
    Fix.Closed (problem P T f) (Sol.get σ) := by
  intro e he a x ha hx
  have := List.all_eq_true.mp h e he
  simp only [ha, hx] at this
  cases hb : Sol.get σ e.dst with
  | none => simp [hb] at this
  | some b =>
    simp only [hb, decide_eq_true_eq] at this
    exact ⟨b, rfl, this⟩

theorem testBit_allFlags_aux (σ : Sol) (m0 r : Nat) :
    (σ.foldl addFlags m0).testBit r = true ↔
      m0.testBit r = true ∨ ∃ s, some s ∈ σ ∧ s.flags.testBit r = true := by
  have : addFlags = fun m v => m ||| (match v with | some s => s.flags | none => 0) := by
    funext m v
    cases v with
    | none => exact (Nat.or_zero m).symm
    | some s => rfl
  rw [this, testBit_foldl_or]
  refine or_congr_right ⟨fun ⟨v, hv, h⟩ => ?_, fun ⟨s, hs, h⟩ => ⟨some s, hs, h⟩⟩
  cases v with
  | none => simp at h
  | some s => exact ⟨s, hv, h⟩

theorem testBit_allFlagsX (P : FProg) (f : Nat) (σ : Sol) (r : Nat) :
    (allFlagsX P f σ).testBit r = true ↔
      ∃ n s, Sol.get σ n = some s ∧ (exitFlagsAt P f n s).testBit r = true := by
  unfold allFlagsX
  rw [testBit_foldl_or]
  simp only [Nat.zero_testBit, Bool.false_eq_true, false_or, List.mem_range]
  constructor
  · rintro ⟨n, _, h⟩
    unfold contribX at h
    cases hs : Sol.get σ n with
    | none => simp [hs] at h
    | some s => simp only [hs] at h; exact ⟨n, s, hs, h⟩
  · rintro ⟨n, s, hs, h⟩
    refine ⟨n, ?_, by simp [contribX, hs, h]⟩
    simp only [Sol.get] at hs
    cases hx : σ[n]? with
    | none => simp [hx] at hs
    | some v => exact (List.getElem?_eq_some_iff.mp hx).1

/-- **C14-model-sound-exec.** the form evaluated by the driver: if `closedB` accepts the computed
solution, the signature extracted from it (`allFlagsX`) contains every parameter register that the
oracle `flaggedXB` finds. -/
theorem model_sound_exec {P : FProg} {T : Tables} {f r : Nat} {σ : Sol}
    (hcl : closedB P T f σ = true) (h0 : ∃ a, Sol.get σ 0 = some a ∧ St.le (initSt P f) a)
    (hparam : (initSt P f).holds.testBit r = true)
    (h : flaggedXB P T f r = true) : (allFlagsX P f σ).testBit r = true := by
  obtain ⟨n, a, ha, hbit⟩ := model_sound (closedB_closed hcl) h0 hparam ((flaggedXB_iff P T f r).mp h)
  exact (testBit_allFlagsX P f σ r).mpr ⟨n, a, ha, hbit⟩

/-! ### non-vacuity -/

/-- f0: `if (r0) goto L else goto M; L: r1 := r2; call f1; M: return r3`; f1: `r4 := r0; return` -/
def exP : FProg :=
  [ { nodes := [ { reads := [0], succ := [1, 4], kind := "cbranch" },
                 { reads := [2], kills := [1], succ := [2], kind := "assign" },
                 { kills := [0, 1, 2, 3], succ := [3], call := some 1, kind := "call-internal" },
                 { succ := [4], kind := "branch" },
                 { reads := [3], isRet := true, kind := "return" } ],
      params := [0, 1, 2, 3] },
    { nodes := [ { reads := [0], kills := [4], succ := [1], kind := "assign" },
                 { isRet := true, kind := "return" } ],
      params := [0, 1, 2, 3] } ]

/- The table equations of this section are checked round by round on literal tables (`solveB_step`, …):
evaluating `solveB`/`solveR` as a whole makes the kernel recompute every earlier round at each table
lookup of a later one. -/

def exT : Tables := ⟨[true, true], [[0, 2, 3], [0]]⟩
def exTR : Tables := ⟨[true, true], [[0, 2], [0]]⟩
theorem exT_eq : solveB exP 5 8 (Tables.empty exP.length) = (exT, true) :=
  (solveB_step 7 (T' := exT) (by decide +kernel) (by decide)).trans (solveB_done 6 (by decide +kernel))
theorem exTR_eq : solveR exP 5 8 (Tables.empty exP.length) = (exTR, true) :=
  (solveR_step 7 (T' := ⟨[true, true], [[0], [0]]⟩) (by decide +kernel) (by decide)).trans <|
  (solveR_step 6 (T' := exTR) (by decide +kernel) (by decide)).trans (solveR_done 5 (by decide +kernel))

example : Exposed exP 0 0 3 := (oracle_correct exP 5 8 exT exT_eq (by decide) (by decide)).mp (by decide)
example : Exposed exP 0 0 0 := (oracle_correct exP 5 8 exT exT_eq (by decide) (by decide)).mp (by decide)
example : ¬ Exposed exP 0 0 1 := fun h =>
  absurd ((oracle_correct exP 5 8 exT exT_eq (by decide) (by decide)).mpr h) (by decide)

/-- register 3 is read only by the `return`, which has no successor: in `FlaggedX`, not in `FlaggedT` -/
example : FlaggedX exP exTR 0 3 := (flaggedXB_iff _ _ _ _).mp (by decide +kernel)
example : ¬ FlaggedT exP exTR 0 3 (fun _ => true) := fun h => absurd ((flaggedB_iff _ _ _ _ _).mpr h) (by decide +kernel)

theorem exSol_closed : closedB exP exTR 0 (solveM exP exTR 0 20 (startSol exP 0)) = true := by decide +kernel

example : closedB exP exTR 0 (solveM exP exTR 0 20 (startSol exP 0)) = true := exSol_closed
example : maskToList 5 (allFlagsX exP 0 (solveM exP exTR 0 20 (startSol exP 0))) = [0, 2, 3] := by decide +kernel
example : (allFlagsX exP 0 (solveM exP exTR 0 20 (startSol exP 0))).testBit 3 = true :=
  model_sound_exec (P := exP) (T := exTR) (f := 0) exSol_closed
    ⟨initSt exP 0, by decide +kernel, by unfold St.le; decide +kernel⟩ (by decide +kernel) (by decide +kernel)

/-- f0: `call f1; return`; f1: `if … goto R; L: r0 := r2; goto L; R: return` — the callee reads
register 2 only on a path that does not return -/
def exQ : FProg :=
  [ { nodes := [ { kills := [0, 1], succ := [1], call := some 1, kind := "call-internal" },
                 { isRet := true, kind := "return" } ],
      params := [0, 1, 2] },
    { nodes := [ { succ := [1, 2], kind := "cbranch" },
                 { reads := [2], kills := [0], succ := [1], kind := "assign" },
                 { isRet := true, kind := "return" } ],
      params := [0, 1, 2] } ]
def exQT : Tables := ⟨[true, true], [[2], [2]]⟩
def exQTR : Tables := ⟨[true, true], [[], []]⟩
theorem exQT_eq : solveB exQ 3 8 (Tables.empty exQ.length) = (exQT, true) :=
  (solveB_step 7 (T' := ⟨[false, true], [[], [2]]⟩) (by decide +kernel) (by decide)).trans <|
  (solveB_step 6 (T' := exQT) (by decide +kernel) (by decide)).trans (solveB_done 5 (by decide +kernel))
theorem exQTR_eq : solveR exQ 3 8 (Tables.empty exQ.length) = (exQTR, true) :=
  (solveR_step 7 (T' := ⟨[false, true], [[], []]⟩) (by decide +kernel) (by decide)).trans <|
  (solveR_step 6 (T' := exQTR) (by decide +kernel) (by decide)).trans (solveR_done 5 (by decide +kernel))

/-- **the remaining gap** (known finding `lost-read-in-callee`): register 2 is exposed at the entry of
the caller `f0` (the callee reads it), but the analysis cannot record it in `f0` by design, because the
caller only imports what the callee's RETURN site has flagged. -/
theorem gap_example : Exposed exQ 0 0 2 ∧ ¬ FlaggedX exQ exQTR 0 2 :=
  ⟨(oracle_correct exQ 3 8 exQT exQT_eq (by decide) (by decide)).mp (by decide),
   fun h => absurd ((flaggedXB_iff _ _ _ _).mpr h) (by decide +kernel)⟩

end CweModel.C14
