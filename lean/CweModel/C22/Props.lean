/-
C22 — Check selection runs exactly the requested checks.

"For every input, a partial run executes exactly the listed checks, a default run executes every
check except the OS-command-injection check, a run on a Linux kernel module executes exactly the
kernel-module subset, and the module-version listing names every known check once; warnings of a
check appear only when that check was selected."

The theorems are about the model of `main.rs` (`Model.lean`) instantiated with the tables GENERATED
from the Rust source; they are re-checked whenever a table changes.
-/
import CweModel.C22.Model
import CweModel.Base.ListLemmas

namespace CweModel.C22
open CweModel.Gen.Modules

theorem mem_dedup (a : String) : ∀ l : List String, a ∈ dedup l ↔ a ∈ l
  | [] => Iff.rfl
  | b :: bs => by
    unfold dedup
    split
    · next h =>
      rw [mem_dedup a bs, List.mem_cons]
      exact ⟨Or.inr, fun h' => h'.elim (fun e => e ▸ List.contains_iff_mem.mp h) id⟩
    · rw [List.mem_cons, List.mem_cons, mem_dedup a bs]

theorem nodup_dedup : ∀ l : List String, (dedup l).Nodup
  | [] => List.nodup_nil
  | b :: bs => by
    unfold dedup
    split
    · exact nodup_dedup bs
    · next h =>
      exact List.nodup_cons.mpr ⟨fun hm => h (List.contains_iff_mem.mpr ((mem_dedup b bs).mp hm)), nodup_dedup bs⟩

def names (mods : List Module) : List String := mods.map (·.name)

theorem find_name_eq_some {mods : List Module} (hn : (names mods).Nodup) {n : String} {m : Module} :
    mods.find? (·.name == n) = some m ↔ m ∈ mods ∧ m.name = n :=
  List.find?_eq_some_iff_of_key Module.name hn fun _ => beq_iff_eq

theorem pickModules_eq (mods : List Module) : ∀ ns, pickModules mods ns =
    match ns.find? (fun n => (mods.find? (·.name == n)).isNone && !n.isEmpty) with
    | some n => .error n
    | none => .ok (ns.filterMap fun n => mods.find? (·.name == n))
  | [] => rfl
  | n :: rest => by
    unfold pickModules
    rw [pickModules_eq mods rest, List.find?_cons, List.filterMap_cons]
    generalize rest.find? _ = r
    cases mods.find? (·.name == n) with
    | some m => cases r <;> rfl
    | none => cases n.isEmpty <;> rfl

theorem pickModules_ok {mods : List Module} {ns : List String} {sel : List Module}
    (h : pickModules mods ns = .ok sel) : sel = ns.filterMap fun n => mods.find? (·.name == n) := by
  rw [pickModules_eq] at h
  split at h <;> cases h
  rfl

theorem pickModules_error_iff (mods : List Module) (ns : List String) :
    (∃ e, pickModules mods ns = .error e) ↔ ∃ n ∈ ns, n ≠ "" ∧ ∀ m ∈ mods, m.name ≠ n := by
  have hp (n : String) : ((mods.find? (·.name == n)).isNone && !n.isEmpty) = true ↔
      n ≠ "" ∧ ∀ m ∈ mods, m.name ≠ n := by
    simp [and_comm]
  rw [pickModules_eq]
  cases h : ns.find? _ with
  | some n =>
    have hn := List.find?_some h
    exact ⟨fun _ => ⟨n, List.mem_of_find?_eq_some h, (hp n).mp hn⟩, fun _ => ⟨n, rfl⟩⟩
  | none =>
    refine ⟨fun ⟨_, he⟩ => (nomatch he), fun ⟨n, hn, hpn⟩ => ?_⟩
    exact absurd ((hp n).mpr hpn) (List.find?_eq_none.mp h n hn)

theorem pickModules_mem (mods : List Module) (hn : (names mods).Nodup) (ns : List String) (sel : List Module)
    (h : pickModules mods ns = .ok sel) (m : Module) : m ∈ sel ↔ m ∈ mods ∧ m.name ∈ ns := by
  rw [and_comm]
  simp [pickModules_ok h, find_name_eq_some hn]

theorem pickModules_nodup (mods : List Module) (hn : (names mods).Nodup) (ns : List String) (sel : List Module)
    (hnd : ns.Nodup) (h : pickModules mods ns = .ok sel) : sel.Nodup := by
  rw [pickModules_ok h]
  refine hnd.filterMap _ fun a a' hne b hb b' hb' e => hne ?_
  rw [← ((find_name_eq_some hn).mp hb).2, ← ((find_name_eq_some hn).mp hb').2, e]

/-- **C22-partial.** For every module table with pairwise different names and every `--partial`
argument: if the run starts, the executed checks are exactly the known checks whose name is listed
(as a set; duplicates and empty entries are irrelevant), and each is executed once. -/
theorem partialSelect_exact (mods : List Module) (hn : (names mods).Nodup) (param : String)
    (sel : List Module) (h : partialSelect mods param = .ok sel) :
    (∀ m, m ∈ sel ↔ m ∈ mods ∧ m.name ∈ param.splitOn ",") ∧ sel.Nodup := by
  unfold partialSelect splitNames at h
  refine ⟨fun m => ?_, pickModules_nodup mods hn _ sel (nodup_dedup _) h⟩
  rw [pickModules_mem mods hn _ sel h m, mem_dedup]

/-- **C22-partial-error.** The run is refused (the code panics) exactly if some listed name is
neither empty nor the name of a known check. -/
theorem partialSelect_error_iff (mods : List Module) (param : String) :
    (∃ e, partialSelect mods param = .error e) ↔
      ∃ n ∈ param.splitOn ",", n ≠ "" ∧ ∀ m ∈ mods, m.name ≠ n := by
  unfold partialSelect splitNames
  simp only [pickModules_error_iff, mem_dedup]

/-- **C22-partial-spec.** The model selection and the declarative specification
(`specPartial`: filter the known checks by membership in the list) select the same set. -/
theorem partialSelect_eq_spec (mods : List Module) (hn : (names mods).Nodup) (param : String)
    (sel : List Module) (h : partialSelect mods param = .ok sel) :
    ∀ m, m ∈ sel ↔ m ∈ specPartial mods param := by
  intro m
  rw [(partialSelect_exact mods hn param sel h).1 m]
  simp [specPartial]

/-! ### the generated tables

Facts about the tables themselves are evaluated, each once and by the kernel alone (`decide +kernel`:
comparing strings in the elaborator as well costs several times as much); what else is said about
the real tables follows from them by lemmas about arbitrary tables. -/

/-- **C22-names.** The names of the checks returned by `get_modules()` are pairwise different. -/
theorem allModules_names_nodup : (names allModules).Nodup := by decide +kernel

/-- **C22-default-table.** The default-run filter of `main.rs` excludes exactly `CWE78`. -/
theorem defaultExcluded_eq : defaultExcluded = ["CWE78"] := rfl

/-- **C22-default.** A default run (no `--partial`, not a kernel module) executes every known check
except the OS-command-injection check `CWE78`, each once, in the order of `get_modules()`. -/
theorem select_default :
    selectReal none false = .ok (specDefault allModules) ∧
    (∀ m, m ∈ specDefault allModules ↔ m ∈ allModules ∧ m.name ≠ "CWE78") ∧
    (specDefault allModules).Nodup := by
  refine ⟨?_, fun m => by simp [specDefault], (List.nodup_of_nodup_map _ allModules_names_nodup).filter _⟩
  exact congrArg Except.ok (List.filter_congr fun m _ => Bool.and_true _)

/-- **C22-lkm-acceptance.** Every check the repository's acceptance tests run on kernel-module samples
(`LKM_CWE` in test/src/lib.rs) is a known check and is contained in `MODULES_LKM`: the kernel-module
subset cannot silently lose a check whose warnings the acceptance tests expect. -/
theorem lkm_subset_covers_acceptance :
    ∀ c ∈ Gen.Modules.lkmAcceptance, c ∈ modulesLkm ∧ c ∈ names allModules := by decide +kernel

theorem specLkm_real : specLkm allModules modulesLkm = allModules.filter (fun m => modulesLkm.contains m.name) :=
  List.filter_congr fun m _ => Bool.or_eq_left_iff_imp.mpr fun h =>
    List.contains_iff_mem.mpr (lkm_subset_covers_acceptance m.name (List.contains_iff_mem.mp h)).1

/-- **C22-lkm.** A run on a Linux kernel module (no `--partial`) executes exactly the known checks
named in `MODULES_LKM`. -/
theorem select_lkm :
    selectReal none true = .ok (specLkm allModules modulesLkm) ∧
    (∀ m, m ∈ specLkm allModules modulesLkm ↔ m ∈ allModules ∧ m.name ∈ modulesLkm) ∧
    (specLkm allModules modulesLkm).Nodup := by
  rw [specLkm_real]
  exact ⟨rfl, fun m => by simp, (List.nodup_of_nodup_map _ allModules_names_nodup).filter _⟩

/-- **C22-kernel-module.** The classification the kernel-module filter depends on: the code treats an
input as a Linux kernel module exactly if it is a relocatable object with BOTH marker sections — for
every ELF type and every set of section names (the marker names and the conjunction are regenerated
from `runtime_memory_image.rs`). In particular an object with only one of the two sections, an
executable or a shared object gets the default selection. -/
theorem kernelModule_classification (etype : String) (sections : List String) :
    isKernelModule etype sections = specIsKernelModule etype sections := by
  simp [isKernelModule, specIsKernelModule, lkmMarkerSections, Bool.and_assoc]

theorem not_kernelModule_of_missing_marker (etype : String) (sections : List String)
    (h : ".modinfo" ∉ sections ∨ ".gnu.linkonce.this_module" ∉ sections) :
    isKernelModule etype sections = false := by
  rw [kernelModule_classification]
  simp only [specIsKernelModule]
  rcases h with h | h <;> simp [h]

/-- **C22-run.** The selection of a whole run as a function of the input file and the command line:
default selection unless the file is a kernel module (both markers) or `--partial` is given. -/
theorem select_of_input (etype : String) (sections : List String) :
    selectReal none (isKernelModule etype sections) =
      if specIsKernelModule etype sections then .ok (specLkm allModules modulesLkm) else .ok (specDefault allModules) := by
  rw [kernelModule_classification]
  cases specIsKernelModule etype sections
  · exact select_default.1
  · exact select_lkm.1

/-- **C22-partial-real.** `partialSelect_exact` for the real table. -/
theorem select_partial (param : String) (sel : List Module) (h : selectReal (some param) false = .ok sel) :
    (∀ m, m ∈ sel ↔ m ∈ allModules ∧ m.name ∈ param.splitOn ",") ∧ sel.Nodup :=
  partialSelect_exact allModules allModules_names_nodup param sel h

/-- `--partial` takes precedence over the kernel-module filter. -/
theorem select_partial_lkm (param : String) : selectReal (some param) true = selectReal (some param) false := rfl

/-- **C22-versions.** The `--module-versions` listing consists of the header line followed by one
line per known check — every known check exactly once, and nothing else. -/
theorem versionListing_exact (mods : List Module) (hn : (names mods).Nodup) :
    versionListing mods = "[cwe_checker] module_versions:" :: mods.map Module.display ∧
    (versionListing mods).length = mods.length + 1 ∧
    ∀ m ∈ mods, (mods.filter (fun x => x.name == m.name)).length = 1 := by
  refine ⟨rfl, by simp [versionListing], fun m hm => ?_⟩
  -- the number of modules named like `m` is the number of occurrences of `m.name` among the names
  have h : (names mods).count m.name = 1 := by rw [hn.count]; exact if_pos (List.mem_map_of_mem hm)
  rwa [names, List.count_eq_countP, List.countP_map, List.countP_eq_length_filter] at h

theorem versionListing_real :
    (versionListing allModules).length = allModules.length + 1 ∧
    ∀ m ∈ allModules, (allModules.filter (fun x => x.name == m.name)).length = 1 :=
  (versionListing_exact allModules allModules_names_nodup).2

/-- **C22-warnings.** Whatever the checks compute: if every check labels its warnings with its own
version and with a name from its name list (`emitsOf`, generated from the check's source), then every
warning of a run was produced by a SELECTED check that may emit that label; a check that was not
selected contributes nothing. -/
theorem warnings_only_from_selected (run : Module → List (String × String)) (sel : List Module)
    (hrun : ∀ m w, w ∈ run m → mayEmit m w = true) :
    ∀ w ∈ runLabels run sel, ∃ m ∈ sel, w ∈ run m ∧ mayEmit m w = true := by
  intro w hw
  simp only [runLabels, List.mem_flatMap] at hw
  obtain ⟨m, hm, hwm⟩ := hw
  exact ⟨m, hm, hwm, hrun m w hwm⟩

/-- **C22-output-exact.** The labels of a run of `sel` are exactly the labels of the all-checks run
that a selected check produces: `expectedLabels` (the executable specification the driver evaluates
on the real output) is sound and complete for them, provided label ownership is unambiguous on the
fired labels. -/
theorem expectedLabels_exact (run : Module → List (String × String)) (sel all : List Module)
    (hsub : ∀ m ∈ sel, m ∈ all)
    (hrun : ∀ m w, w ∈ run m → mayEmit m w = true)
    (hunamb : ∀ m ∈ all, ∀ m' ∈ all, ∀ w, w ∈ run m → mayEmit m' w = true → m' ∈ sel → m ∈ sel) :
    ∀ w, w ∈ expectedLabels sel (runLabels run all) ↔ w ∈ runLabels run sel := by
  intro w
  simp only [expectedLabels, List.mem_filter, runLabels, List.mem_flatMap, List.any_eq_true]
  constructor
  · rintro ⟨⟨m, hm, hwm⟩, m', hm', hemit⟩
    exact ⟨m, hunamb m hm m' (hsub m' hm') w hwm hemit hm', hwm⟩
  · rintro ⟨m, hm, hwm⟩
    exact ⟨⟨m, hsub m hm, hwm⟩, m, hm, hrun m w hwm⟩

def labelsOf (m : Module) : List (String × String) := (emitsOf m).map (·, m.version)

theorem mem_labelsOf {m : Module} {n v : String} : (n, v) ∈ labelsOf m ↔ mayEmit m (n, v) = true := by
  simp only [labelsOf, List.mem_map, Prod.mk.injEq, mayEmit, Bool.and_eq_true, beq_iff_eq, List.contains_iff_mem]
  exact ⟨fun ⟨_, h, e, ev⟩ => ⟨ev, e ▸ h⟩, fun ⟨ev, h⟩ => ⟨n, h, rfl, ev⟩⟩

theorem unambiguous_of_nodup {mods : List Module} (h : (mods.flatMap labelsOf).Nodup) :
    ∀ m ∈ mods, ∀ m' ∈ mods, ∀ n ∈ emitsOf m, mayEmit m' (n, m.version) = true → m' = m :=
  fun _ hm _ hm' _ hn he =>
    List.nodup_flatMap_inj h hm' hm (mem_labelsOf.mpr he) (List.mem_map_of_mem (f := (·, _)) hn)

/-- In the real tables two different checks never share a label `(name, version)`: the ownership of
every label is unambiguous. -/
theorem real_labels_unambiguous :
    ∀ m ∈ allModules, ∀ m' ∈ allModules, ∀ n ∈ emitsOf m, mayEmit m' (n, m.version) = true → m' = m :=
  unambiguous_of_nodup (by decide +kernel)

-- (the examples over `allModules` mention no version numbers and no table sizes: a version bump or a new check must not break them)
example : (pickModules allModules (dedup ["CWE676", "", "CWE78", "CWE676"])).toOption.map (·.map (·.name)) = some ["CWE78", "CWE676"] := by
  decide +kernel
example : pickModules allModules (dedup ["CWE676", "CWE7"]) = .error "CWE7" := by
  have h : (dedup ["CWE676", "CWE7"]).find? (fun n => (allModules.find? (·.name == n)).isNone && !n.isEmpty)
      = some "CWE7" := by decide +kernel
  rw [pickModules_eq, h]
example : isKernelModule "rel" [".text", ".modinfo", ".gnu.linkonce.this_module"] = true ∧
    isKernelModule "rel" [".text", ".modinfo"] = false ∧ isKernelModule "rel" [".gnu.linkonce.this_module"] = false ∧
    isKernelModule "dyn" [".modinfo", ".gnu.linkonce.this_module"] = false := by decide +kernel
example : (specDefault allModules).length + 1 = allModules.length := by decide +kernel
example : 0 < (specLkm allModules modulesLkm).length ∧ (specLkm allModules modulesLkm).length ≤ modulesLkm.length := by decide +kernel
example : expectedLabels [⟨"Memory", "0.2"⟩] [("CWE476", "0.2"), ("CWE476", "0.3"), ("CWE415", "0.3")] = [("CWE476", "0.2")] := by
  decide +kernel
example : expectedLabels [⟨"CWE416", "0.3"⟩] [("CWE476", "0.2"), ("CWE476", "0.3"), ("CWE415", "0.3")] = [("CWE415", "0.3")] := by
  decide +kernel

end CweModel.C22
