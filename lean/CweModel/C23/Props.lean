/-
C23 — Analysis results do not depend on hashing or scheduling nondeterminism.

"Running the analyzer twice on the same input with the same configuration produces identical warning
output, regardless of per-process hash seeds, check ordering and thread scheduling of the log collector."

PROVED (for ALL warning lists / arrival sequences): the printed list is a function of the MULTISET of
produced warnings (any order of the checks, any order within a check gives the same output); the
collector's result depends on the arrival order only through the last message per first address, in
particular not at all when the messages have pairwise different first addresses.

NOT PROVABLE here: that the IR passes iterating `HashMap`/`HashSet` (block duplication, expression
propagation) produce the same multiset of warnings for every hash seed — a whole-program question.
It is EXPLORED by running the real binary repeatedly in fresh processes. Full statement kept visible:

  theorem analyzer_deterministic (p : PcodeProject) (elf : Elf) (cfg : Config) (sel : Selection)
      (seed₁ seed₂ : HashSeed) (sched₁ sched₂ : Schedule) :
      runCli p elf cfg sel seed₁ sched₁ = runCli p elf cfg sel seed₂ sched₂
-/
import CweModel.C23.Model
import CweModel.C21.Props

namespace CweModel.C23
open CweModel.C21

/-- **C23-sort.** Sorting any rearrangement of the produced warnings gives the same list. -/
theorem sort_perm_invariant (ws ws' : List Warning) (h : ws'.Perm ws) : sortW ws' = sortW ws :=
  output_unique ws (sortW ws') (output_sorted ws') ((output_perm ws').trans h)

/-- **C23-check-order.** The printed output does not depend on the order in which the selected
checks run (the `HashSet` iteration order of `--partial`). -/
theorem output_check_order_invariant {M : Type} (run : M → List Warning) (sel sel' : List M)
    (h : sel'.Perm sel) : output run sel' = output run sel :=
  sort_perm_invariant _ _ (h.flatMap_right run)

/-- **C23-within-check.** … nor on the order in which each check emits its warnings. -/
theorem output_emit_order_invariant {M : Type} (run run' : M → List Warning) (sel : List M)
    (h : ∀ m, (run' m).Perm (run m)) : output run' sel = output run sel := by
  apply sort_perm_invariant
  induction sel with
  | nil => exact List.Perm.refl _
  | cons m ms ih => simpa [List.flatMap_cons] using (h m).append ih

theorem lookup_insertKV (a k : Str) (v : Warning) :
    ∀ m : List Msg, lookup a (insertKV k v m) = if a = k then some v else lookup a m
  | [] => rfl
  | (k', v') :: rest => by
    unfold insertKV
    split
    · next h => subst h; simp only [lookup]; split <;> rfl
    · next h =>
      split
      · rfl
      · simp only [lookup, lookup_insertKV a k v rest]
        by_cases ha : a = k
        · rw [if_pos ha, if_pos ha, if_neg (ha ▸ h)]
        · rw [if_neg ha, if_neg ha]

theorem lookup_foldl (a : Str) : ∀ (msgs m0 : List Msg),
    lookup a (msgs.foldl (fun m kv => insertKV kv.1 kv.2 m) m0) =
      match lastFor a msgs with
      | some w => some w
      | none => lookup a m0
  | [], m0 => rfl
  | (k, v) :: rest, m0 => by
    simp only [List.foldl_cons, lookup_foldl a rest, lastFor]
    cases lastFor a rest with
    | some w => rfl
    | none => rw [lookup_insertKV]; by_cases h : a = k <;> simp [h]

theorem lookup_buildMap (a : Str) (msgs : List Msg) : lookup a (buildMap msgs) = lastFor a msgs := by
  unfold buildMap
  rw [lookup_foldl]
  cases lastFor a msgs <;> rfl

def keyLt (x y : Msg) : Prop := strLe x.1 y.1 = true ∧ x.1 ≠ y.1

def SortedMap (m : List Msg) : Prop := m.Pairwise keyLt

theorem keyLt_trans {x y z : Msg} (h1 : keyLt x y) (h2 : keyLt y z) : keyLt x z :=
  ⟨strLe_linear.trans _ _ _ h1.1 h2.1,
   fun e => h1.2 (strLe_linear.antisymm _ _ h1.1 (e ▸ h2.1))⟩

theorem mem_insertKV (k : Str) (v : Warning) (x : Msg) : ∀ m : List Msg, x ∈ insertKV k v m → x = (k, v) ∨ x ∈ m
  | [], h => Or.inl (List.mem_singleton.mp h)
  | (k', v') :: rest, h => by
    unfold insertKV at h
    split at h
    · exact (List.mem_cons.mp h).imp_right (List.mem_cons_of_mem _)
    · split at h
      · exact List.mem_cons.mp h
      · rcases List.mem_cons.mp h with rfl | h
        · exact Or.inr List.mem_cons_self
        · exact (mem_insertKV k v x rest h).imp_right (List.mem_cons_of_mem _)

theorem sorted_insertKV (k : Str) (v : Warning) : ∀ m : List Msg, SortedMap m → SortedMap (insertKV k v m)
  | [], _ => List.pairwise_singleton _ _
  | (k', v') :: rest, hs => by
    have ⟨hhead, htail⟩ := List.pairwise_cons.mp hs
    unfold insertKV
    split
    · next h => subst h; exact List.pairwise_cons.mpr ⟨hhead, htail⟩
    · next hne =>
      split
      · next hle =>
        have hlt : keyLt (k, v) (k', v') := ⟨hle, hne⟩
        exact List.pairwise_cons.mpr ⟨fun y hy => (List.mem_cons.mp hy).elim (· ▸ hlt) (keyLt_trans hlt <| hhead y ·), hs⟩
      · next hle =>
        have hlt : keyLt (k', v') (k, v) := ⟨(Bool.or_eq_true _ _ ▸ strLe_linear.total k k').resolve_left hle, Ne.symm hne⟩
        refine List.pairwise_cons.mpr ⟨fun y hy => ?_, sorted_insertKV k v rest htail⟩
        exact (mem_insertKV k v y rest hy).elim (· ▸ hlt) (hhead y)

theorem sorted_buildMap (msgs : List Msg) : SortedMap (buildMap msgs) := by
  unfold buildMap
  suffices h : ∀ m0 : List Msg, SortedMap m0 → SortedMap (msgs.foldl (fun m kv => insertKV kv.1 kv.2 m) m0) from
    h [] List.Pairwise.nil
  induction msgs with
  | nil => intro m0 h; exact h
  | cons x xs ih => intro m0 h; exact ih _ (sorted_insertKV x.1 x.2 m0 h)

theorem lookup_eq_some_iff (k : Str) (w : Warning) : ∀ m : List Msg, SortedMap m → (lookup k m = some w ↔ (k, w) ∈ m)
  | [], _ => by simp [lookup]
  | (k', v) :: rest, hs => by
    have ⟨hhead, htail⟩ := List.pairwise_cons.mp hs
    rw [lookup, List.mem_cons]
    split
    · next h =>
      subst h
      exact ⟨fun e => Or.inl (by cases e; rfl), fun e => e.elim (by rintro ⟨⟩; rfl) fun hm => absurd rfl (hhead _ hm).2⟩
    · next h =>
      rw [lookup_eq_some_iff k w rest htail]
      exact ⟨Or.inr, fun e => e.resolve_left (h <| congrArg Prod.fst ·)⟩

theorem sortedMap_ext (m1 m2 : List Msg) (hs1 : SortedMap m1) (hs2 : SortedMap m2)
    (h : ∀ a, lookup a m1 = lookup a m2) : m1 = m2 := by
  have nodup {m : List Msg} (hs : SortedMap m) : m.Nodup := hs.imp fun h e => h.2 (congrArg Prod.fst e)
  refine List.Perm.eq_of_pairwise (fun a b _ _ hab hba => absurd (strLe_linear.antisymm _ _ hab.1 hba.1) hab.2) hs1 hs2 ?_
  refine (List.perm_ext_iff_of_nodup (nodup hs1) (nodup hs2)).mpr fun (k, w) => ?_
  rw [← lookup_eq_some_iff k w m1 hs1, ← lookup_eq_some_iff k w m2 hs2, h]

/-- **C23-collector.** The result of `collect_and_deduplicate` depends on the arrival sequence only
through the last message per first address: two arrival sequences (two thread schedules) that agree
on the last message for every address give the same collected warnings, in the same order. -/
theorem collect_last_only (msgs msgs' : List Msg) (h : ∀ a, lastFor a msgs = lastFor a msgs') :
    collect msgs = collect msgs' := by
  unfold collect
  rw [sortedMap_ext (buildMap msgs) (buildMap msgs') (sorted_buildMap _) (sorted_buildMap _)
    (fun a => by rw [lookup_buildMap, lookup_buildMap, h a])]

theorem lastFor_some_of_nodup : ∀ (msgs : List Msg), (msgs.map (·.1)).Nodup →
    ∀ a w, lastFor a msgs = some w ↔ (a, w) ∈ msgs
  | [], _, a, w => by simp [lastFor]
  | (k, v) :: rest, hn, a, w => by
    have ⟨hk, hn⟩ := List.nodup_cons.mp hn
    have ih := lastFor_some_of_nodup rest hn a
    rw [lastFor, List.mem_cons, ← ih w]
    cases hl : lastFor a rest with
    | some w' =>
      have hak : a ≠ k := fun e => hk (e ▸ List.mem_map.mpr ⟨_, (ih w').mp hl, rfl⟩)
      exact ⟨Or.inr, fun e => e.resolve_left (hak <| congrArg Prod.fst ·)⟩
    | none =>
      simp only [reduceCtorEq, or_false]
      split
      · next h => subst h; exact ⟨by rintro ⟨⟩; rfl, by rintro ⟨⟩; rfl⟩
      · next h => exact ⟨nofun, fun e => absurd (congrArg Prod.fst e) h⟩

/-- **C23-schedule.** If the messages carry pairwise different first addresses (each program point
reports at most once), EVERY interleaving of the sender threads — every permutation of the arrival
sequence — yields the same collected warnings. -/
theorem collect_perm_invariant (msgs msgs' : List Msg) (hn : (msgs.map (·.1)).Nodup) (hp : msgs'.Perm msgs) :
    collect msgs' = collect msgs := by
  refine collect_last_only _ _ fun a => Option.ext fun w => ?_
  rw [lastFor_some_of_nodup msgs' ((hp.map _).nodup_iff.mpr hn), lastFor_some_of_nodup msgs hn, hp.mem_iff]

/-- Even when an address receives several different messages (the schedule then decides which one
survives — the documented information loss of the collector), the output is still determined by
the survivors alone. -/
theorem collect_eq_of_same_survivors (msgs msgs' : List Msg)
    (h : ∀ a, lookup a (buildMap msgs) = lookup a (buildMap msgs')) : collect msgs = collect msgs' := by
  apply collect_last_only
  intro a; rw [← lookup_buildMap, ← lookup_buildMap]; exact h a

private def wa : Warning := ⟨[67], [48], [[49]], [], [], [], [97]⟩
private def wb : Warning := ⟨[67], [48], [[50]], [], [], [], [98]⟩
private def wa' : Warning := ⟨[67], [48], [[49]], [], [], [], [99]⟩

example : collect [([49], wa), ([50], wb)] = [wa, wb] ∧ collect [([50], wb), ([49], wa)] = [wa, wb] := by decide +kernel
-- same address, different messages: the last one wins (order matters here — outside the hypotheses)
example : collect [([49], wa), ([49], wa')] = [wa'] ∧ collect [([49], wa'), ([49], wa)] = [wa] := by decide +kernel
example : keyed [wa, wb] = some [([49], wa), ([50], wb)] := by decide +kernel

end CweModel.C23
