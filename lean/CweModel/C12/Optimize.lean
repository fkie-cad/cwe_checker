/-
C12 — preservation of `WellSized` by the optimizing normalization passes (models of C10), pass by pass and for their
composition `normalizeOptimize_wellSized`: every rewriting step the passes perform maps well-sized terms to
well-sized terms of the same size. Where a model function has case lemmas next to it (C10/PropagationCases,
StackAlignCases, ControlFlowCases, DeadVarsCases) it is walked through them; the table fixpoint and the program-level
wrappers are unfolded here. The run-level proofs of C10 use `TableWS`/`AllWS` from here.
-/
import CweModel.C10.TrivialProofs
import CweModel.C10.PropagationCases
import CweModel.C10.StackAlignCases
import CweModel.C10.ControlFlowCases
import CweModel.C10.DeadVarsCases

namespace CweModel.C12
open CweModel CweModel.IR CweModel.C10

theorem wellSizedDef_map {f : Expression → Expression} (hf : SizePreserving f) {ptr : Nat} {d : Def}
    (h : WellSizedDef ptr d) : WellSizedDef ptr (mapDefExprs f d) := by
  cases d with
  | Assign v e => exact ⟨h.1, wellSizedAs_map hf h.2⟩
  | Load v a => exact ⟨h.1, wellSizedAs_map hf h.2⟩
  | Store a e => exact ⟨wellSizedAs_map hf h.1, (hf e h.2).1⟩

theorem wellSizedJmp_map {f : Expression → Expression} (hf : SizePreserving f) {ptr : Nat} {j : Jmp}
    (h : WellSizedJmp ptr j) : WellSizedJmp ptr (mapJmpExprs f j) := by
  cases j with
  | BranchInd _ | CBranch _ _ | CallInd _ _ | Return _ => exact wellSizedAs_map hf h
  | _ => exact h

theorem wellSizedBlk_map {f : Expression → Expression} (hf : SizePreserving f) {ptr : Nat} {b : Term Blk}
    (h : WellSizedBlk ptr b.term) : WellSizedBlk ptr (mapBlkExprs f b).term :=
  ⟨List.forall_mem_map.mpr fun d hd => wellSizedDef_map hf (h.1 d hd),
    List.forall_mem_map.mpr fun j hj => wellSizedJmp_map hf (h.2 j hj)⟩

theorem wellSizedProgram_mapSubs {f : Term Sub → Term Sub} {ptr : Nat} {p : Program}
    (hf : ∀ s ∈ p.subs, WellSizedSub ptr s.term → WellSizedSub ptr (f s).term)
    (h : WellSizedProgram p ptr) : WellSizedProgram (mapProgramSubs f p) ptr :=
  List.forall_mem_map.mpr fun s hs => hf s hs (h s hs)

theorem wellSizedSub_mapBlocks {g : Term Blk → Term Blk} {ptr : Nat}
    (hg : ∀ b, WellSizedBlk ptr b.term → WellSizedBlk ptr (g b).term) {s : Term Sub}
    (h : WellSizedSub ptr s.term) : WellSizedSub ptr (mapSubBlocks g s).term :=
  List.forall_mem_map.mpr fun b hb => hg b (h b hb)

theorem wellSizedProgram_mapBlocks {g : Term Blk → Term Blk} {ptr : Nat}
    (hg : ∀ b, WellSizedBlk ptr b.term → WellSizedBlk ptr (g b).term) {p : Program}
    (h : WellSizedProgram p ptr) : WellSizedProgram (mapProgramSubs (mapSubBlocks g) p) ptr :=
  wellSizedProgram_mapSubs (fun _ _ => wellSizedSub_mapBlocks hg) h

theorem substTrivial_sizePreserving : SizePreserving substTrivial :=
  fun _ hw => ⟨substTrivial_wellSized hw, substTrivial_bytesize hw⟩

/-- **C12-trivial-program.** `Project::substitute_trivial_expressions` keeps a program size-consistent. -/
theorem substTrivialProgram_wellSized {p : Program} {ptr : Nat} (h : WellSizedProgram p ptr) :
    WellSizedProgram (substTrivialProgram p) ptr :=
  wellSizedProgram_mapBlocks (fun _ hb => wellSizedBlk_map substTrivial_sizePreserving hb) h

/-- **C12-dead-defs.** Removing defs keeps a block size-consistent (dead-variable elimination). -/
theorem wellSizedBlk_filterDefs {ptr : Nat} {b : Blk} (h : WellSizedBlk ptr b) (keep : List (Term Def))
    (hsub : ∀ d ∈ keep, d ∈ b.defs) : WellSizedBlk ptr { b with defs := keep } :=
  ⟨fun d hd => h.1 d (hsub d hd), h.2⟩

/-- **C12-stack-alignment.** The rewrite of the stack alignment pass, `sp & mask ⇝ sp - offset` with a
constant of the mask's size, keeps the assignment well-sized. -/
theorem stackAlign_rewrite_wellSized {sp : Variable} {b x c : Nat}
    (h : WellSized (.BinOp .IntAnd (.Var sp) (.Const b x)) ∨ WellSized (.BinOp .IntAnd (.Const b x) (.Var sp))) :
    WellSized (.BinOp .IntSub (.Var sp) (.Const b c)) ∧
      (Expression.BinOp .IntSub (.Var sp) (.Const b c)).bytesize = sp.size := by
  rcases h with ⟨h1, h2, h3⟩ | ⟨h1, h2, h3⟩
  · exact ⟨⟨h1, h2, h3⟩, rfl⟩
  · exact ⟨⟨h2, h1, Eq.symm h3⟩, rfl⟩

/-- **C12-dve.** `remove_dead_var_assignments` keeps a program size-consistent. -/
theorem removeDeadProgram_wellSized {phys : VarSet} {p : Program} {ptr : Nat} (h : WellSizedProgram p ptr) :
    WellSizedProgram (removeDeadProgram phys p) ptr := by
  refine wellSizedProgram_mapSubs (fun s _ => wellSizedSub_mapBlocks fun b hb => ?_) h
  exact wellSizedBlk_filterDefs hb _ fun _ hd => (removeDeadDefs_sublist _ _).subset hd

theorem wellSizedJmp_mapTarget {ptr : Nat} (g : Tid → Tid) {j : Jmp} (h : WellSizedJmp ptr j) :
    WellSizedJmp ptr (j.mapTarget g) := by
  rcases j with _ | _ | _ | ⟨_, _ | _⟩ | ⟨_, _ | _⟩ | _ | ⟨_, _ | _⟩ <;> exact h

/-- **C12-cf.** `propagate_control_flow` (retargeting of jumps, removal of blocks) keeps a program size-consistent. -/
theorem propagateControlFlow_wellSized {p : Program} {ptr : Nat} (h : WellSizedProgram p ptr) :
    WellSizedProgram (propagateControlFlow p) ptr := by
  have h1 : WellSizedProgram (retargetJumps (allRetargets p) p) ptr := by
    unfold retargetJumps
    rw [retargetJmp_eq]
    refine wellSizedProgram_mapBlocks (fun b hb => ?_) h
    exact ⟨hb.1, List.forall_mem_map.mpr fun j hj => wellSizedJmp_mapTarget _ (hb.2 j hj)⟩
  -- the blocks that stay are blocks of the retargeted function
  refine wellSizedProgram_mapSubs (fun s _ hs => ?_) h1
  split
  · exact hs
  · next e rest heq =>
    intro b hb
    refine hs b (heq ▸ List.mem_cons.mpr ?_)
    exact (List.mem_cons.mp hb).imp_right fun hb => (List.mem_filter.mp hb).1

theorem substituteAnd_wellSizedAs {sp : Variable} {e : Expression} {ea j : BitVec 64} {n : Nat}
    (h : WellSizedAs e n) : WellSizedAs (substituteAnd sp e ea j).1 n := by
  rcases substituteAnd_cases sp e ea j with ⟨l, r, b, x, rfl, hp, _, hs⟩ | ⟨msg, hs⟩
  · rw [hs]
    have hr := stackAlign_rewrite_wellSized (c := i64ToConst b (alignOffset j (constToI64 b x)))
      ((spConstPair_spec hp).imp (fun e => e.1 ▸ e.2 ▸ h.1) (fun e => e.1 ▸ e.2 ▸ h.1))
    refine ⟨hr.1, hr.2.trans ?_⟩
    -- `sp & mask` has the size of `sp` in both orders: the operands of `&` have equal sizes
    rcases spConstPair_spec hp with ⟨rfl, rfl⟩ | ⟨rfl, rfl⟩
    · exact h.2
    · exact h.1.2.2.symm.trans h.2
  · rw [hs]; exact h

theorem saStepDef_wellSized {sp : Variable} {ea : BitVec 64} {ptr : Nat} (acc : SaAcc) (d : Term Def)
    (hacc : ∀ x ∈ acc.defs, WellSizedDef ptr x.term) (hd : WellSizedDef ptr d.term) :
    ∀ x ∈ (saStepDef sp ea acc d).defs, WellSizedDef ptr x.term := by
  obtain ⟨j, lg, s, ds⟩ := acc
  have keep : ∀ x ∈ d :: ds, WellSizedDef ptr x.term := List.forall_mem_cons.mpr ⟨hd, hacc⟩
  refine saStepDef_cases (P := fun F => ∀ x ∈ (F lg).defs, WellSizedDef ptr x.term) sp ea j s ds d
    (fun _ => keep) (fun _ _ => keep) (fun _ _ _ _ _ _ _ => keep) (fun _ _ => keep) fun e _ hdt => ?_
  rw [hdt] at hd
  exact List.forall_mem_cons.mpr ⟨⟨hd.1, substituteAnd_wellSizedAs hd.2⟩, hacc⟩

theorem saFold_wellSized {sp : Variable} {ea : BitVec 64} {ptr : Nat} (defs : List (Term Def)) (acc : SaAcc)
    (hacc : ∀ x ∈ acc.defs, WellSizedDef ptr x.term) (hd : ∀ d ∈ defs, WellSizedDef ptr d.term) :
    ∀ x ∈ (defs.foldl (saStepDef sp ea) acc).defs, WellSizedDef ptr x.term := by
  induction defs generalizing acc with
  | nil => exact hacc
  | cons d ds ih =>
    obtain ⟨hd0, hds⟩ := List.forall_mem_cons.mp hd
    exact ih _ (saStepDef_wellSized acc d hacc hd0) hds

theorem saSub_wellSized {sp : Variable} {ea : BitVec 64} {ptr : Nat} (logs : List String) (s : Term Sub)
    (h : WellSizedSub ptr s.term) : WellSizedSub ptr (saSub sp ea logs s).1.term := by
  unfold saSub
  split
  · exact h
  · next idx =>
    split
    · exact h
    · next blk hblk =>
      have hwb := h blk (List.mem_of_getElem? hblk)
      intro b hb
      rcases List.mem_or_eq_of_mem_set hb with hb | rfl
      · exact h b hb
      · exact ⟨fun d hd => saFold_wellSized blk.term.defs _ (List.forall_mem_nil _) hwb.1 d
          (List.mem_reverse.mp hd), hwb.2⟩

/-- **C12-sa.** `substitute_and_on_stackpointer` keeps a program size-consistent. -/
theorem substituteAndOnStackpointer_wellSized {arch : String} {sp : Variable} {p : Program} {ptr : Nat}
    (h : WellSizedProgram p ptr) : WellSizedProgram (substituteAndOnStackpointer arch sp p).1 ptr := by
  unfold substituteAndOnStackpointer
  intro s hs
  refine List.foldlRecOn (motive := fun acc : List (Term Sub) × List String => ∀ s ∈ acc.1, WellSizedSub ptr s.term)
    p.subs _ (List.forall_mem_nil _) (fun acc hacc x hx => ?_) s (List.mem_reverse.mp hs)
  exact List.forall_mem_cons.mpr ⟨saSub_wellSized _ _ (h x hx), hacc⟩

/-- the invariant of expression propagation: it holds of the initial tables and is kept by every round of the
fixpoint (`computeTables_ws`), so substituting from a table is size-preserving -/
def TableWS (t : Table) : Prop := ∀ p ∈ t, WellSized p.2 ∧ p.2.bytesize = p.1.size

theorem tableWS_nil : TableWS [] := List.forall_mem_nil _

theorem tableWS_filter {t : Table} (h : TableWS t) (f : Variable × Expression → Bool) : TableWS (t.filter f) :=
  fun p hp => h p (List.mem_filter.mp hp).1

theorem tableWS_insert {t : Table} (h : TableWS t) {v : Variable} {e : Expression}
    (he : WellSized e ∧ e.bytesize = v.size) : TableWS (t.insert v e) :=
  List.forall_mem_cons.mpr ⟨he, tableWS_filter h _⟩

theorem tableWS_get {t : Table} (h : TableWS t) {v : Variable} {e : Expression} (hg : t.get v = some e) :
    WellSized e ∧ e.bytesize = v.size :=
  h _ (Table.mem_of_get hg)

theorem substAll_sizePreserving {t : Table} (h : TableWS t) : SizePreserving (substAll t) :=
  SizePreserving.foldl fun p hp => substVar_wellSized (h p hp).1 (h p hp).2

theorem extendFold_sizePreserving {t : Table} (h : TableWS t) (vars : List Variable) :
    SizePreserving (fun e => vars.foldl (fun acc v =>
      match t.get v with
      | some x => if recursionDepth x < 10 then acc.substVar v x else acc
      | none => acc) e) := by
  refine SizePreserving.foldl fun v _ => ?_
  split
  · next x hx =>
    split
    · exact substVar_wellSized (tableWS_get h hx).1 (tableWS_get h hx).2
    · exact sizePreserving_id
  · exact sizePreserving_id

theorem extendExpression_sizePreserving {t : Table} (h : TableWS t) : SizePreserving (extendExpression t) :=
  fun e => (extendFold_sizePreserving h e.inputVars).comp substTrivial_sizePreserving e

theorem updateDef_tableWS {t : Table} (h : TableWS t) {ptr : Nat} {d : Def} (hd : WellSizedDef ptr d) :
    TableWS (updateDef t d) := by
  cases d with
  | Assign v e =>
    unfold updateDef Table.killMentions
    exact tableWS_filter (tableWS_insert h (wellSizedAs_map (extendExpression_sizePreserving h) hd.2)) _
  | Load v a => exact tableWS_filter h _
  | Store a e => exact h

theorem propDef_ws {ptr : Nat} {t : Table} (ht : TableWS t) {d : Def} (hd : WellSizedDef ptr d) :
    WellSizedDef ptr (propDef t d) := by
  cases d with
  | Assign v e => exact wellSizedDef_map (extendExpression_sizePreserving ht) hd
  | Load v a => exact wellSizedDef_map (substAll_sizePreserving ht) hd
  | Store a e => exact wellSizedDef_map (substAll_sizePreserving ht) hd

theorem propagateDefs_ws {ptr : Nat} (defs : List (Term Def)) {t : Table} (ht : TableWS t)
    (hd : ∀ d ∈ defs, WellSizedDef ptr d.term) :
    (∀ d ∈ (propagateDefs t defs).1, WellSizedDef ptr d.term) ∧ TableWS (propagateDefs t defs).2 := by
  induction defs generalizing t with
  | nil => exact ⟨List.forall_mem_nil _, ht⟩
  | cons d ds ih =>
    obtain ⟨hd0, hds⟩ := List.forall_mem_cons.mp hd
    rw [propagateDefs_cons]
    obtain ⟨r1, r2⟩ := ih (updateDef_tableWS ht hd0) hds
    exact ⟨List.forall_mem_cons.mpr ⟨propDef_ws ht hd0, r1⟩, r2⟩

theorem tableAfterDefs_tableWS {ptr : Nat} (defs : List (Term Def)) {t : Table} (h : TableWS t)
    (hd : ∀ d ∈ defs, WellSizedDef ptr d.term) : TableWS (tableAfterDefs t defs) :=
  propagateDefs_snd t defs ▸ (propagateDefs_ws defs h hd).2

def AllWS (m : TableMap) : Prop := ∀ q ∈ m, ∀ t, q.2 = some t → TableWS t

theorem allWS_get {m : TableMap} (h : AllWS m) {tid : Tid} {t : Table} (hg : m.get tid = some t) : TableWS t := by
  unfold TableMap.get at hg
  split at hg
  · next q hq => exact h q (List.mem_of_find?_eq_some hq) t hg
  · cases hg

theorem tablesSent_ws {ptr : Nat} {p : Program} {m : TableMap} (hm : AllWS m) {a : Term Blk}
    (ha : WellSizedBlk ptr a.term) (t : Tid) : ∀ x ∈ tablesSent p m a t, TableWS x := by
  intro x hx
  unfold tablesSent at hx
  -- every edge carries the table after the defs of `a`, or the empty table
  generalize hA : ((m.get a.tid).map fun ta => tableAfterDefs ta a.term.defs) = outA at hx
  have hout : x ∈ outA.toList → TableWS x := fun h => by
    obtain ⟨ta, hg, rfl⟩ := Option.map_eq_some_iff.mp (hA.trans (Option.mem_toList.mp h))
    exact tableAfterDefs_tableWS a.term.defs (allWS_get hm hg) ha.1
  have hempty : x ∈ (outA.map fun _ => ([] : Table)).toList → TableWS x := fun h => by
    obtain ⟨_, _, rfl⟩ := Option.map_eq_some_iff.mp (Option.mem_toList.mp h)
    exact tableWS_nil
  obtain ⟨⟨j, u⟩, _, hx⟩ := List.mem_flatMap.mp hx
  cases j with
  | Branch tgt | CBranch tgt _ => exact hout (List.mem_ite_nil_right.mp hx).2
  | BranchInd e =>
    obtain ⟨_, _, hx⟩ := List.mem_flatMap.mp hx
    exact hout hx
  | Call callee r =>
    cases r with
    | none => cases hx
    | some r =>
      have hx := (List.mem_ite_nil_right.mp hx).2
      split at hx
      · exact hempty hx
      · split at hx
        · obtain ⟨_, _, hx⟩ := List.mem_flatMap.mp hx
          cases List.mem_singleton.mp (List.mem_ite_nil_right.mp hx).2
          exact tableWS_nil
        · cases hx
  | CallInd e r =>
    cases r with
    | none => cases hx
    | some r => exact hempty (List.mem_ite_nil_right.mp hx).2
  | Return e | CallOther _ _ => cases hx

theorem mergeOpt_ws {cur : Option Table} {new : Table} (hc : ∀ t, cur = some t → TableWS t) (hn : TableWS new) :
    ∀ t, mergeOpt cur new = some t → TableWS t := by
  intro t ht
  cases cur with
  | none => cases ht; exact hn
  | some c => cases ht; exact tableWS_filter (hc c rfl) _

theorem foldl_mergeOpt_ws (l : List Table) {cur : Option Table} (hc : ∀ t, cur = some t → TableWS t)
    (hl : ∀ x ∈ l, TableWS x) : ∀ t, l.foldl mergeOpt cur = some t → TableWS t := by
  induction l generalizing cur with
  | nil => exact hc
  | cons x xs ih =>
    obtain ⟨hx, hxs⟩ := List.forall_mem_cons.mp hl
    exact ih (mergeOpt_ws hc hx) hxs

theorem tableRound_ws {ptr : Nat} {p : Program} (hp : WellSizedProgram p ptr) {m : TableMap} (hm : AllWS m) :
    AllWS (tableRound p m) := by
  intro q hq t ht
  obtain ⟨s, hs, hq⟩ := List.mem_flatMap.mp hq
  obtain ⟨b, _, rfl⟩ := List.mem_map.mp hq
  refine foldl_mergeOpt_ws _ (fun t' ht' => allWS_get hm ht') (fun x hx => ?_) t ht
  obtain ⟨a, ha, hx⟩ := List.mem_flatMap.mp hx
  exact tablesSent_ws hm (hp s hs a ha) _ x hx

theorem tableFix_ws {ptr : Nat} {p : Program} (hp : WellSizedProgram p ptr) (fuel : Nat) {m : TableMap}
    (hm : AllWS m) : AllWS (tableFix p fuel m) := by
  induction fuel generalizing m with
  | zero => exact hm
  | succ n ih =>
    simp only [tableFix]
    split
    · exact hm
    · exact ih (tableRound_ws hp hm)

theorem initialTables_ws (p : Program) : AllWS (initialTables p) := by
  intro q hq t ht
  simp only [initialTables, List.mem_flatMap, List.mem_mapIdx] at hq
  obtain ⟨s, _, i, _, rfl⟩ := hq
  simp only at ht
  split at ht
  · cases ht; exact tableWS_nil
  · cases ht

theorem computeTables_ws {ptr : Nat} {p : Program} (hp : WellSizedProgram p ptr) : AllWS (computeTables p) :=
  tableFix_ws hp _ (initialTables_ws p)

theorem propagateBlock_ws {ptr : Nat} {t : Table} (ht : TableWS t) {b : Term Blk} (hb : WellSizedBlk ptr b.term) :
    WellSizedBlk ptr (propagateBlock t b).term :=
  let ⟨r1, r2⟩ := propagateDefs_ws b.term.defs ht hb.1
  ⟨r1, List.forall_mem_map.mpr fun j hj => wellSizedJmp_map (substAll_sizePreserving r2) (hb.2 j hj)⟩

theorem merges_ws {ptr : Nat} {l l' : List (Term Def)} (h : Merges l l') (hd : ∀ d ∈ l, WellSizedDef ptr d.term) :
    ∀ d ∈ l', WellSizedDef ptr d.term := by
  induction h with
  | refl => exact hd
  | cons d _ ih =>
    obtain ⟨h1, h2⟩ := List.forall_mem_cons.mp hd
    exact List.forall_mem_cons.mpr ⟨h1, ih h2⟩
  | merge hl hdt _ ih =>
    obtain ⟨h1, h23⟩ := List.forall_mem_cons.mp hd
    obtain ⟨h2, h3⟩ := List.forall_mem_cons.mp h23
    rw [hl] at h1
    rw [hdt] at h2
    exact ih (List.forall_mem_cons.mpr ⟨⟨h2.1, wellSizedAs_map (substVar_wellSized h1.2.1 h1.2.2) h2.2⟩, h3⟩)

/-- **C12-propagation.** `propagate_input_expression` (merging of assignments to the same variable, the
fixpoint tables, the block-local insertion) keeps a program size-consistent. -/
theorem propagateProgram_wellSized {p : Program} {ptr : Nat} (h : WellSizedProgram p ptr) :
    WellSizedProgram (propagateProgram p) ptr := by
  unfold propagateProgram
  have h1 : WellSizedProgram (mapProgramSubs (mapSubBlocks mergeDefAssignmentsToSameVar) p) ptr := by
    apply wellSizedProgram_mapBlocks _ h
    intro b hb
    exact ⟨merges_ws (mergeDefsLoop_merges b.term.defs none) hb.1, hb.2⟩
  simp only
  have hm := computeTables_ws h1
  unfold propagateSub
  apply wellSizedProgram_mapBlocks _ h1
  intro b hb
  apply propagateBlock_ws _ hb
  cases hg : (computeTables (mapProgramSubs (mapSubBlocks mergeDefAssignmentsToSameVar) p)).get b.tid with
  | none => exact tableWS_nil
  | some t => exact allWS_get hm hg

/-- **C12-normalize-optimize.** The composition of the optimizing normalization passes
(`Project::normalize_optimize`: expression propagation, trivial expression substitution, dead variable
elimination, control flow propagation, stack alignment substitution) maps size-consistent programs to
size-consistent programs. -/
theorem normalizeOptimize_wellSized {arch : String} {sp : Variable} {phys : VarSet} {p : Program} {ptr : Nat}
    (h : WellSizedProgram p ptr) : WellSizedProgram (normalizeOptimize arch sp phys p) ptr := by
  unfold normalizeOptimize
  exact substituteAndOnStackpointer_wellSized (propagateControlFlow_wellSized
    (removeDeadProgram_wellSized (substTrivialProgram_wellSized (propagateProgram_wellSized h))))

end CweModel.C12
