/-
C12 — expression transformers that keep well-sizedness and size: the judgement every rewriting step of the
sub-register replacement (C12/Lift.lean) and of the optimizing passes (C12/Optimize.lean) is shown to satisfy.
-/
import CweModel.C12.Model

namespace CweModel.C12
open CweModel CweModel.IR

def SizePreserving (f : Expression → Expression) : Prop :=
  ∀ e, WellSized e → WellSized (f e) ∧ (f e).bytesize = e.bytesize

theorem sizePreserving_id : SizePreserving id := fun _ hw => ⟨hw, rfl⟩

theorem SizePreserving.comp {f g : Expression → Expression} (hf : SizePreserving f) (hg : SizePreserving g) :
    SizePreserving (fun e => g (f e)) := fun e hw =>
  let ⟨h1, h2⟩ := hf e hw
  let ⟨h3, h4⟩ := hg (f e) h1
  ⟨h3, h4.trans h2⟩

theorem SizePreserving.foldl {α : Type} {step : Expression → α → Expression} {l : List α}
    (h : ∀ a ∈ l, SizePreserving (step · a)) : SizePreserving (l.foldl step ·) := fun e hw =>
  List.foldlRecOn (motive := fun acc => WellSized acc ∧ acc.bytesize = e.bytesize) l step ⟨hw, rfl⟩
    fun acc hacc a ha => ⟨(h a ha acc hacc.1).1, ((h a ha acc hacc.1).2).trans hacc.2⟩

theorem wellSizedAs_map {f : Expression → Expression} (hf : SizePreserving f) {e : Expression} {n : Nat}
    (h : WellSizedAs e n) : WellSizedAs (f e) n :=
  ⟨(hf e h.1).1, (hf e h.1).2.trans h.2⟩

theorem bytesize_binOp_congr {op : BinOpType} {l r l' r' : Expression} (hl : l'.bytesize = l.bytesize)
    (hr : r'.bytesize = r.bytesize) : (Expression.BinOp op l' r').bytesize = (Expression.BinOp op l r).bytesize := by
  unfold Expression.bytesize; rw [hl, hr]

theorem bytesize_unOp_congr {op : UnOpType} {a a' : Expression} (h : a'.bytesize = a.bytesize) :
    (Expression.UnOp op a').bytesize = (Expression.UnOp op a).bytesize := by
  unfold Expression.bytesize; rw [h]

/-- **C12-substitution.** Substituting a variable by a well-sized expression of the variable's size keeps
an expression well-sized and of the same size (`Expression::substitute_input_var`, used by the sub-register
replacement of the lifting, by expression propagation and by the merging of assignments). -/
theorem substVar_wellSized {v : Variable} {by_ : Expression} (hb : WellSized by_) (hs : by_.bytesize = v.size) :
    SizePreserving (fun e => e.substVar v by_) := by
  intro e
  induction e with
  | Var w =>
    intro hw
    simp only [Expression.substVar]
    split
    · next h => subst h; exact ⟨hb, hs⟩
    · exact ⟨hw, rfl⟩
  | Const b x => exact fun hw => ⟨hw, rfl⟩
  | Unknown d s => exact fun hw => ⟨hw, rfl⟩
  | BinOp op l r ihl ihr =>
    intro hw
    obtain ⟨hl1, hl2⟩ := ihl hw.1
    obtain ⟨hr1, hr2⟩ := ihr hw.2.1
    exact ⟨⟨hl1, hr1, hl2 ▸ hr2 ▸ hw.2.2⟩, bytesize_binOp_congr hl2 hr2⟩
  | UnOp op a ih =>
    intro hw
    obtain ⟨h1, h2⟩ := ih hw.1
    exact ⟨⟨h1, h2 ▸ hw.2⟩, bytesize_unOp_congr h2⟩
  | Cast op s a ih =>
    intro hw
    obtain ⟨h1, h2⟩ := ih hw.1
    exact ⟨⟨h1, hw.2.1, h2 ▸ hw.2.2⟩, rfl⟩
  | Subpiece lb s a ih =>
    intro hw
    obtain ⟨h1, h2⟩ := ih hw.1
    exact ⟨⟨h1, hw.2.1, h2 ▸ hw.2.2⟩, rfl⟩

end CweModel.C12
