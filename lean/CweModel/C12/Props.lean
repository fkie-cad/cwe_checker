/-
C12 — Lifted and normalized IR is size-consistent.

The typing walk is `WellSizedProgram` (C12/Model.lean, with the text of the property). The lifting half
(`C12/Lift.lean`: `lift_wellSized`, over the model of the lifting of C11), the basic normalization
(`normalizeBasic_wellSized` below, over the model of C09: it never touches an expression, so every def of the
result is a def of the input and every jump a jump of the input with other target TIDs, `C09.BlkFrom`) and the
optimizing passes (`C12/Optimize.lean`: `normalizeOptimize_wellSized`, over the models of C10) compose to the
statement of the property end to end on the models: `lift_then_normalize_wellSized`.
-/
import CweModel.C09.P5
import CweModel.C11.Props
import CweModel.C12.Optimize
import CweModel.C12.Lift

namespace CweModel.C12

section
open CweModel CweModel.IR CweModel.Gen.PcodeOps CweModel.C11 CweModel.C11.Lift

/-! ### non-vacuity: the hypotheses hold for a concrete project with a sub-register write in the middle of
the base register (`AH`), a shift, a cast-to-base idiom, an implicit RAM load and an indirect jump through
RAM (the example block of C11), and the lifting of that block succeeds -/

def exProject : Pcode.Project :=
  { programTid := ⟨"prog", "1000"⟩,
    program := { subs := [⟨⟨"sub_1000", "1000"⟩, { name := "f", blocks := [⟨⟨"blk_1000", "1000"⟩, exBlk⟩] }⟩] },
    cpuArchitecture := "x86_64",
    stackPointerRegister := rv "RSP" 8,
    registerProperties := exTbl }

theorem exBlk_sized : pcodeBlkSized 8 exBlk = true := by decide
theorem exProject_ok : projectOk exProject = true := by
  show (tableOk exTbl && decide (0 < 8) && (blkOk exTbl exBlk && true && true)) = true
  rw [exTbl_ok, exBlk_ok]; rfl
theorem exProject_sized : projectSized exProject = true := by
  show (pcodeBlkSized 8 exBlk && true && true) = true
  rw [exBlk_sized]; rfl

/-- the lifted block exists (by `C11.liftBlk_sim`, from a defined execution) and is size-consistent -/
example : ∃ ib, liftBlk exTbl 8 exBlk = some ib ∧ WellSizedBlk 8 ib := by
  obtain ⟨eff, h⟩ := Option.isSome_iff_exists.mp exExec
  obtain ⟨ib, _, _, _, _, h1, _⟩ :=
    liftBlk_sim exTbl_ok (by decide : 0 < 8) exEnv (baseRegs_nontemp exTbl) exBlk exBlk_ok (WellTyped.initial exState rfl) rfl h
  exact ⟨ib, h1, liftBlk_wellSized exTbl_ok (by decide) exBlk_ok exBlk_sized h1⟩

example : ∀ prog, liftProject exProject = some prog → WellSizedProgram prog 8 :=
  fun _ h => lift_wellSized exProject_ok exProject_sized h

example : pcodeDefSized 8 (ins "i" (rv "RAX" 8) .INT_ADD (rv "RAX" 8) (some (cv "1" 4))).term = false := by decide

end

section
open CweModel CweModel.IR

theorem wellSizedJmp_skeleton {ptr : Nat} (j : Jmp) : WellSizedJmp ptr j.skeleton ↔ WellSizedJmp ptr j := by
  cases j <;> exact Iff.rfl

theorem wellSizedBlk_of_blkFrom {ptr : Nat} {b' b : Term Blk} (h : C09.BlkFrom b' b) (hb : WellSizedBlk ptr b.term) :
    WellSizedBlk ptr b'.term := by
  refine ⟨fun d hd => ?_, fun j hj => ?_⟩
  · obtain ⟨d0, hd0, e⟩ := List.mem_map.mp (h.defs.subset (List.mem_map_of_mem hd))
    exact e ▸ hb.1 d0 hd0
  · obtain ⟨j0, hj0, e⟩ := List.mem_map.mp (h.jmps.subset (List.mem_map_of_mem hj))
    exact (wellSizedJmp_skeleton _).mp (e ▸ (wellSizedJmp_skeleton _).mpr (hb.2 j0 hj0))

/-- **C12-normalize-basic.** `Project::normalize_basic` (removal of duplicate TIDs, artificial sink,
removal of references to non-existing TIDs, cloning of blocks shared between functions, retargeting of
non-returning calls) maps size-consistent programs to size-consistent programs: it never changes an
expression. -/
theorem normalizeBasic_wellSized (progTid : Tid) {p : Program} {ptr : Nat} (h : WellSizedProgram p ptr) :
    WellSizedProgram (C09.normalizeBasic progTid p) ptr :=
  (C09.normalizeBasic_blocksFrom progTid p).forall (P := fun b => WellSizedBlk ptr b.term)
    (fun b he => ⟨fun d hd => (by rw [he.1] at hd; cases hd), fun j hj => (by rw [he.2] at hj; cases hj)⟩)
    (fun _ _ => wellSizedBlk_of_blkFrom) h

end

open CweModel CweModel.IR CweModel.C10

/-- **C12 (the property, end to end on the models).** For EVERY P-Code project the extractor can emit
(`C11.projectOk`: consistent register table, well formed varnodes and instructions; `C11.projectSized`:
operand sizes consistent with the operations as the P-Code manual prescribes), the program obtained by
lifting (`parse_pcode_project_to_ir_project`, model `C11.Lift.liftProject`: implicit RAM accesses made
explicit, `into_ir_project`, sub-register replacement) and then fully normalizing it (`Project::normalize`
= `normalize_basic`, model `C09.normalizeBasic`, followed by `normalize_optimize`, model
`C10.normalizeOptimize`) is size-consistent with the pointer size of the stack pointer register: operands of
same-size operations have equal sizes, piece/subpiece/extension sizes are consistent with their operands,
every assignment stores a value of the assigned variable's size, every load/store address and indirect
target has pointer size, every branch condition one byte. -/
theorem lift_then_normalize_wellSized {p : C11.Pcode.Project} (hp : C11.projectOk p = true)
    (hs : C11.projectSized p = true) {prog : Program} (h : C11.Lift.liftProject p = some prog)
    (progTid : Tid) (arch : String) (sp : Variable) (phys : VarSet) :
    WellSizedProgram (normalizeOptimize arch sp phys (C09.normalizeBasic progTid prog)) p.pointerSize :=
  normalizeOptimize_wellSized (normalizeBasic_wellSized progTid (lift_wellSized hp hs h))

example (prog : Program) (h : C11.Lift.liftProject exProject = some prog) :
    WellSizedProgram (normalizeOptimize "x86_64" ⟨"RSP", 8, false⟩ [] (C09.normalizeBasic ⟨"prog", "1000"⟩ prog)) 8 :=
  lift_then_normalize_wellSized exProject_ok exProject_sized h _ _ _ _

/-- the executable checker decides the property -/
theorem wellSizedProgram_iff (p : Program) (ptr : Nat) :
    Model.wellSizedProgram p ptr = true ↔ WellSizedProgram p ptr := by
  simp [Model.wellSizedProgram]

/-- a well-sized assignment with a sub-register idiom: `RAX = Piece(Subpiece(2,6,RAX), ZExt:2(AL))` -/
example : WellSizedDef 8 (.Assign ⟨"RAX", 8, false⟩
    (.BinOp .Piece (.Subpiece 2 6 (.Var ⟨"RAX", 8, false⟩))
      (.Cast .IntZExt 2 (.Subpiece 0 1 (.Var ⟨"RAX", 8, false⟩))))) := by decide

example : ¬ WellSized (.BinOp .IntAdd (.Var ⟨"RAX", 8, false⟩) (.Const 4 1)) := by decide

end CweModel.C12
