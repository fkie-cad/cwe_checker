/-
C12 — the LIFTING half of the property: the IR produced by the lifting of P-Code (`CweModel.C11.Lift`, incl. the
Piece/Subpiece expressions of the sub-register replacement, the `loaded_value` temporaries and the cast-to-base fusion)
is size-consistent (`WellSized…` of C12/Model.lean) for every P-Code project of the extractor domain (`lift_wellSized`):
`projectOk` (C11/PcodeSem.lean: consistent register table, well formed varnodes) and `projectSized` (C11/Sized.lean:
operand sizes consistent with the operation — what Ghidra guarantees for the P-Code it emits). Both are decidable and
evaluated by the drivers of C11 and C12 on every case.

What each lifting function does is read off the case lemmas of C11/LiftCases.lean, which with the sweep over the
mnemonic tables (C11/PropsTables) is all of C11 this file rests on; only `Def::into_ir_def` is taken apart here, bind by
bind (`operand_bind`: a lifted operand together with its typing). `into_ir_def` / `From<Jmp>` and the sub-register
replacement stand before `add_load_defs_for_implicit_ram_access`, which runs first: what is proved of it is that its
output lies in `NDef` / `NJmp`, the domain on which `into_ir_def` / `From<Jmp>` are treated.
-/
import CweModel.C11.LiftCases
import CweModel.C11.PropsTables
import CweModel.C12.SizePreserving

namespace CweModel.C12
open CweModel CweModel.IR CweModel.Gen.PcodeOps CweModel.C11 CweModel.C11.Lift

/-- an IR variable of raw lifted IR: positive size, not larger than the register it is named after -/
def VarFits (tbl : RegTable) (v : Variable) : Prop :=
  0 < v.size ∧ ∀ r, regGet tbl v.name = some r → v.size ≤ r.size

/-- the same for a P-Code varnode (RAM and constant varnodes have no name) -/
def varFit (tbl : RegTable) (v : Pcode.Var) : Prop :=
  0 < v.size ∧ ∀ n r, v.name = some n → regGet tbl n = some r → v.size ≤ r.size

def GoodExpr (tbl : RegTable) (e : Expression) : Prop := WellSized e ∧ ∀ w ∈ e.inputVars, VarFits tbl w

def DefVarsFit (tbl : RegTable) : Def → Prop
  | .Assign v e => VarFits tbl v ∧ ∀ w ∈ e.inputVars, VarFits tbl w
  | .Load v a => VarFits tbl v ∧ ∀ w ∈ a.inputVars, VarFits tbl w
  | .Store a e => (∀ w ∈ a.inputVars, VarFits tbl w) ∧ ∀ w ∈ e.inputVars, VarFits tbl w

def JmpVarsFit (tbl : RegTable) : Jmp → Prop
  | .BranchInd e | .CallInd e _ | .Return e | .CBranch _ e => ∀ w ∈ e.inputVars, VarFits tbl w
  | _ => True

def GoodDef (tbl : RegTable) (ptr : Nat) (d : Def) : Prop := WellSizedDef ptr d ∧ DefVarsFit tbl d
def GoodJmp (tbl : RegTable) (ptr : Nat) (j : Jmp) : Prop := WellSizedJmp ptr j ∧ JmpVarsFit tbl j

theorem varOk_varFit {tbl : RegTable} {v : Pcode.Var} (h : varOk tbl v = true) : varFit tbl v := by
  unfold varOk at h
  simp only [Bool.and_eq_true, decide_eq_true_eq] at h
  refine ⟨h.1, fun n r hn hr => ?_⟩
  have h2 := h.2
  cases hk : v.kind with
  | bad => simp [hk] at h2
  | reg m =>
    obtain ⟨h1, _⟩ := kind_reg hk
    rw [h1] at hn; cases hn
    simp only [hk, hr, Bool.and_eq_true, decide_eq_true_eq] at h2
    exact h2.2
  | tmp m =>
    obtain ⟨h1, _⟩ := kind_tmp hk
    rw [h1] at hn; cases hn
    simp [hk, hr] at h2
  | const x => obtain ⟨h1, _⟩ := kind_const hk; rw [h1] at hn; cases hn
  | ram x => obtain ⟨h1, _⟩ := kind_ram hk; rw [h1] at hn; cases hn

theorem loadTemps_mem : "$load_temp0" ∈ liftTempNames ∧ "$load_temp1" ∈ liftTempNames ∧
    "$load_temp2" ∈ liftTempNames :=
  ⟨.tail _ (.head _), .tail _ (.tail _ (.head _)), .tail _ (.tail _ (.tail _ (.head _)))⟩

theorem liftTemp_varFit {tbl : RegTable} (ht : tableOk tbl = true) {n : String} (hn : n ∈ liftTempNames)
    {s : Nat} (hs : 0 < s) : varFit tbl { name := some n, size := s, isVirtual := true } :=
  ⟨hs, fun m r hm hr => by cases hm; rw [tableOk_fresh ht hn] at hr; cases hr⟩

theorem varToIrVar_fits {tbl : RegTable} {v : Pcode.Var} (hv : varFit tbl v) {w : Variable}
    (h : varToIrVar v = some w) : VarFits tbl w ∧ w.size = v.size := by
  simp only [varToIrVar, Option.bind_eq_bind, Option.bind_eq_some_iff, Option.some.injEq] at h
  obtain ⟨n, hn, rfl⟩ := h
  exact ⟨⟨hv.1, fun r hr => hv.2 n r hn hr⟩, rfl⟩

theorem varToIrExpr_good {tbl : RegTable} {v : Pcode.Var} (hv : varFit tbl v) {e : Expression}
    (h : varToIrExpr v = some e) : GoodExpr tbl e ∧ e.bytesize = v.size := by
  unfold varToIrExpr at h
  split at h
  · simp only [Option.bind_eq_bind, Option.bind_eq_some_iff, Option.some.injEq] at h
    obtain ⟨w, hw, rfl⟩ := h
    obtain ⟨h1, h2⟩ := varToIrVar_fits hv hw
    exact ⟨⟨h1.1, fun u hu => List.mem_singleton.mp hu ▸ h1⟩, h2⟩
  · simp only [parseConst, Option.bind_eq_bind, Option.bind_eq_some_iff, Option.some.injEq] at h
    obtain ⟨_, _, _, _, rfl⟩ := h
    exact ⟨⟨hv.1, fun u hu => nomatch hu⟩, rfl⟩
  · cases h

theorem binClass_eq (op : BinOpType) : binClass op =
    bif binSameSize op then (bif binBoolOperands op then .bool else .same) else .free := by
  cases op <;> rfl

theorem binSizesOk_of (op : BinOpType) (a b : Nat)
    (h : ((!binSameSize op || a == b) && (!binBoolOperands op || a == 1)) = true) : binSizesOk op a b := by
  unfold binSizesOk
  rw [binClass_eq]
  cases hs : binSameSize op
  · trivial
  · cases hb : binBoolOperands op <;>
      simp only [hs, hb, Bool.not_true, Bool.not_false, Bool.false_or, Bool.true_or, Bool.and_true,
        Bool.and_eq_true, beq_iff_eq] at h
    · exact h
    · exact ⟨h.2, h.1 ▸ h.2⟩

theorem bytesize_binOp (op : BinOpType) (l r : Expression) :
    (Expression.BinOp op l r).bytesize = binResultSize op l.bytesize r.bytesize := rfl

theorem unSizeOk_of (op : UnOpType) (a : Nat) (h : (op != .BoolNegate || a == 1) = true) : unSizeOk op a := by
  unfold unSizeOk
  split
  · exact eq_of_beq h
  · trivial

theorem bytesize_unOp (op : UnOpType) (a : Expression) :
    (Expression.UnOp op a).bytesize = unResultSize op a.bytesize := rfl

theorem castSizeOk_of (op : CastOpType) (s a : Nat)
    (h : (match op with | .IntZExt | .IntSExt => decide (a ≤ s) | _ => true) = true) : castSizeOk op s a := by
  unfold castSizeOk
  split <;> first | exact of_decide_eq_true h | trivial

/-- an instruction of NORMALIZED P-Code (after `add_load_defs_for_implicit_ram_access`) of the size domain:
operands fit the table (`$load_temp` temporaries included), operand sizes consistent with the operation -/
structure NDef (tbl : RegTable) (ptr : Nat) (d : Pcode.Def) : Prop where
  in0 : ∀ v, d.rhs.input0 = some v → varFit tbl v
  in1 : ∀ v, d.rhs.input1 = some v → varFit tbl v
  in2 : ∀ v, d.rhs.input2 = some v → varFit tbl v
  out : opKind d.rhs.mnemonic ≠ .store → ∀ v, d.lhs = some v → varFit tbl v
  sized : pcodeDefSized ptr d = true
  off : opKind d.rhs.mnemonic = .subpiece → ∀ c, d.rhs.input1 = some c → subpieceOffsetOk c = true

theorem operand_bind {tbl : RegTable} {i : Option Pcode.Var} (hi : ∀ v, i = some v → varFit tbl v) {β : Type}
    {k : Expression → Option β} {r : β} (h : (i.bind fun v => (varToIrExpr v).bind k) = some r) :
    ∃ e, (GoodExpr tbl e ∧ e.bytesize = vsize i) ∧ k e = some r := by
  obtain ⟨v, hv, h⟩ := Option.bind_eq_some_iff.mp h
  obtain ⟨e, he, h⟩ := Option.bind_eq_some_iff.mp h
  exact ⟨e, hv ▸ varToIrExpr_good (hi v hv) he, h⟩

/-- the common tail of `into_ir_def`: assignment to the target, or store at the address of a RAM target -/
theorem finish_good {tbl : RegTable} {ptr : Nat} (hp0 : 0 < ptr) {target : Pcode.Var} (ht : varFit tbl target)
    {value : Expression} (hv : GoodExpr tbl value) (hs : value.bytesize = target.size) {d' : Def}
    (h : (if target.address.isSome then (do some (Def.Store (← parseAddress target ptr) value))
          else (do some (Def.Assign (← varToIrVar target) value))) = some d') : GoodDef tbl ptr d' := by
  split at h
  · simp only [parseAddress, Option.bind_eq_bind, Option.bind_eq_some_iff, Option.some.injEq] at h
    obtain ⟨_, ⟨_, _, _, _, rfl⟩, rfl⟩ := h
    exact ⟨⟨⟨hp0, rfl⟩, hv.1⟩, ⟨fun w hw => (by cases hw), hv.2⟩⟩
  · simp only [Option.bind_eq_bind, Option.bind_eq_some_iff, Option.some.injEq] at h
    obtain ⟨w, hw, rfl⟩ := h
    obtain ⟨h1, h2⟩ := varToIrVar_fits ht hw
    exact ⟨⟨h1.1, hv.1, hs.trans h2.symm⟩, ⟨h1, hv.2⟩⟩

theorem defToIr_good {tbl : RegTable} {ptr : Nat} (hp0 : 0 < ptr) {d : Pcode.Def} (hd : NDef tbl ptr d)
    {d' : Def} (h : defToIr ptr d = some d') : GoodDef tbl ptr d' := by
  have hs := hd.sized
  unfold pcodeDefSized at hs
  unfold defToIr at h
  revert hs
  cases hk : opKind d.rhs.mnemonic with
  | load =>
    intro hs
    rw [arms_load hk] at h
    obtain ⟨o, hl, h⟩ := Option.bind_eq_some_iff.mp h
    obtain ⟨w, hw, h⟩ := Option.bind_eq_some_iff.mp h
    obtain ⟨a, ⟨ha, hsz⟩, h⟩ := operand_bind hd.in1 h
    cases h
    obtain ⟨h1, _⟩ := varToIrVar_fits (hd.out (by simp [hk]) o hl) hw
    exact ⟨⟨h1.1, ha.1, hsz.trans (eq_of_beq hs)⟩, h1, ha.2⟩
  | store =>
    intro hs
    rw [arms_store hk] at h
    obtain ⟨a, ⟨ha, hsz⟩, h⟩ := operand_bind hd.in1 h
    obtain ⟨v, ⟨hv, _⟩, h⟩ := operand_bind hd.in2 h
    cases h
    exact ⟨⟨⟨ha.1, hsz.trans (eq_of_beq hs)⟩, hv.1⟩, ha.2, hv.2⟩
  | subpiece =>
    intro hs
    rw [arms_subpiece hk] at h
    obtain ⟨o, hl, h⟩ := Option.bind_eq_some_iff.mp h
    obtain ⟨c, hc, h⟩ := Option.bind_eq_some_iff.mp h
    obtain ⟨low, hlow, h⟩ := Option.bind_eq_some_iff.mp h
    obtain ⟨a, ⟨ha, hsz⟩, h⟩ := operand_bind hd.in0 h
    have ho := hd.out (by simp [hk]) o hl
    refine finish_good hp0 ho (value := .Subpiece low o.size a) ⟨⟨ha.1, ho.1, ?_⟩, ha.2⟩ rfl h
    cases hlo : constOperand c <;> simp only [hl, hc, hlo, Bool.and_eq_true, decide_eq_true_eq] at hs
    · cases hs
    · cases hlow.symm.trans (subpiece_offset (hd.off hk c hc) hlo)
      exact hsz ▸ hs.1
  | cast op =>
    intro hs
    obtain ⟨harm, hmap⟩ := arms_cast hk
    rw [harm] at h
    obtain ⟨o, hl, h⟩ := Option.bind_eq_some_iff.mp h
    rw [hmap] at h
    obtain ⟨a, ⟨ha, hsz⟩, h⟩ := operand_bind hd.in0 h
    have ho := hd.out (by simp [hk]) o hl
    refine finish_good hp0 ho (value := .Cast op o.size a) ⟨⟨ha.1, ho.1, ?_⟩, ha.2⟩ rfl h
    rw [hl] at hs
    exact hsz ▸ castSizeOk_of op _ _ hs
  | copy =>
    intro hs
    obtain ⟨harm, hearm⟩ := arms_copy hk
    rw [harm] at h
    obtain ⟨o, hl, h⟩ := Option.bind_eq_some_iff.mp h
    obtain ⟨value, hv, h⟩ := Option.bind_eq_some_iff.mp h
    unfold exprToIr at hv
    rw [hearm] at hv
    obtain ⟨i0, hi0, hv⟩ := Option.bind_eq_some_iff.mp hv
    obtain ⟨ha, hsz⟩ := varToIrExpr_good (hd.in0 i0 hi0) hv
    rw [hl, hi0] at hs
    exact finish_good hp0 (hd.out (by simp [hk]) o hl) ha (hsz.trans (eq_of_beq hs).symm) h
  | bin op =>
    intro hs
    obtain ⟨harm, hearm, hmap⟩ := arms_bin hk
    rw [harm] at h
    obtain ⟨o, hl, h⟩ := Option.bind_eq_some_iff.mp h
    obtain ⟨value, hv, h⟩ := Option.bind_eq_some_iff.mp h
    unfold exprToIr at hv
    rw [hearm, hmap] at hv
    obtain ⟨a, ⟨ha, hsa⟩, hv⟩ := operand_bind hd.in0 hv
    obtain ⟨b, ⟨hb, hsb⟩, hv⟩ := operand_bind hd.in1 hv
    cases hv
    rw [hl] at hs
    obtain ⟨hs1, hs2⟩ := (Bool.and_eq_true _ _).mp hs
    refine finish_good hp0 (hd.out (by simp [hk]) o hl) (value := .BinOp op a b) ⟨⟨ha.1, hb.1, ?_⟩, ?_⟩ ?_ h
    · rw [hsa, hsb]; exact binSizesOk_of op _ _ hs1
    · intro w hw
      exact (List.mem_append.mp hw).elim (ha.2 w) (hb.2 w)
    · rw [bytesize_binOp, hsa, hsb]; exact (eq_of_beq hs2).symm
  | un op =>
    intro hs
    obtain ⟨harm, hearm, hmap⟩ := arms_un hk
    rw [harm] at h
    obtain ⟨o, hl, h⟩ := Option.bind_eq_some_iff.mp h
    obtain ⟨value, hv, h⟩ := Option.bind_eq_some_iff.mp h
    unfold exprToIr at hv
    rw [hearm, hmap] at hv
    obtain ⟨a, ⟨ha, hsa⟩, hv⟩ := operand_bind hd.in0 hv
    cases hv
    rw [hl] at hs
    obtain ⟨hs1, hs2⟩ := (Bool.and_eq_true _ _).mp hs
    refine finish_good hp0 (hd.out (by simp [hk]) o hl) (value := .UnOp op a) ⟨⟨ha.1, ?_⟩, ha.2⟩ ?_ h
    · rw [hsa]; exact unSizeOk_of op _ hs1
    · rw [bytesize_unOp, hsa]; exact (eq_of_beq hs2).symm

structure NJmp (tbl : RegTable) (ptr : Nat) (j : Pcode.Jmp) : Prop where
  operand : ∀ v, jmpOperand j = some v → varFit tbl v
  sized : pcodeJmpSized ptr j = true

theorem jmpToIr_good {tbl : RegTable} {ptr : Nat} {j : Pcode.Jmp} (hj : NJmp tbl ptr j) {j' : Jmp}
    (h : jmpToIr j = some j') : GoodJmp tbl ptr j' := by
  cases hs : jmpShape j with
  | none => rw [jmpToIr_none hs] at h; cases h
  | some s =>
    have hsz := pcodeJmpSized_eq hs ptr ▸ hj.sized
    have hop := jmpOperand_eq hs ▸ hj.operand
    rw [jmpToIr_eq hs] at h
    cases s with
    | branch _ | call _ _ | callOther _ _ => cases h; exact ⟨trivial, trivial⟩
    | cbranch _ v | branchInd v | ret v | callInd v _ =>
      obtain ⟨e, he, h⟩ := Option.bind_eq_some_iff.mp h
      cases h
      obtain ⟨hg, hb⟩ := varToIrExpr_good (hop v rfl) he
      exact ⟨⟨hg.1, hb.trans (eq_of_beq hsz)⟩, hg.2⟩

theorem replacementFor_ws {tbl : RegTable} (ht : tableOk tbl = true) {v : Variable} (hv : VarFits tbl v)
    {w : Variable} {e : Expression} (h : replacementFor tbl v = some (some (w, e))) :
    w = v ∧ WellSized e ∧ e.bytesize = v.size := by
  rcases subregister_cases ht v with ⟨hrep, _⟩ | ⟨r, b, hs⟩
  · cases hrep.symm.trans h
  · cases hs.input.symm.trans h
    have hle := hv.2 r hs.get
    exact ⟨rfl, ⟨Nat.lt_of_le_of_lt (Nat.zero_le _) (hs.proper hle), hv.1,
      Nat.le_trans (Nat.add_le_add_left hle _) hs.entry.inside⟩, rfl⟩

/-- **`replace_input_subregister`** keeps a raw expression well-sized and of the same size: every
sub-register variable becomes `Subpiece(lsb, size, base)` with `lsb + size ≤ base.size`. -/
theorem replaceInput_ws {tbl : RegTable} (ht : tableOk tbl = true) {e : Expression} (he : GoodExpr tbl e)
    {e' : Expression} (h : replaceInputSubregister tbl e = some e') : WellSized e' ∧ e'.bytesize = e.bytesize := by
  obtain ⟨pairs, hm, h⟩ := Option.bind_eq_some_iff.mp h
  cases h
  refine SizePreserving.foldl (forall_of_mapOpt hm fun u hu p hp => ?_) e he.1
  cases p with
  | none => exact sizePreserving_id
  | some q =>
    obtain ⟨rfl, h1, h2⟩ := replacementFor_ws (w := q.1) (e := q.2) ht (he.2 u hu) hp
    exact substVar_wellSized h1 h2

theorem replaceInput_as {tbl : RegTable} (ht : tableOk tbl = true) {e : Expression}
    (hfit : ∀ w ∈ e.inputVars, VarFits tbl w) {n : Nat} (he : WellSizedAs e n)
    {e' : Expression} (h : replaceInputSubregister tbl e = some e') : WellSizedAs e' n :=
  let ⟨h1, h2⟩ := replaceInput_ws ht ⟨he.1, hfit⟩ h
  ⟨h1, h2.trans he.2⟩

theorem wellSizedAs_piece {a b : Expression} {m n : Nat} (ha : WellSizedAs a m) (hb : WellSizedAs b n) :
    WellSizedAs (.BinOp .Piece a b) (m + n) :=
  ⟨⟨ha.1, hb.1, trivial⟩, by rw [← ha.2, ← hb.2]; rfl⟩

theorem wellSizedAs_low {bn : String} {B l : Nat} (hl : 0 < l) (hle : l ≤ B) :
    WellSizedAs (.Subpiece 0 l (.Var ⟨bn, B, false⟩)) l :=
  ⟨⟨Nat.lt_of_lt_of_le hl hle, hl, (Nat.zero_add l).symm ▸ hle⟩, rfl⟩

theorem wellSizedAs_high {bn : String} {B k : Nat} (hk : k < B) :
    WellSizedAs (.Subpiece k (B - k) (.Var ⟨bn, B, false⟩)) (B - k) :=
  ⟨⟨Nat.lt_of_le_of_lt (Nat.zero_le k) hk, Nat.sub_pos_of_lt hk, Nat.le_of_eq (Nat.add_sub_cancel' (Nat.le_of_lt hk))⟩, rfl⟩

/-- **`piece_base_register_assignment_expression_together`**: the three Piece shapes (sub-register at the
top, in the middle, at the bottom of the base register) are well-sized and have the size of the base
register. -/
theorem wellSizedAs_pieceTogether {input : Expression} {bn : String} {B l s : Nat} (hi : WellSizedAs input s)
    (hin : l + s ≤ B) (hlow : l = 0 → s < B) : WellSizedAs (pieceTogether input bn B l s) B := by
  rcases Nat.eq_zero_or_pos l with rfl | hl
  · rw [pieceTogether_low]
    have := wellSizedAs_piece (wellSizedAs_high (bn := bn) (hlow rfl)) hi
    rwa [Nat.sub_add_cancel (Nat.le_of_lt (hlow rfl))] at this
  · have low := wellSizedAs_low (bn := bn) hl (Nat.le_trans (Nat.le_add_right l s) hin)
    rcases Nat.eq_or_lt_of_le hin with h | h
    · rw [pieceTogether_top input bn hl h]
      have := wellSizedAs_piece hi low
      rwa [Nat.add_comm, h] at this
    · rw [pieceTogether_mid input bn hl (Nat.ne_of_lt h)]
      have := wellSizedAs_piece (wellSizedAs_piece (wellSizedAs_high (bn := bn) h) hi) low
      rwa [Nat.add_assoc, Nat.add_comm s l, Nat.sub_add_cancel hin] at this

set_option linter.unusedVariables false in
theorem pieceTogether_ws {input : Expression} {bn : String} {B l s : Nat} (hi : WellSized input)
    (hs : input.bytesize = s) (hs0 : 0 < s) (hin : l + s ≤ B) (hlow : l = 0 → s < B) :
    WellSizedAs (pieceTogether input bn B l s) B := wellSizedAs_pieceTogether ⟨hi, hs⟩ hin hlow

theorem outputSub_facts {tbl : RegTable} (ht : tableOk tbl = true) {v : Variable} (hv : VarFits tbl v)
    {r b : Pcode.RegisterProperties} (h : outputSubregister tbl v = some (some (r, b))) :
    r.lsb + v.size ≤ b.size ∧ 0 < b.size ∧ (r.lsb = 0 → v.size < b.size) := by
  rcases subregister_cases ht v with ⟨_, hout, _⟩ | ⟨r', b', hs⟩
  · cases hout.symm.trans h
  · cases hs.output.symm.trans h
    have hle := hv.2 r hs.get
    have hlt := hs.proper hle
    exact ⟨Nat.le_trans (Nat.add_le_add_left hle _) hs.entry.inside, Nat.lt_of_le_of_lt (Nat.zero_le _) hlt, fun _ => hlt⟩

theorem subWriteDefs_ws {tbl : RegTable} (ht : tableOk tbl = true) {ptr : Nat} {var : Variable}
    (hfit : VarFits tbl var) {r b : Pcode.RegisterProperties} (ho : outputSubregister tbl var = some (some (r, b)))
    {value : Expression} (hv : WellSizedAs value var.size) {next : Option (Term Def)}
    (hn : ∀ nd, next = some nd → GoodDef tbl ptr nd.term) {t' : Tid} {outs : List (Term Def)} {c : Bool}
    (h : subWriteDefs tbl var r b value t' next = some (outs, c)) : ∀ x ∈ outs, WellSizedDef ptr x.term := by
  unfold subWriteDefs at h
  split at h
  · split at h <;> cases h
    have hcast := (hn _ rfl).1
    exact List.forall_mem_singleton.mpr ⟨hcast.1, wellSizedAs_map (substVar_wellSized hv.1 hv.2) hcast.2⟩
  · cases h
    obtain ⟨f1, f2, f3⟩ := outputSub_facts ht hfit ho
    exact List.forall_mem_singleton.mpr ⟨f2, wellSizedAs_pieceTogether hv f1 f3⟩

/-- one iteration of the loop: every def pushed to the output is size-consistent — the ordinary def with
replaced inputs, the assignment of the pieced-together base register, the load into `loaded_value`, and the
cast def of a cast-to-base fusion with the sub-register replaced by its value -/
theorem replaceStep_ws {tbl : RegTable} (ht : tableOk tbl = true) {ptr : Nat} {d : Term Def}
    {next : Option (Term Def)} (hd : GoodDef tbl ptr d.term) (hn : ∀ nd, next = some nd → GoodDef tbl ptr nd.term)
    {outs : List (Term Def)} {c : Bool} (h : replaceStep tbl d next = some (outs, c)) :
    ∀ x ∈ outs, WellSizedDef ptr x.term := by
  obtain ⟨hws, hfit⟩ := hd
  obtain ⟨d', hr⟩ : ∃ d', replaceInputsDef tbl d.term = some d' := by
    unfold replaceStep at h
    exact (Option.bind_eq_some_iff.mp h).imp fun _ h => h.1
  obtain ⟨tid, dt⟩ := d
  cases dt with
  | Store a e =>
    obtain ⟨a', ha', hr'⟩ := Option.bind_eq_some_iff.mp hr
    obtain ⟨e', he', hr'⟩ := Option.bind_eq_some_iff.mp hr'
    cases hr'
    cases (replaceStep_store next hr).symm.trans h
    exact List.forall_mem_singleton.mpr
      ⟨replaceInput_as ht hfit.1 hws.1 ha', (replaceInput_ws ht ⟨hws.2, hfit.2⟩ he').1⟩
  | Assign var e =>
    obtain ⟨value, he', hr'⟩ := Option.bind_eq_some_iff.mp hr
    cases hr'
    have hv := replaceInput_as ht hfit.2 hws.2 he'
    rw [replaceStep_assign next hr] at h
    obtain ⟨o, ho, h⟩ := Option.bind_eq_some_iff.mp h
    cases o with
    | none => cases h; exact List.forall_mem_singleton.mpr ⟨hws.1, hv⟩
    | some rb => exact subWriteDefs_ws ht hfit.1 ho hv hn h
  | Load var a =>
    obtain ⟨address, ha', hr'⟩ := Option.bind_eq_some_iff.mp hr
    cases hr'
    have hload : WellSizedDef ptr (.Load ⟨"loaded_value", var.size, true⟩ address) :=
      ⟨hws.1, replaceInput_as ht hfit.2 hws.2 ha'⟩
    rw [replaceStep_load next hr] at h
    obtain ⟨o, ho, h⟩ := Option.bind_eq_some_iff.mp h
    cases o with
    | none => cases h; exact List.forall_mem_singleton.mpr hload
    | some rb =>
      obtain ⟨p, hp, h⟩ := Option.map_eq_some_iff.mp h
      cases h
      exact List.forall_mem_cons.mpr ⟨hload, subWriteDefs_ws ht hfit.1 ho (value := .Var ⟨"loaded_value", var.size, true⟩) ⟨hws.1, rfl⟩ hn hp⟩

/-- **`compute_replacement_defs_for_block`** maps size-consistent raw defs to size-consistent defs. -/
theorem replaceDefs_wellSized {tbl : RegTable} (ht : tableOk tbl = true) {ptr : Nat} (l : List (Term Def)) :
    (∀ d ∈ l, GoodDef tbl ptr d.term) → ∀ out, replaceDefs tbl l = some out → ∀ x ∈ out, WellSizedDef ptr x.term := by
  induction l using replaceDefs.induct with
  | case1 => intro _ out h; rw [replaceDefs] at h; cases h; exact List.forall_mem_nil _
  | case2 d rest ih =>
    intro hg out h
    rw [replaceDefs] at h
    obtain ⟨⟨outs, c⟩, hs, h⟩ := Option.bind_eq_some_iff.mp h
    obtain ⟨tail, ht', h⟩ := Option.bind_eq_some_iff.mp h
    cases h
    obtain ⟨hd, hrest⟩ := List.forall_mem_cons.mp hg
    have h1 := replaceStep_ws ht hd (fun nd hnd => hrest nd (List.mem_of_mem_head? hnd)) hs
    have h2 : ∀ x ∈ tail, WellSizedDef ptr x.term := by
      cases c
      · exact ih false hrest tail ht'
      · exact ih true (fun d' hd' => hrest d' (List.mem_of_mem_tail hd')) tail ht'
    exact fun x hx => (List.mem_append.mp hx).elim (h1 x) (h2 x)

theorem replaceDefs_ws {tbl : RegTable} (ht : tableOk tbl = true) {ptr : Nat} :
    ∀ (n : Nat) (l : List (Term Def)), l.length ≤ n → (∀ d ∈ l, GoodDef tbl ptr d.term) →
      ∀ out, replaceDefs tbl l = some out → ∀ x ∈ out, WellSizedDef ptr x.term :=
  fun _ l _ => replaceDefs_wellSized ht l

theorem replaceJump_ws {tbl : RegTable} (ht : tableOk tbl = true) {ptr : Nat} {j j' : Jmp}
    (hj : GoodJmp tbl ptr j) (h : replaceSubregisterInJump tbl j = some j') : WellSizedJmp ptr j' := by
  obtain ⟨hws, hfit⟩ := hj
  cases j with
  | Branch _ | Call _ _ | CallOther _ _ => cases h; exact hws
  | BranchInd e | CBranch _ e | CallInd e _ | Return e =>
    obtain ⟨e', he', h⟩ := Option.bind_eq_some_iff.mp h
    cases h
    exact replaceInput_as ht hfit hws he'

/-- **`replace_subregister_in_block`** maps a block of size-consistent raw IR to a size-consistent block. -/
theorem replaceBlock_ws {tbl : RegTable} (ht : tableOk tbl = true) {ptr : Nat} {b b' : Blk}
    (hd : ∀ d ∈ b.defs, GoodDef tbl ptr d.term) (hj : ∀ j ∈ b.jmps, GoodJmp tbl ptr j.term)
    (h : replaceSubregisterInBlock tbl b = some b') : WellSizedBlk ptr b' := by
  obtain ⟨jmps, hm, h⟩ := Option.bind_eq_some_iff.mp h
  obtain ⟨defs, hr, h⟩ := Option.bind_eq_some_iff.mp h
  cases h
  refine ⟨replaceDefs_wellSized ht b.defs hd defs hr, forall_of_mapOpt hm fun j hjm j' hfj => ?_⟩
  obtain ⟨jt, hrj, hfj⟩ := Option.bind_eq_some_iff.mp hfj
  cases hfj
  exact replaceJump_ws ht (hj j hjm) hrj

theorem vsize_some (v : Pcode.Var) : vsize (some v) = v.size := rfl

/-- the explicit load inserted for a RAM varnode: `$load_temp<i> = LOAD <address constant of pointer size>` -/
theorem loadDef_ndef {tbl : RegTable} (ht : tableOk tbl = true) {ptr : Nat} (hp0 : 0 < ptr) {size : Nat}
    (hs : 0 < size) {tmp : String} (htmp : tmp ∈ liftTempNames) (a : String) :
    NDef tbl ptr (loadDef tmp size a ptr) := by
  have htmpFit : varFit tbl (loadTemp tmp size) := liftTemp_varFit ht htmp hs
  refine ⟨(fun _ hw => nomatch hw), fun w hw => ?_, (fun _ hw => nomatch hw), fun _ w hw => ?_,
    beq_self_eq_true ptr, fun hk => nomatch hk⟩
  · cases hw; exact ⟨hp0, fun _ _ hn => nomatch hn⟩
  · cases hw; exact htmpFit

theorem loadFor_spec {tbl : RegTable} (ht : tableOk tbl = true) {ptr : Nat} (hp0 : 0 < ptr) {tid : Tid}
    {inp : Option Pcode.Var} (hin : optVarOk? tbl inp = true) {tmp sfx : String} (htmp : tmp ∈ liftTempNames)
    {l : List (Term Pcode.Def)} {i' : Option Pcode.Var} (h : loadFor tid inp tmp sfx ptr = some (l, i')) :
    (∀ x ∈ l, NDef tbl ptr x.term) ∧ (∀ w, i' = some w → varFit tbl w) ∧ vsize i' = vsize inp ∧
      ((∀ v, inp = some v → v.address = none) → i' = inp) := by
  rw [loadFor_eq] at h
  cases inp with
  | none => cases h; exact ⟨List.forall_mem_nil _, (fun _ hw => nomatch hw), rfl, fun _ => rfl⟩
  | some v =>
    have hv := varOk_varFit (show varOk tbl v = true from hin)
    cases ha : v.address with
    | none =>
      simp only [ha] at h
      cases h
      exact ⟨List.forall_mem_nil _, fun w hw => Option.some.inj hw ▸ hv, rfl, fun _ => rfl⟩
    | some a =>
      simp only [ha] at h
      cases h
      exact ⟨List.forall_mem_singleton.mpr (loadDef_ndef ht hp0 hv.1 htmp a),
        fun w hw => Option.some.inj hw ▸ liftTemp_varFit ht htmp hv.1, rfl, fun hna => nomatch (hna v rfl).symm.trans ha⟩

/-- the size condition only looks at the sizes of the operands (and at the offset operand of a SUBPIECE) -/
theorem pcodeDefSized_congr {ptr : Nat} {d d' : Pcode.Def} (hl : d'.lhs = d.lhs)
    (hm : d'.rhs.mnemonic = d.rhs.mnemonic) (h0 : vsize d'.rhs.input0 = vsize d.rhs.input0)
    (h1 : vsize d'.rhs.input1 = vsize d.rhs.input1)
    (hc : opKind d.rhs.mnemonic = .subpiece → d'.rhs.input1 = d.rhs.input1)
    (hs : pcodeDefSized ptr d = true) : pcodeDefSized ptr d' = true := by
  unfold pcodeDefSized at hs ⊢
  rw [hl, hm, h0, h1]
  revert hs
  cases hk : opKind d.rhs.mnemonic with
  | subpiece => rw [hc hk]; exact id
  | _ => exact id

/-- **`add_load_defs_for_implicit_ram_access`, one instruction**: the explicit loads and the rewritten
instruction are in the size domain of normalized P-Code. -/
theorem addLoadsDef_ndef {tbl : RegTable} (ht : tableOk tbl = true) {ptr : Nat} (hp0 : 0 < ptr)
    {d : Term Pcode.Def} (hok : defOk tbl d.term = true) (hs : pcodeDefSized ptr d.term = true)
    {ds : List (Term Pcode.Def)} (h : addLoadsDef ptr d = some ds) : ∀ x ∈ ds, NDef tbl ptr x.term := by
  obtain ⟨hi0, hi1, hi2⟩ := defOk_inputs hok
  unfold addLoadsDef at h
  obtain ⟨⟨l₀, i₀⟩, h0, h⟩ := Option.bind_eq_some_iff.mp h
  obtain ⟨⟨l₁, i₁⟩, h1, h⟩ := Option.bind_eq_some_iff.mp h
  obtain ⟨⟨l₂, i₂⟩, h2, h⟩ := Option.bind_eq_some_iff.mp h
  cases h
  obtain ⟨a1, a2, a3, _⟩ := loadFor_spec ht hp0 hi0 loadTemps_mem.1 h0
  obtain ⟨b1, b2, b3, b4⟩ := loadFor_spec ht hp0 hi1 loadTemps_mem.2.1 h1
  obtain ⟨c1, c2, _, _⟩ := loadFor_spec ht hp0 hi2 loadTemps_mem.2.2 h2
  -- the constant offset operand of a SUBPIECE is not rewritten
  have hi1eq : opKind d.term.rhs.mnemonic = .subpiece → i₁ = d.term.rhs.input1 := fun hk =>
    b4 fun c hc => let ⟨_, hx⟩ := offsetOk_const (defOk_offset hok hk hc); (kind_const hx).2.1
  simp only [List.forall_mem_append, List.forall_mem_singleton]
  exact ⟨⟨⟨a1, b1⟩, c1⟩, a2, b2, c2, fun hns v hv => varOk_varFit (defOk_lhs hok hns hv),
    pcodeDefSized_congr (d := d.term) rfl rfl a3 b3 hi1eq hs, fun hk c hc => defOk_offset hok hk (hi1eq hk ▸ hc)⟩

theorem jmpOk_njmp {tbl : RegTable} {ptr : Nat} {j : Pcode.Jmp} (hok : jmpOk tbl j = true)
    (hs : pcodeJmpSized ptr j = true) : NJmp tbl ptr j :=
  ⟨fun _ hv => varOk_varFit (jmpOk_operand hok hv).1, hs⟩

/-- **`add_load_defs_for_implicit_ram_access`, the jump of a block** (first jump: temporary `$load_temp0`):
a RAM target of an indirect jump or call becomes an explicit load of pointer size. -/
theorem addLoadsJmp_spec {tbl : RegTable} (ht : tableOk tbl = true) {ptr : Nat} (hp0 : 0 < ptr)
    {j : Term Pcode.Jmp} (hok : jmpOk tbl j.term = true) (hs : pcodeJmpSized ptr j.term = true)
    {l : List (Term Pcode.Def)} {j' : Term Pcode.Jmp} (h : addLoadsJmp ptr 0 j = some (l, j')) :
    (∀ x ∈ l, NDef tbl ptr x.term) ∧ NJmp tbl ptr j'.term := by
  have hbase : (∀ x ∈ ([] : List (Term Pcode.Def)), NDef tbl ptr x.term) ∧ NJmp tbl ptr j.term :=
    ⟨List.forall_mem_nil _, jmpOk_njmp hok hs⟩
  rw [addLoadsJmp_eq] at h
  split at h
  · next hm =>
    obtain ⟨v, hv, h⟩ := Option.bind_eq_some_iff.mp h
    split at h <;> cases h
    · next a ha =>
      -- the target has pointer size, and so has the temporary it is loaded into
      have hsz : v.size = ptr := eq_of_beq ((pcodeJmpSized_indirect hm hv ptr).symm.trans hs)
      have htmp : "$load_temp" ++ toString (0 : Nat) ∈ liftTempNames := loadTempName0 ▸ loadTemps_mem.1
      obtain ⟨g1, g2⟩ := setTarget_operand hm hv (loadTemp ("$load_temp" ++ toString (0 : Nat)) v.size)
      refine ⟨List.forall_mem_singleton.mpr (loadDef_ndef ht hp0 (hsz ▸ hp0) htmp a),
        fun w hw => Option.some.inj (g2.symm.trans hw) ▸ liftTemp_varFit ht htmp (hsz ▸ hp0), ?_⟩
      rw [pcodeJmpSized_indirect (g1 ▸ hm) g2]
      exact beq_of_eq hsz
    · exact hbase
  · cases h; exact hbase

/-- the jumps of a block (`jmpsShapeOk`: none, one, or CBRANCH + BRANCH) -/
theorem addLoadsJmps_spec {tbl : RegTable} (ht : tableOk tbl = true) {ptr : Nat} (hp0 : 0 < ptr)
    {js : List (Term Pcode.Jmp)} (hok : ∀ j ∈ js, jmpOk tbl j.term = true)
    (hs : ∀ j ∈ js, pcodeJmpSized ptr j.term = true) (hshape : jmpsShapeOk js = true)
    {ls : List (Term Pcode.Def)} {js' : List (Term Pcode.Jmp)} (h : addLoadsJmps ptr 0 js = some (ls, js')) :
    (∀ x ∈ ls, NDef tbl ptr x.term) ∧ ∀ j' ∈ js', NJmp tbl ptr j'.term := by
  rcases ramJmp_cases hok hshape with hnr | ⟨j, _, rfl, _, _⟩
  · cases (addLoadsJmps_plain 0 js hok hnr).symm.trans h
    exact ⟨List.forall_mem_nil _, fun x hx => jmpOk_njmp (hok x hx) (hs x hx)⟩
  · obtain ⟨⟨l, j'⟩, h1, h⟩ := Option.bind_eq_some_iff.mp h
    cases h
    obtain ⟨g1, g2⟩ := addLoadsJmp_spec ht hp0 (hok j List.mem_cons_self) (hs j List.mem_cons_self) h1
    exact ⟨by rwa [List.append_nil], List.forall_mem_singleton.mpr g2⟩

/-- **C12-lift-block.** For every consistent register table and every block of in-domain, size-consistent
P-Code, the block produced by the lifting (`add_load_defs_for_implicit_ram_access`, `into_ir_blk`,
`replace_subregister_in_block`) is size-consistent: every def and jump is well-sized (incl. the
Piece/Subpiece expressions of the sub-register replacement, the `loaded_value` temporaries, the explicit
loads of RAM operands, the fused casts), assignments have the size of the assigned variable, load/store
addresses and indirect targets have pointer size, conditions one byte. -/
theorem liftBlk_wellSized {tbl : RegTable} (ht : tableOk tbl = true) {ptr : Nat} (hp0 : 0 < ptr)
    {b : Pcode.Blk} (hb : blkOk tbl b = true) (hs : pcodeBlkSized ptr b = true) {ib : Blk}
    (h : liftBlk tbl ptr b = some ib) : WellSizedBlk ptr ib := by
  unfold blkOk at hb
  simp only [Bool.and_eq_true, List.all_eq_true] at hb
  obtain ⟨⟨hdefs, hjmps⟩, hshape⟩ := hb
  unfold pcodeBlkSized at hs
  simp only [Bool.and_eq_true, List.all_eq_true] at hs
  obtain ⟨hsd, hsj⟩ := hs
  -- normalized P-Code, raw IR, sub-register replacement
  obtain ⟨nss, ls, js, raw, final, ijs, hm, hj, hrd, hf, hij, rfl⟩ := liftBlk_eq_some.mp h
  obtain ⟨hls, hjs⟩ := addLoadsJmps_spec ht hp0 hjmps hsj hshape hj
  have hnd : ∀ x ∈ nss.flatten ++ ls, NDef tbl ptr x.term :=
    List.forall_mem_append.mpr ⟨fun x hx =>
      let ⟨l, hl, hxl⟩ := List.mem_flatten.mp hx
      forall_of_mapOpt hm (fun d hd l hfd => addLoadsDef_ndef ht hp0 (hdefs d hd) (hsd d hd) hfd) l hl x hxl, hls⟩
  refine ⟨replaceDefs_wellSized ht raw (forall_of_mapOpt hrd fun d hd d' hfd => ?_) final hf,
    forall_of_mapOpt hij fun j hjm j' hfj => ?_⟩
  · obtain ⟨t, hdi, hfd⟩ := Option.bind_eq_some_iff.mp hfd
    cases hfd
    exact defToIr_good hp0 (hnd d hd) hdi
  · obtain ⟨jt, hji, hfj⟩ := Option.bind_eq_some_iff.mp hfj
    obtain ⟨jr, hjr, hfj⟩ := Option.bind_eq_some_iff.mp hfj
    cases hfj
    exact replaceJump_ws ht (jmpToIr_good (hjs j hjm) hji) hjr

/-- **C12-lift (the lifting half of the property).** For every P-Code project of the extractor domain
(`projectOk`: consistent register table, well formed varnodes and instructions; `projectSized`: operand
sizes consistent with the operations, as the P-Code manual prescribes) the program produced by
`parse_pcode_project_to_ir_project` (`Project::normalize` of the P-Code + `into_ir_project`, model
`C11.Lift.liftProject`) is size-consistent with the pointer size of the stack pointer register. -/
theorem lift_wellSized {p : Pcode.Project} (hp : projectOk p = true) (hs : projectSized p = true)
    {prog : Program} (h : liftProject p = some prog) : WellSizedProgram prog p.pointerSize := by
  unfold projectOk at hp
  simp only [Bool.and_eq_true, List.all_eq_true, decide_eq_true_eq] at hp
  obtain ⟨⟨ht, hp0⟩, hblk⟩ := hp
  unfold projectSized at hs
  simp only [List.all_eq_true] at hs
  intro s hsub ib hib
  obtain ⟨ps, hps, _, pb, hpb, _, hl⟩ := liftProject_blocks h s hsub ib hib
  exact liftBlk_wellSized ht hp0 (hblk ps hps pb hpb) (hs ps hps pb hpb) hl

end CweModel.C12
