/-
C04 — the property:

  When the analysis refines a value with the knowledge that a comparison against a constant
  (signed/unsigned <=, >=, !=) holds or that two values intersect, every concrete member of the
  original value that satisfies the condition is still represented. Refinement reports
  'unsatisfiable' only when no represented concrete value can satisfy the condition.

For `IntervalDomain` this is `addBound_sound` (`Bounds`), `intersect_sound`, `intersect_none_no_common`
(`Intersect`); for `DataDomain::intersect`, `dataIntersect_abs_sound`, `dataIntersect_none` (`DataProps`).
The five bound functions of `DataDomain`, which refine the absolute part only: `data_addBound_sound` (`DataBounds`).
-/
import CweModel.C04.DataBounds
import CweModel.C04.Intersect
import CweModel.C04.DataProps
