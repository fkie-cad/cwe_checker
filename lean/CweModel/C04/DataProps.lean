/-
C04 — `DataDomain::intersect`: the part that is sound and intended. For every concrete ABSOLUTE value
`v` of one operand that the other operand may hold (member of its absolute part, or the other operand has
the top flag or at least one relative target — a pointer may have any absolute value), `v` is represented
by the result (top flag or member of the absolute part); in particular the result is not `Err`.

Not stated (documented as unsound by the code): values represented through relative targets (two
different identifiers are assumed disjoint; absolute values are preferred over relative ones).

Needed on the way: `intersect` of well-formed `IntervalDomain`s returns a well-formed value
(`intersect_keeps`, of which `intersect_wf` is the reading for at most 64 bit), so that the merges at the end of
`DataDomain::intersect` are sound.
-/
import CweModel.C04.DataModel
import CweModel.C04.Intersect

namespace CweModel.C04
open CweModel.Itv CweModel.C02 CweModel.C03

/-- **C04-intersect-wf.** `intersect` of two well-formed `IntervalDomain`s of the same width (at most 64
bit) is well-formed and has that width. -/
theorem intersect_wf (a b : IntervalDomain) (ha : a.WF) (hb : b.WF) (hw : b.interval.w = a.interval.w)
    (hw64 : a.interval.w ≤ 64) {r : IntervalDomain} (h : a.intersect b = some r) :
    r.WF ∧ r.interval.w = a.interval.w := (intersect_keeps a b ha hb hw).of_some h

namespace DD
open DataDomain

theorem ofItv_absolute (x : IntervalDomain) : (ofItv x).absolute = some x := rfl

def AbsOK (d : DataDomain Nat) (w : Nat) : Prop := ∀ a, d.absolute = some a → a.WF ∧ a.interval.w = w

theorem merge_ofItv (r : DataDomain Nat) (x : IntervalDomain) (w : Nat) (hw64 : w ≤ 64)
    (hr : AbsOK r w) (hx : x.WF) (hxw : x.interval.w = w) :
    AbsOK (r.merge (ofItv x)) w ∧ (∀ v, r.AbsRep v → (r.merge (ofItv x)).AbsRep v) ∧
    (∀ v, x.Mem v → (r.merge (ofItv x)).AbsRep v) := by
  cases hra : r.absolute with
  | none =>
    have habs : (r.merge (ofItv x)).absolute = some x := by unfold merge; rw [hra]; rfl
    refine ⟨fun a h => ?_, fun v hv => ?_, fun v hv => Or.inr ⟨x, habs, hv⟩⟩
    · rw [habs] at h; cases h; exact ⟨hx, hxw⟩
    · rcases hv with ht | ⟨a, h, _⟩
      · left; show (r.top || false) = true; simp [ht]
      · rw [hra] at h; cases h
  | some l =>
    obtain ⟨hl, hlw⟩ := hr l hra
    have habs : (r.merge (ofItv x)).absolute = some (signedMergeAndWiden l x) := by unfold merge; rw [hra]; rfl
    obtain ⟨hm, hml, hmx⟩ := signedMergeAndWiden_ub hw64 (hr l hra) ⟨hx, hxw⟩
    refine ⟨fun a h => ?_, fun v hv => ?_, fun v hv => Or.inr ⟨_, habs, hmx v hv⟩⟩
    · rw [habs] at h; cases h; exact hm
    · rcases hv with ht | ⟨a, h, hm'⟩
      · left; show (r.top || false) = true; simp [ht]
      · rw [hra] at h; cases h
        exact Or.inr ⟨_, habs, hml v hm'⟩

/-- the value `intersect` starts from before the absolute values are merged back -/
def start (a b : DataDomain Nat) : DataDomain Nat :=
  match a.top, b.top with
  | true, false => b
  | false, true => a
  | _, _ =>
    { size := a.size
      relative := intersectRel a.relative b.relative
      absolute := match a.absolute, b.absolute with
        | some x, some y => x.intersect y
        | _, _ => none
      top := a.top && b.top }

/-- one of the two conditional merges at the end of `intersect`: the absolute part `abs` of one operand is
merged into `r` if the other operand has relative targets `rel` -/
def mergeBack (rel : List (Nat × IntervalDomain)) (abs : Option IntervalDomain) (r : DataDomain Nat) : DataDomain Nat :=
  if !rel.isEmpty then (match abs with | some v => r.merge (ofItv v) | none => r) else r

/-- the tail of `intersect`: both conditional merges and the emptiness test, starting from `r` -/
def tail (a b r : DataDomain Nat) : Option (DataDomain Nat) :=
  let r := mergeBack b.relative a.absolute (mergeBack a.relative b.absolute r)
  if r.isEmpty then none else some r

theorem intersect_eq_tail (a b : DataDomain Nat) : a.intersect b = tail a b (start a b) := rfl

theorem isEmpty_false_of_absRep {d : DataDomain Nat} {v : Int} (h : d.AbsRep v) : d.isEmpty = false := by
  unfold DataDomain.isEmpty
  rcases h with ht | ⟨a, ha, _⟩
  · simp [ht]
  · simp [ha]

theorem mergeBack_spec (rel : List (Nat × IntervalDomain)) (abs : Option IntervalDomain) (r : DataDomain Nat) (w : Nat)
    (hw64 : w ≤ 64) (hr : AbsOK r w) (habs : ∀ y, abs = some y → y.WF ∧ y.interval.w = w) :
    AbsOK (mergeBack rel abs r) w ∧ (∀ v, r.AbsRep v → (mergeBack rel abs r).AbsRep v) ∧
    (rel ≠ [] → ∀ y v, abs = some y → y.Mem v → (mergeBack rel abs r).AbsRep v) := by
  unfold mergeBack
  by_cases hrel : rel = []
  · rw [hrel]; exact ⟨hr, fun _ h => h, fun h => absurd rfl h⟩
  · rw [if_pos (by simp [hrel])]
    cases abs with
    | none => exact ⟨hr, fun _ h => h, fun _ _ _ h => by cases h⟩
    | some y =>
      obtain ⟨m1, m2, m3⟩ := merge_ofItv r y w hw64 hr (habs y rfl).1 (habs y rfl).2
      exact ⟨m1, m2, fun _ _ v h hm => by cases h; exact m3 v hm⟩

theorem tail_spec (a b r : DataDomain Nat) (w : Nat) (hw64 : w ≤ 64)
    (ha : AbsOK a w) (hb : AbsOK b w) (hr : AbsOK r w) {v : Int}
    (h : r.AbsRep v ∨ (a.relative ≠ [] ∧ ∃ y, b.absolute = some y ∧ y.Mem v) ∨
      (b.relative ≠ [] ∧ ∃ x, a.absolute = some x ∧ x.Mem v)) :
    ∃ res, tail a b r = some res ∧ res.AbsRep v := by
  obtain ⟨ok1, k1, a1⟩ := mergeBack_spec a.relative b.absolute r w hw64 hr hb
  obtain ⟨_, k2, a2⟩ := mergeBack_spec b.relative a.absolute _ w hw64 ok1 ha
  have hv : (mergeBack b.relative a.absolute (mergeBack a.relative b.absolute r)).AbsRep v := by
    rcases h with h | ⟨hra, y, hy, hm⟩ | ⟨hrb, x, hx, hm⟩
    · exact k2 v (k1 v h)
    · exact k2 v (a1 hra y v hy hm)
    · exact a2 hrb x v hx hm
  exact ⟨_, if_neg (by rw [isEmpty_false_of_absRep hv]; simp), hv⟩

theorem start_absOK (a b : DataDomain Nat) (w : Nat) (ha : AbsOK a w) (hb : AbsOK b w) :
    AbsOK (start a b) w := by
  intro z hz
  unfold start at hz
  split at hz
  · exact hb z hz
  · exact ha z hz
  · simp only at hz
    split at hz
    · rename_i x y hx hy
      obtain ⟨hxw, hxwid⟩ := ha x hx
      obtain ⟨hyw, hywid⟩ := hb y hy
      obtain ⟨h1, h2⟩ := (intersect_keeps x y hxw hyw (by rw [hywid, hxwid])).of_some hz
      exact ⟨h1, by rw [h2, hxwid]⟩
    · cases hz

theorem start_absRep (a b : DataDomain Nat) (w : Nat) (ha : AbsOK a w) (hb : AbsOK b w) {v : Int}
    (h1 : a.AbsRep v) (h2 : b.AbsRep v) : (start a b).AbsRep v := by
  unfold start
  cases hat : a.top <;> cases hbt : b.top
  · rcases h1 with ht | ⟨x, hx, hmx⟩
    · rw [hat] at ht; cases ht
    rcases h2 with ht | ⟨y, hy, hmy⟩
    · rw [hbt] at ht; cases ht
    obtain ⟨hxw, hxwid⟩ := ha x hx
    obtain ⟨hyw, hywid⟩ := hb y hy
    obtain ⟨z, hz, hmz⟩ := intersect_sound x y hxw hyw (by rw [hywid, hxwid]) hmx hmy
    exact Or.inr ⟨z, by simp only [hx, hy, hz], hmz⟩
  · exact h1
  · exact h2
  · exact Or.inl rfl

end DD

open DataDomain in
/-- **C04-data-intersect (absolute values).** Operands whose absolute parts are well-formed intervals of
the same width `w` (2..64 bit). If `v` is a member of the absolute part of `a` and `b` may hold `v`
(member of its absolute part, top flag, or at least one relative target), or the same with the roles of
`a` and `b` exchanged, then `a.intersect b` succeeds and its result represents `v` (top flag or member of
the absolute part). In particular `Err("Domain is empty.")` is answered only if no such `v` exists. -/
theorem dataIntersect_abs_sound (a b : DataDomain Nat) (w : Nat) (hw1 : 1 < w) (hw64 : w ≤ 64)
    (ha : a.WFw w) (hb : b.WFw w) {v : Int}
    (h : ((∃ x, a.absolute = some x ∧ x.Mem v) ∧ b.MayHold v) ∨
         ((∃ y, b.absolute = some y ∧ y.Mem v) ∧ a.MayHold v)) :
    ∃ r, a.intersect b = some r ∧ r.AbsRep v := by
  rw [DD.intersect_eq_tail]
  apply DD.tail_spec a b _ w hw64 ha.1 hb.1 (DD.start_absOK a b w ha.1 hb.1)
  -- `v` is represented by both operands, or by one while the other has relative targets
  rcases h with ⟨hx, hm | hr⟩ | ⟨hy, hm | hr⟩
  · exact .inl (DD.start_absRep a b w ha.1 hb.1 (.inr hx) hm)
  · exact .inr (.inr ⟨hr, hx⟩)
  · exact .inl (DD.start_absRep a b w ha.1 hb.1 hm (.inr hy))
  · exact .inr (.inl ⟨hr, hy⟩)

open DataDomain in
/-- **C04-data-intersect-unsat.** `DataDomain::intersect` answers `Err("Domain is empty.")` only if no
absolute value of one operand may be held by the other. -/
theorem dataIntersect_none (a b : DataDomain Nat) (w : Nat) (hw1 : 1 < w) (hw64 : w ≤ 64)
    (ha : a.WFw w) (hb : b.WFw w) (hnone : a.intersect b = none) (v : Int) :
    ¬ (((∃ x, a.absolute = some x ∧ x.Mem v) ∧ b.MayHold v) ∨
       ((∃ y, b.absolute = some y ∧ y.Mem v) ∧ a.MayHold v)) := by
  intro h
  obtain ⟨r, hr, _⟩ := dataIntersect_abs_sound a b w hw1 hw64 ha hb h
  rw [hnone] at hr
  cases hr

end CweModel.C04
