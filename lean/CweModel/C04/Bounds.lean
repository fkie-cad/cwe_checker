/-
C04 — soundness of the five bound refinements of `impl SpecializeByConditional for IntervalDomain`
(`add_signed_less_equal_bound`, `add_signed_greater_equal_bound`, `add_unsigned_less_equal_bound`,
`add_unsigned_greater_equal_bound`, `add_not_equal_bound`) for widths of at most 64 bit:
one theorem, `addBound_refined`: "unsatisfiable" only if no member of `γ a` satisfies the comparison with `bound`;
every other answer has the shape of `a` (`SameShape`: well-formed, same width, no new members) and every member that
satisfies the comparison. `addBound_sound`, the `_sound`/`_spec` theorems and `SameShape.of_addBound` are readings of it.
The width alone is kept on every input, well-formed or not (`sle_w` … `addBound_w`).
-/
import CweModel.C04.Keeps
import CweModel.C04.Model
import CweModel.C02.Adjust
import CweModel.C03.Interval

namespace CweModel.C04
open CweModel.Itv CweModel.C02 CweModel.C03

/-- the distance to the residue class as `round_up_to_stride_of`/`round_down_to_stride_of` compute it (the
`i128` difference of two `i64` values, its truncated remainder made non-negative): nothing wraps -/
theorem strideOffset_eq {a b : Int} {n : Nat} (ha : -(2 ^ 63) ≤ a ∧ a ≤ 2 ^ 63 - 1)
    (hb : -(2 ^ 63) ≤ b ∧ b ≤ 2 ^ 63 - 1) (hn : 0 < n) (hn64 : n < 2 ^ 64) :
    trem (i128 (trem (i128 (a - b)) n + n)) n = (a - b) % n := by
  have hn' : (0 : Int) < n := Int.natCast_pos.mpr hn
  have hb1 := trem_bounds (a - b) n hn'
  rw [i128_of_small (z := a - b) (by omega) (by omega), i128_of_small (by omega) (by omega), trem_fix _ _ hn']

theorem roundDown_eq {I : Interval} (hw : 0 < I.w) (hw64 : I.w ≤ 64) (hst : 0 < I.stride)
    (hst64 : I.stride < 2 ^ 64) (he : InRange I.w I.stop) {b : Int} (hb : InRange I.w b) :
    roundDownToStrideOf b I =
      if lastIn b I.stop I.stride < smin I.w then none else some (lastIn b I.stop I.stride) := by
  have hn : (0 : Int) < (I.stride : Int) := Int.natCast_pos.mpr hst
  have hi1 := inRange_le_i64 I.w hw64 he
  have hi2 := inRange_le_i64 I.w hw64 hb
  have hm0 := Int.emod_nonneg (b - I.stop) (Int.ne_of_gt hn)
  have hm1 := Int.emod_lt_of_pos (b - I.stop) hn
  unfold roundDownToStrideOf lastIn
  rw [if_neg (fun h => h.elim (Nat.ne_of_gt hst) (Nat.not_lt.mpr hw64))]
  simp only [tryToI128_inRange hw hw64 hb, tryToI128_inRange hw hw64 he, Option.getD_some,
    strideOffset_eq hi2 hi1 hst hst64]
  rw [i128_of_small (by omega) (by omega)]
  split
  · rfl
  · rename_i h
    rw [wrap_of_inRange I.w hw ⟨Int.not_lt.mp h, Int.le_trans (Int.sub_le_self _ hm0) hb.2⟩]

theorem roundUp_eq {I : Interval} (hw : 0 < I.w) (hw64 : I.w ≤ 64) (hst : 0 < I.stride)
    (hst64 : I.stride < 2 ^ 64) (hs : InRange I.w I.start) {b : Int} (hb : InRange I.w b) :
    roundUpToStrideOf b I =
      if firstIn b I.start I.stride > smax I.w then none else some (firstIn b I.start I.stride) := by
  have hn : (0 : Int) < (I.stride : Int) := Int.natCast_pos.mpr hst
  have hi1 := inRange_le_i64 I.w hw64 hs
  have hi2 := inRange_le_i64 I.w hw64 hb
  have hm0 := Int.emod_nonneg (I.start - b) (Int.ne_of_gt hn)
  have hm1 := Int.emod_lt_of_pos (I.start - b) hn
  unfold roundUpToStrideOf firstIn
  rw [if_neg (fun h => h.elim (Nat.ne_of_gt hst) (Nat.not_lt.mpr hw64))]
  simp only [tryToI128_inRange hw hw64 hb, tryToI128_inRange hw hw64 hs, Option.getD_some,
    strideOffset_eq hi1 hi2 hst hst64]
  rw [i128_of_small (by omega) (by omega)]
  split
  · rfl
  · rename_i h
    rw [wrap_of_inRange I.w hw ⟨Int.le_trans hb.1 (Int.le_add_of_nonneg_right hm0), Int.not_lt.mp h⟩]

theorem roundDown_spec {I : Interval} (hI : I.WF) (hw64 : I.w ≤ 64) {b : Int} (hb : InRange I.w b) :
    (roundDownToStrideOf b I = none ∧ ∀ x, I.Mem x → ¬ x ≤ b) ∨
    ∃ b', roundDownToStrideOf b I = some b' ∧ InRange I.w b' ∧ ∀ x, I.Mem x → x ≤ b → x ≤ b' := by
  rcases Nat.eq_zero_or_pos I.stride with h0 | hst
  · exact .inr ⟨b, by unfold roundDownToStrideOf; rw [if_pos (Or.inl h0)], hb, fun _ _ h => h⟩
  · have hn : (0 : Int) < (I.stride : Int) := Int.natCast_pos.mpr hst
    have hk : ∀ x, I.Mem x → x ≤ b → x ≤ lastIn b I.stop I.stride := fun x hx hxb =>
      le_lastIn hn hxb (dvd_sub_of_dvd_sub hx.2.2 hI.stride_dvd)
    rw [roundDown_eq hI.w_pos hw64 hst hI.stride_lt hI.stop_inRange hb]
    by_cases h : lastIn b I.stop I.stride < smin I.w
    · exact .inl ⟨if_pos h, fun x hx hxb =>
        Int.not_le.mpr h (Int.le_trans (Interval.mem_inRange hI hx).1 (hk x hx hxb))⟩
    · exact .inr ⟨_, if_neg h, ⟨Int.not_lt.mp h, Int.le_trans (lastIn_le b I.stop hn) hb.2⟩, hk⟩

theorem roundUp_spec {I : Interval} (hI : I.WF) (hw64 : I.w ≤ 64) {b : Int} (hb : InRange I.w b) :
    (roundUpToStrideOf b I = none ∧ ∀ x, I.Mem x → ¬ b ≤ x) ∨
    ∃ b', roundUpToStrideOf b I = some b' ∧ InRange I.w b' ∧ ∀ x, I.Mem x → b ≤ x → b' ≤ x := by
  rcases Nat.eq_zero_or_pos I.stride with h0 | hst
  · exact .inr ⟨b, by unfold roundUpToStrideOf; rw [if_pos (Or.inl h0)], hb, fun _ _ h => h⟩
  · have hn : (0 : Int) < (I.stride : Int) := Int.natCast_pos.mpr hst
    have hk : ∀ x, I.Mem x → b ≤ x → firstIn b I.start I.stride ≤ x := fun x hx hxb => firstIn_le hn hxb hx.2.2
    rw [roundUp_eq hI.w_pos hw64 hst hI.stride_lt hI.start_inRange hb]
    by_cases h : firstIn b I.start I.stride > smax I.w
    · exact .inl ⟨if_pos h, fun x hx hxb =>
        Int.not_le.mpr h (Int.le_trans (hk x hx hxb) (Interval.mem_inRange hI hx).2)⟩
    · exact .inr ⟨_, if_neg h, ⟨Int.le_trans hb.1 (le_firstIn b I.start hn), Int.not_lt.mp h⟩, hk⟩

theorem addSignedLessEqualBound_none {a : IntervalDomain} {b : Int} (hr : roundDownToStrideOf b a.interval = none) :
    a.addSignedLessEqualBound b = none := by
  unfold IntervalDomain.addSignedLessEqualBound; rw [hr]

theorem addSignedLessEqualBound_some {a : IntervalDomain} {b b' : Int} (hr : roundDownToStrideOf b a.interval = some b') :
    a.addSignedLessEqualBound b = some a ∨ a.addSignedLessEqualBound b = some { a with upper := some b' } ∨
    (b' ≤ a.interval.stop ∧ a.addSignedLessEqualBound b =
      if a.interval.start ≤ b' then
        some { a with interval := Interval.adjustEnd { a.interval with stop := b' }, upper := none }
      else none) := by
  unfold IntervalDomain.addSignedLessEqualBound
  cases hu : a.upper <;> simp only [hr, hu]
  · by_cases hlt : a.interval.stop < b'
    · rw [if_pos hlt]; exact .inr (.inl rfl)
    · rw [if_neg hlt]; exact .inr (.inr ⟨Int.not_lt.mp hlt, rfl⟩)
  · rename_i old
    by_cases ho : old ≤ b'
    · rw [if_pos ho]; exact .inl rfl
    rw [if_neg ho]
    by_cases hlt : a.interval.stop < b'
    · rw [if_pos hlt]; exact .inr (.inl rfl)
    · rw [if_neg hlt]; exact .inr (.inr ⟨Int.not_lt.mp hlt, rfl⟩)

theorem addSignedGreaterEqualBound_none {a : IntervalDomain} {b : Int} (hr : roundUpToStrideOf b a.interval = none) :
    a.addSignedGreaterEqualBound b = none := by
  unfold IntervalDomain.addSignedGreaterEqualBound; rw [hr]

theorem addSignedGreaterEqualBound_some {a : IntervalDomain} {b b' : Int} (hr : roundUpToStrideOf b a.interval = some b') :
    a.addSignedGreaterEqualBound b = some a ∨ a.addSignedGreaterEqualBound b = some { a with lower := some b' } ∨
    (a.interval.start ≤ b' ∧ a.addSignedGreaterEqualBound b =
      if a.interval.stop ≥ b' then
        some { a with interval := Interval.adjustStart { a.interval with start := b' }, lower := none }
      else none) := by
  unfold IntervalDomain.addSignedGreaterEqualBound
  cases hu : a.lower <;> simp only [hr, hu]
  · by_cases hlt : a.interval.start > b'
    · rw [if_pos hlt]; exact .inr (.inl rfl)
    · rw [if_neg hlt]; exact .inr (.inr ⟨Int.not_lt.mp hlt, rfl⟩)
  · rename_i old
    by_cases ho : old ≥ b'
    · rw [if_pos ho]; exact .inl rfl
    rw [if_neg ho]
    by_cases hlt : a.interval.start > b'
    · rw [if_pos hlt]; exact .inr (.inl rfl)
    · rw [if_neg hlt]; exact .inr (.inr ⟨Int.not_lt.mp hlt, rfl⟩)

theorem addUnsignedLessEqualBound_cases (a : IntervalDomain) (b : Int) :
    (b < 0 ∧ a.interval.stop < 0 ∧ a.addUnsignedLessEqualBound b = a.addSignedLessEqualBound b) ∨
    (b < 0 ∧ a.interval.start < 0 ∧ a.addUnsignedLessEqualBound b = some a) ∨
    (b < 0 ∧ 0 ≤ a.interval.start ∧ a.addUnsignedLessEqualBound b = a.addSignedGreaterEqualBound 0) ∨
    (0 ≤ b ∧ a.addUnsignedLessEqualBound b =
      (a.addSignedGreaterEqualBound 0).bind fun a1 => a1.addSignedLessEqualBound b) := by
  unfold IntervalDomain.addUnsignedLessEqualBound
  by_cases h1 : b < 0
  · rw [if_pos h1]
    by_cases h2 : a.interval.stop < 0
    · rw [if_pos h2]; exact .inl ⟨h1, h2, rfl⟩
    rw [if_neg h2]
    by_cases h3 : a.interval.start < 0
    · rw [if_pos h3]; exact .inr (.inl ⟨h1, h3, rfl⟩)
    · rw [if_neg h3]; exact .inr (.inr (.inl ⟨h1, Int.not_lt.mp h3, rfl⟩))
  · rw [if_neg h1]; exact .inr (.inr (.inr ⟨Int.not_lt.mp h1, by cases a.addSignedGreaterEqualBound 0 <;> rfl⟩))

theorem addUnsignedGreaterEqualBound_cases (a : IntervalDomain) (b : Int) :
    (b < 0 ∧ a.addUnsignedGreaterEqualBound b =
      (a.addSignedLessEqualBound (-1)).bind fun a1 => a1.addSignedGreaterEqualBound b) ∨
    (0 ≤ b ∧ a.interval.stop < b ∧ a.addUnsignedGreaterEqualBound b = a.addSignedLessEqualBound (-1)) ∨
    (0 ≤ b ∧ a.interval.start < 0 ∧ a.addUnsignedGreaterEqualBound b = some a) ∨
    (0 ≤ b ∧ 0 ≤ a.interval.start ∧ a.addUnsignedGreaterEqualBound b = a.addSignedGreaterEqualBound b) := by
  unfold IntervalDomain.addUnsignedGreaterEqualBound
  by_cases h1 : b < 0
  · rw [if_pos h1]; exact .inl ⟨h1, by cases a.addSignedLessEqualBound (-1) <;> rfl⟩
  have h1' := Int.not_lt.mp h1
  rw [if_neg h1]
  by_cases h2 : a.interval.stop < b
  · rw [if_pos h2]; exact .inr (.inl ⟨h1', h2, rfl⟩)
  rw [if_neg h2]
  by_cases h3 : a.interval.start < 0
  · rw [if_pos h3]; exact .inr (.inr (.inl ⟨h1', h3, rfl⟩))
  · rw [if_neg h3]; exact .inr (.inr (.inr ⟨h1', Int.not_lt.mp h3, rfl⟩))

theorem addNotEqualBound_cases (a : IntervalDomain) (b : Int) :
    (a.interval.start = b ∧ a.interval.stop = b ∧ a.addNotEqualBound b = none) ∨
    (b < a.interval.start ∧
      a.addNotEqualBound b = a.addSignedGreaterEqualBound (wrap a.interval.w (b + 1))) ∨
    (a.interval.start = b ∧ a.interval.start ≠ a.interval.stop ∧ a.addNotEqualBound b = some { a with
      interval := Interval.adjustStart { a.interval with start := wrap a.interval.w (a.interval.start + 1) } }) ∨
    (a.interval.stop < b ∧ a.addNotEqualBound b = a.addSignedLessEqualBound (wrap a.interval.w (b - 1))) ∨
    (a.interval.stop = b ∧ a.interval.start ≠ a.interval.stop ∧ a.addNotEqualBound b = some { a with
      interval := Interval.adjustEnd { a.interval with stop := wrap a.interval.w (a.interval.stop - 1) } }) ∨
    a.addNotEqualBound b = some a := by
  unfold IntervalDomain.addNotEqualBound
  simp only
  by_cases h1 : a.interval.start = b ∧ a.interval.stop = b
  · rw [if_pos h1]; exact .inl ⟨h1.1, h1.2, rfl⟩
  rw [if_neg h1]
  by_cases h2 : a.interval.start > b
  · rw [if_pos h2]; exact .inr (.inl ⟨h2, rfl⟩)
  rw [if_neg h2]
  by_cases h3 : a.interval.start = b
  · rw [if_pos h3]; exact .inr (.inr (.inl ⟨h3, fun e => h1 ⟨h3, e ▸ h3⟩, rfl⟩))
  rw [if_neg h3]
  by_cases h4 : a.interval.stop < b
  · rw [if_pos h4]; exact .inr (.inr (.inr (.inl ⟨h4, rfl⟩)))
  rw [if_neg h4]
  by_cases h5 : a.interval.stop = b
  · rw [if_pos h5]; exact .inr (.inr (.inr (.inr (.inl ⟨h5, fun e => h3 (e.trans h5), rfl⟩))))
  · rw [if_neg h5]; exact .inr (.inr (.inr (.inr (.inr rfl))))

theorem sle_w {a r : IntervalDomain} {b : Int} (h : a.addSignedLessEqualBound b = some r) : r.interval.w = a.interval.w := by
  cases hr : roundDownToStrideOf b a.interval with
  | none => rw [addSignedLessEqualBound_none hr] at h; cases h
  | some b' =>
    rcases addSignedLessEqualBound_some hr with e | e | ⟨-, e⟩ <;> rw [e] at h
    · cases h; rfl
    · cases h; rfl
    · obtain ⟨-, rfl⟩ := ite_some h; exact adjustEnd_w _

theorem sge_w {a r : IntervalDomain} {b : Int} (h : a.addSignedGreaterEqualBound b = some r) : r.interval.w = a.interval.w := by
  cases hr : roundUpToStrideOf b a.interval with
  | none => rw [addSignedGreaterEqualBound_none hr] at h; cases h
  | some b' =>
    rcases addSignedGreaterEqualBound_some hr with e | e | ⟨-, e⟩ <;> rw [e] at h
    · cases h; rfl
    · cases h; rfl
    · obtain ⟨-, rfl⟩ := ite_some h; exact adjustStart_w _

theorem ule_w {a r : IntervalDomain} {b : Int} (h : a.addUnsignedLessEqualBound b = some r) : r.interval.w = a.interval.w := by
  rcases addUnsignedLessEqualBound_cases a b with ⟨-, -, e⟩ | ⟨-, -, e⟩ | ⟨-, -, e⟩ | ⟨-, e⟩ <;> rw [e] at h
  · exact sle_w h
  · cases h; rfl
  · exact sge_w h
  · obtain ⟨a1, h1, h2⟩ := Option.bind_eq_some_iff.mp h
    exact (sle_w h2).trans (sge_w h1)

theorem uge_w {a r : IntervalDomain} {b : Int} (h : a.addUnsignedGreaterEqualBound b = some r) : r.interval.w = a.interval.w := by
  rcases addUnsignedGreaterEqualBound_cases a b with ⟨-, e⟩ | ⟨-, -, e⟩ | ⟨-, -, e⟩ | ⟨-, -, e⟩ <;> rw [e] at h
  · obtain ⟨a1, h1, h2⟩ := Option.bind_eq_some_iff.mp h
    exact (sge_w h2).trans (sle_w h1)
  · exact sle_w h
  · cases h; rfl
  · exact sge_w h

theorem ne_w {a r : IntervalDomain} {b : Int} (h : a.addNotEqualBound b = some r) : r.interval.w = a.interval.w := by
  rcases addNotEqualBound_cases a b with ⟨-, -, e⟩ | ⟨-, e⟩ | ⟨-, -, e⟩ | ⟨-, e⟩ | ⟨-, -, e⟩ | e <;> rw [e] at h
  · cases h
  · exact sge_w h
  · cases h; exact adjustStart_w _
  · exact sle_w h
  · cases h; exact adjustEnd_w _
  · cases h; rfl

theorem addBound_w {k : BoundKind} {a r : IntervalDomain} {b : Int} (h : a.addBound k b = some r) :
    r.interval.w = a.interval.w := by
  cases k with
  | sle => exact sle_w h
  | sge => exact sge_w h
  | ule => exact ule_w h
  | uge => exact uge_w h
  | ne => exact ne_w h

def SameShape (a r : IntervalDomain) : Prop :=
  r.WF ∧ r.interval.w = a.interval.w ∧ (r.interval.stride = a.interval.stride ∨ r.interval.stride = 0) ∧
    ∀ x, r.Mem x → a.Mem x

namespace SameShape
variable {a : IntervalDomain}

theorem refl (ha : a.WF) : SameShape a a := ⟨ha, rfl, Or.inl rfl, fun _ h => h⟩

theorem trans {b c : IntervalDomain} (h1 : SameShape a b) (h2 : SameShape b c) : SameShape a c := by
  refine ⟨h2.1, h2.2.1.trans h1.2.1, ?_, fun x hx => h1.2.2.2 x (h2.2.2.2 x hx)⟩
  rcases h2.2.2.1 with h | h
  · rcases h1.2.2.1 with h' | h'
    · exact Or.inl (h.trans h')
    · exact Or.inr (h.trans h')
  · exact Or.inr h

theorem hints (ha : a.WF) {u l : Option Int} (hu : ∀ x, u = some x → InRange a.interval.w x)
    (hl : ∀ x, l = some x → InRange a.interval.w x) : SameShape a { a with upper := u, lower := l } :=
  ⟨⟨ha.1, hu, hl, ha.2.2.2⟩, rfl, Or.inl rfl, fun _ h => h⟩

theorem cutEnd (ha : a.WF) (hw64 : a.interval.w ≤ 64) {e : Int} (he : InRange a.interval.w e)
    (hse : a.interval.start ≤ e) (hes : e ≤ a.interval.stop) {u : Option Int}
    (hu : ∀ x, u = some x → InRange a.interval.w x) :
    SameShape a { a with interval := Interval.adjustEnd { a.interval with stop := e }, upper := u } := by
  obtain ⟨h1, h2⟩ := adjustEnd_wf (I := { a.interval with stop := e }) ha.1.1 hw64 ha.1.2.1 he hse ha.1.2.2.2.2.2.2
  have hw := adjustEnd_w { a.interval with stop := e }
  refine ⟨⟨h1, fun x hx => hw ▸ hu x hx, fun x hx => hw ▸ ha.2.2.1 x hx, ha.2.2.2⟩, hw, h2, fun x hx => ?_⟩
  have h := (mem_adjustEnd (I := { a.interval with stop := e }) ha.1.1 hw64 ha.1.2.1 he hse).mp hx
  exact ⟨h.1, Int.le_trans h.2.1 hes, h.2.2⟩

theorem cutStart (ha : a.WF) (hw64 : a.interval.w ≤ 64) {s : Int} (hs : InRange a.interval.w s)
    (hss : a.interval.start ≤ s) (hse : a.interval.stop ≥ s) {l : Option Int}
    (hl : ∀ x, l = some x → InRange a.interval.w x) :
    SameShape a { a with interval := Interval.adjustStart { a.interval with start := s }, lower := l } := by
  obtain ⟨h1, h2⟩ := adjustStart_wf (I := { a.interval with start := s }) ha.1.1 hw64 hs ha.1.2.2.1 hse ha.1.2.2.2.2.2.2
  have hw := adjustStart_w { a.interval with start := s }
  refine ⟨⟨h1, fun x hx => hw ▸ ha.2.1 x hx, fun x hx => hw ▸ hl x hx, ha.2.2.2⟩, hw, h2, fun x hx => ?_⟩
  have h := (mem_adjustStart (I := { a.interval with start := s }) ha.1.1 hw64 hs ha.1.2.2.1 hse).mp hx
  exact ⟨Int.le_trans hss h.1, h.2.1, dvd_sub_trans h.2.2 ha.1.stride_dvd⟩

end SameShape

/-- the unsigned reading of a value in range, as a case distinction `omega` can use -/
theorem toU_cases {w : Nat} (hw : 0 < w) {x : Int} (hx : InRange w x) :
    (x < 0 ∧ (toU w x : Int) = x + pow2 w) ∨ (0 ≤ x ∧ (toU w x : Int) = x) := by
  have h := toU_of_inRange w hw hx
  by_cases h0 : x < 0
  · rw [if_pos h0] at h; exact .inl ⟨h0, h⟩
  · rw [if_neg h0] at h; exact .inr ⟨by omega, h⟩

/-- the unsigned order on signed values: the non-negative values come first, then the negative ones -/
theorem toU_le_cases {w : Nat} (hw : 0 < w) {x b : Int} (hx : InRange w x) (hb : InRange w b)
    (h : toU w x ≤ toU w b) : (0 ≤ x ∧ (b < 0 ∨ x ≤ b)) ∨ (b < 0 ∧ x ≤ b) := by
  have hp := pow2_pos (w - 1)
  have h2 := pow2_eq w hw
  have hux := toU_cases hw hx
  have hub := toU_cases hw hb
  unfold InRange smin smax at hx hb
  omega

theorem inRange_succ {w : Nat} {x y : Int} (hx : InRange w x) (hy : InRange w y) (h : x < y) : InRange w (x + 1) :=
  ⟨Int.le_trans hx.1 (Int.le_add_of_nonneg_right (by decide)), Int.le_trans h hy.2⟩

theorem inRange_pred {w : Nat} {x y : Int} (hx : InRange w x) (hy : InRange w y) (h : x < y) : InRange w (y - 1) :=
  ⟨Int.le_trans hx.1 (Int.le_sub_one_of_lt h), Int.le_trans (Int.sub_le_self _ (by decide)) hy.2⟩

abbrev Refined (a : IntervalDomain) (P : Int → Prop) (o : Option IntervalDomain) : Prop :=
  Keeps IntervalDomain.Mem (SameShape a) (fun x => a.Mem x ∧ P x) o

namespace Refined
variable {a : IntervalDomain} {P Q : Int → Prop} {o : Option IntervalDomain}

theorem id (ha : a.WF) : Refined a P (some a) := ⟨.refl ha, fun _ hx => hx.1⟩

theorem mono (h : Refined a P o) (hq : ∀ x, a.Mem x → Q x → P x) : Refined a Q o := by
  cases o with
  | none => exact fun x hx => h x ⟨hx.1, hq x hx.1 hx.2⟩
  | some r => exact ⟨h.1, fun x hx => h.2 x ⟨hx.1, hq x hx.1 hx.2⟩⟩

theorem andThen {f : IntervalDomain → Option IntervalDomain} (h1 : Refined a P o)
    (h2 : ∀ a1, SameShape a a1 → Refined a1 Q (f a1)) : Refined a (fun x => P x ∧ Q x) (o.bind f) := by
  cases o with
  | none => exact fun x hx => h1 x ⟨hx.1, hx.2.1⟩
  | some a1 =>
    have h := h2 a1 h1.1
    show Refined a _ (f a1)
    cases hf : f a1 with
    | none => rw [hf] at h; exact fun x hx => h x ⟨h1.2 x ⟨hx.1, hx.2.1⟩, hx.2.2⟩
    | some r => rw [hf] at h; exact ⟨h1.1.trans h.1, fun x hx => h.2 x ⟨h1.2 x ⟨hx.1, hx.2.1⟩, hx.2.2⟩⟩

/-- the form the `_spec` theorems have -/
theorem spec (h : Refined a P o) {x : Int} (hx : a.Mem x) (hP : P x) :
    ∃ r, o = some r ∧ r.WF ∧ r.interval.w = a.interval.w ∧
      a.interval.start ≤ r.interval.start ∧ r.interval.stop ≤ a.interval.stop ∧ r.Mem x := by
  obtain ⟨r, e, hm⟩ := Keeps.sound h ⟨hx, hP⟩
  have hs := Keeps.of_some h e
  exact ⟨r, e, hs.1, hs.2.1, (hs.2.2.2 _ (r.interval.start_mem hs.1.1.start_le_stop)).1,
    (hs.2.2.2 _ (r.interval.stop_mem hs.1.1)).2.1, hm⟩

theorem sle (ha : a.WF) (hw64 : a.interval.w ≤ 64) {b : Int} (hb : InRange a.interval.w b) :
    Refined a (· ≤ b) (a.addSignedLessEqualBound b) := by
  rcases roundDown_spec ha.1 hw64 hb with ⟨hr, hno⟩ | ⟨b', hr, hbr, hk⟩
  · rw [addSignedLessEqualBound_none hr]; exact fun x hx => hno x hx.1 hx.2
  · rcases addSignedLessEqualBound_some hr with e | e | ⟨hle, e⟩ <;> rw [e]
    · exact id ha
    · exact ⟨.hints ha (fun x hx => Option.some.inj hx ▸ hbr) ha.2.2.1, fun _ hx => hx.1⟩
    · -- the members of the cut value are the members of `a` up to `b'`
      exact .ite (fun x hx => Int.le_trans hx.1.1 (hk x hx.1 hx.2)) fun hs =>
        ⟨.cutEnd ha hw64 hbr hs hle (fun _ hx => nomatch hx), fun x hx =>
          (mem_adjustEnd (I := { a.interval with stop := b' }) ha.1.1 hw64 ha.1.2.1 hbr hs).mpr
            ⟨hx.1.1, hk x hx.1 hx.2, hx.1.2.2⟩⟩

theorem sge (ha : a.WF) (hw64 : a.interval.w ≤ 64) {b : Int} (hb : InRange a.interval.w b) :
    Refined a (b ≤ ·) (a.addSignedGreaterEqualBound b) := by
  rcases roundUp_spec ha.1 hw64 hb with ⟨hr, hno⟩ | ⟨b', hr, hbr, hk⟩
  · rw [addSignedGreaterEqualBound_none hr]; exact fun x hx => hno x hx.1 hx.2
  · rcases addSignedGreaterEqualBound_some hr with e | e | ⟨hle, e⟩ <;> rw [e]
    · exact id ha
    · exact ⟨.hints ha ha.2.1 (fun x hx => Option.some.inj hx ▸ hbr), fun _ hx => hx.1⟩
    · exact .ite (fun x hx => Int.le_trans (hk x hx.1 hx.2) hx.1.2.1) fun hs =>
        ⟨.cutStart ha hw64 hbr hle hs (fun _ hx => nomatch hx), fun x hx =>
          (mem_adjustStart (I := { a.interval with start := b' }) ha.1.1 hw64 hbr ha.1.2.2.1 hs).mpr
            ⟨hk x hx.1 hx.2, hx.1.2.1, dvd_sub_of_dvd_sub hx.1.2.2 ha.1.stride_dvd⟩⟩

/-- `≤ᵤ bound` is one signed range or two; a value that reaches into both is left as it is -/
theorem ule (ha : a.WF) (hw64 : a.interval.w ≤ 64) {b : Int} (hb : InRange a.interval.w b) :
    Refined a (fun x => toU a.interval.w x ≤ toU a.interval.w b) (a.addUnsignedLessEqualBound b) := by
  have hc := fun x (hx : a.Mem x) => toU_le_cases (x := x) ha.1.1 (Interval.mem_inRange ha.1 hx) hb
  rcases addUnsignedLessEqualBound_cases a b with ⟨h1, h2, e⟩ | ⟨-, -, e⟩ | ⟨h1, h3, e⟩ | ⟨h1, e⟩ <;> rw [e]
  · exact (sle ha hw64 hb).mono fun x hx h => by have := hc x hx h; have := hx.2.1; omega
  · exact id ha
  · exact (sge ha hw64 (inRange_zero _)).mono fun x hx h => by have := hc x hx h; have := hx.1; omega
  · exact ((sge ha hw64 (inRange_zero _)).andThen fun a1 s1 => sle s1.1 (s1.2.1 ▸ hw64) (s1.2.1 ▸ hb)).mono
      fun x hx h => by have := hc x hx h; omega

theorem uge (ha : a.WF) (hw64 : a.interval.w ≤ 64) {b : Int} (hb : InRange a.interval.w b) :
    Refined a (fun x => toU a.interval.w x ≥ toU a.interval.w b) (a.addUnsignedGreaterEqualBound b) := by
  have hc := fun x (hx : a.Mem x) => toU_le_cases (b := x) ha.1.1 hb (Interval.mem_inRange ha.1 hx)
  rcases addUnsignedGreaterEqualBound_cases a b with ⟨h1, e⟩ | ⟨h1, h2, e⟩ | ⟨-, -, e⟩ | ⟨h1, h3, e⟩ <;> rw [e]
  · exact ((sle ha hw64 (inRange_neg_one _)).andThen fun a1 s1 => sge s1.1 (s1.2.1 ▸ hw64) (s1.2.1 ▸ hb)).mono
      fun x hx h => by have := hc x hx h; omega
  · exact (sle ha hw64 (inRange_neg_one _)).mono fun x hx h => by have := hc x hx h; have := hx.2.1; omega
  · exact id ha
  · exact (sge ha hw64 hb).mono fun x hx h => by have := hc x hx h; have := hx.1; omega

theorem ne (ha : a.WF) (hw64 : a.interval.w ≤ 64) {b : Int} (hb : InRange a.interval.w b) :
    Refined a (· ≠ b) (a.addNotEqualBound b) := by
  have hw := ha.1.1
  have hs := ha.1.2.1
  have he := ha.1.2.2.1
  have hlt : a.interval.start ≠ a.interval.stop → a.interval.start < a.interval.stop := fun h =>
    Int.lt_iff_le_and_ne.mpr ⟨ha.1.2.2.2.1, h⟩
  rcases addNotEqualBound_cases a b with ⟨h1, h2, e⟩ | ⟨h2, e⟩ | ⟨h3, hne, e⟩ | ⟨h4, e⟩ | ⟨h5, hne, e⟩ | e <;> rw [e]
  · exact fun x hx => hx.2 (Int.le_antisymm (h2 ▸ hx.1.2.1) (h1 ▸ hx.1.1))
  · have hr := inRange_succ hb hs h2
    rw [wrap_of_inRange _ hw hr]
    exact (sge ha hw64 hr).mono fun x hx _ => Int.le_trans h2 hx.1
  · -- the start `start + 1` is moved on to the next member: every member but the start stays
    have hr := inRange_succ hs he (hlt hne)
    rw [wrap_of_inRange _ hw hr]
    exact ⟨.cutStart ha hw64 hr (Int.le_add_of_nonneg_right (by decide)) (hlt hne) ha.2.2.1, fun x hx =>
      (mem_adjustStart (I := { a.interval with start := a.interval.start + 1 }) hw hw64 hr he (hlt hne)).mpr
        ⟨Int.add_one_le_of_lt (Int.lt_iff_le_and_ne.mpr ⟨hx.1.1, fun e => hx.2 (e ▸ h3)⟩), hx.1.2.1,
          dvd_sub_of_dvd_sub hx.1.2.2 ha.1.stride_dvd⟩⟩
  · have hr := inRange_pred he hb h4
    rw [wrap_of_inRange _ hw hr]
    exact (sle ha hw64 hr).mono fun x hx _ => Int.le_trans hx.2.1 (Int.le_sub_one_of_lt h4)
  · have hr := inRange_pred hs he (hlt hne)
    have hle := Int.le_sub_one_of_lt (hlt hne)
    rw [wrap_of_inRange _ hw hr]
    exact ⟨.cutEnd ha hw64 hr hle (Int.sub_le_self _ (by decide)) ha.2.1, fun x hx =>
      (mem_adjustEnd (I := { a.interval with stop := a.interval.stop - 1 }) hw hw64 hs hr hle).mpr
        ⟨hx.1.1, Int.le_sub_one_of_lt (Int.lt_iff_le_and_ne.mpr ⟨hx.1.2.1, fun e => hx.2 (e.trans h5)⟩), hx.1.2.2⟩⟩
  · exact id ha

end Refined

/-- **C04-bound.** All five refinements of `SpecializeByConditional for IntervalDomain` on a well-formed value of at
most 64 bit: "unsatisfiable" is answered only if no member satisfies the comparison `R x bound`; every other answer is
well-formed, of the same width, without new members, and contains every member for which the comparison holds. -/
theorem addBound_refined (k : BoundKind) {a : IntervalDomain} (ha : a.WF) (hw64 : a.interval.w ≤ 64) {b : Int}
    (hb : InRange a.interval.w b) : Refined a (fun x => k.holds a.interval.w x b) (a.addBound k b) := by
  cases k with
  | sle => exact .sle ha hw64 hb
  | sge => exact .sge ha hw64 hb
  | ule => exact .ule ha hw64 hb
  | uge => exact .uge ha hw64 hb
  | ne => exact .ne ha hw64 hb

/-- **C04-bound-wf.** Every result of one of the five refinements of a well-formed value of at most 64 bit with an
in-range bound is well-formed, has the same width and the same stride or stride 0 — whether or not a member
satisfies the comparison. -/
theorem SameShape.of_addBound {a : IntervalDomain} {k : BoundKind} {r : IntervalDomain} (ha : a.WF)
    (hw64 : a.interval.w ≤ 64) {b : Int} (hb : InRange a.interval.w b) (h : a.addBound k b = some r) : SameShape a r :=
  Keeps.of_some (addBound_refined k ha hw64 hb) h

/-- **C04-sle-spec.** `add_signed_less_equal_bound` on a well-formed value of at most 64 bit and a
member `x ≤ bound`: the call succeeds, the result is well-formed, has the same width, does not
grow and still contains `x`. -/
theorem addSignedLessEqualBound_spec (a : IntervalDomain) (ha : a.WF) (hw64 : a.interval.w ≤ 64)
    (bound : Int) (hb : InRange a.interval.w bound) {x : Int} (hx : a.Mem x) (hxb : x ≤ bound) :
    ∃ r, a.addSignedLessEqualBound bound = some r ∧ r.WF ∧ r.interval.w = a.interval.w ∧
      a.interval.start ≤ r.interval.start ∧ r.interval.stop ≤ a.interval.stop ∧ r.Mem x :=
  (Refined.sle ha hw64 hb).spec hx hxb

/-- **C04-sge-spec.** `add_signed_greater_equal_bound` on a well-formed value of at most 64 bit and
a member `x ≥ bound`: the call succeeds, the result is well-formed, has the same width, does not
grow and still contains `x`. -/
theorem addSignedGreaterEqualBound_spec (a : IntervalDomain) (ha : a.WF) (hw64 : a.interval.w ≤ 64)
    (bound : Int) (hb : InRange a.interval.w bound) {x : Int} (hx : a.Mem x) (hxb : x ≥ bound) :
    ∃ r, a.addSignedGreaterEqualBound bound = some r ∧ r.WF ∧ r.interval.w = a.interval.w ∧
      a.interval.start ≤ r.interval.start ∧ r.interval.stop ≤ a.interval.stop ∧ r.Mem x :=
  (Refined.sge ha hw64 hb).spec hx hxb

/-- **C04-sle-sound.** A member `x ≤ bound` survives `add_signed_less_equal_bound`. -/
theorem addSignedLessEqualBound_sound (a : IntervalDomain) (ha : a.WF) (hw64 : a.interval.w ≤ 64)
    (bound : Int) (hb : InRange a.interval.w bound) {x : Int} (hx : a.Mem x) (hxb : x ≤ bound) :
    ∃ r, a.addSignedLessEqualBound bound = some r ∧ r.Mem x :=
  Keeps.sound (Refined.sle ha hw64 hb) ⟨hx, hxb⟩

/-- **C04-sge-sound.** A member `x ≥ bound` survives `add_signed_greater_equal_bound`. -/
theorem addSignedGreaterEqualBound_sound (a : IntervalDomain) (ha : a.WF) (hw64 : a.interval.w ≤ 64)
    (bound : Int) (hb : InRange a.interval.w bound) {x : Int} (hx : a.Mem x) (hxb : x ≥ bound) :
    ∃ r, a.addSignedGreaterEqualBound bound = some r ∧ r.Mem x :=
  Keeps.sound (Refined.sge ha hw64 hb) ⟨hx, hxb⟩

/-- **C04-ule-sound.** A member `x` with `x ≤ᵤ bound` survives `add_unsigned_less_equal_bound`. -/
theorem addUnsignedLessEqualBound_sound (a : IntervalDomain) (ha : a.WF) (hw64 : a.interval.w ≤ 64)
    (bound : Int) (hb : InRange a.interval.w bound) {x : Int} (hx : a.Mem x)
    (hxb : toU a.interval.w x ≤ toU a.interval.w bound) :
    ∃ r, a.addUnsignedLessEqualBound bound = some r ∧ r.Mem x :=
  Keeps.sound (Refined.ule ha hw64 hb) ⟨hx, hxb⟩

/-- **C04-uge-sound.** A member `x` with `x ≥ᵤ bound` survives `add_unsigned_greater_equal_bound`. -/
theorem addUnsignedGreaterEqualBound_sound (a : IntervalDomain) (ha : a.WF) (hw64 : a.interval.w ≤ 64)
    (bound : Int) (hb : InRange a.interval.w bound) {x : Int} (hx : a.Mem x)
    (hxb : toU a.interval.w x ≥ toU a.interval.w bound) :
    ∃ r, a.addUnsignedGreaterEqualBound bound = some r ∧ r.Mem x :=
  Keeps.sound (Refined.uge ha hw64 hb) ⟨hx, hxb⟩

/-- **C04-ne-sound.** A member `x ≠ bound` survives `add_not_equal_bound`. -/
theorem addNotEqualBound_sound (a : IntervalDomain) (ha : a.WF) (hw64 : a.interval.w ≤ 64)
    (bound : Int) (hb : InRange a.interval.w bound) {x : Int} (hx : a.Mem x) (hxb : x ≠ bound) :
    ∃ r, a.addNotEqualBound bound = some r ∧ r.Mem x :=
  Keeps.sound (Refined.ne ha hw64 hb) ⟨hx, hxb⟩

/-- **C04-bound-sound.** All five refinements of `SpecializeByConditional for IntervalDomain`: on a
well-formed value of at most 64 bit, a member `x` for which the comparison `R x bound` holds is a
member of the result, and the result exists (the refinement does not report "unsatisfiable"). -/
theorem addBound_sound (k : BoundKind) (a : IntervalDomain) (ha : a.WF) (hw64 : a.interval.w ≤ 64)
    (bound : Int) (hb : InRange a.interval.w bound) {x : Int} (hx : a.Mem x)
    (hR : k.holds a.interval.w x bound) : ∃ r, a.addBound k bound = some r ∧ r.Mem x :=
  Keeps.sound (addBound_refined k ha hw64 hb) ⟨hx, hR⟩

/-! ### non-vacuity: the hypotheses are satisfiable and the refinements do cut -/

/-- the two-element value `{-127, 2}` (8 bit, stride 129) -/
def exTwo : IntervalDomain := ⟨⟨8, -127, 2, 129⟩, none, none, 0⟩

theorem exTwo_wf : exTwo.WF :=
  ⟨by decide, fun u h => (by cases h), fun l h => (by cases h), by decide⟩

-- `x = -127 ≤ 1`: the bound 1 is rounded down to -127, the result is the singleton `{-127}`
example : ∃ r, exTwo.addSignedLessEqualBound 1 = some r ∧ r.Mem (-127) :=
  addSignedLessEqualBound_sound exTwo exTwo_wf (by decide) 1 (by decide) (by decide) (by decide)
example : exTwo.addSignedLessEqualBound 1 = some ⟨⟨8, -127, -127, 0⟩, none, none, 0⟩ := by decide
-- `x = 2 ≥ -100`: rounded up to 2
example : ∃ r, exTwo.addSignedGreaterEqualBound (-100) = some r ∧ r.Mem 2 :=
  addSignedGreaterEqualBound_sound exTwo exTwo_wf (by decide) (-100) (by decide) (by decide) (by decide)
example : exTwo.addSignedGreaterEqualBound (-100) = some ⟨⟨8, 2, 2, 0⟩, none, none, 0⟩ := by decide
-- unsigned: `-127` reads as 129 ≥ 3, `2 ≤ᵤ 3`
example : ∃ r, exTwo.addBound .uge 3 = some r ∧ r.Mem (-127) :=
  addBound_sound .uge exTwo exTwo_wf (by decide) 3 (by decide) (by decide) (by decide)
example : ∃ r, exTwo.addBound .ule 3 = some r ∧ r.Mem 2 :=
  addBound_sound .ule exTwo exTwo_wf (by decide) 3 (by decide) (by decide) (by decide)
example : exTwo.addUnsignedLessEqualBound 3 = some ⟨⟨8, 2, 2, 0⟩, some 3, none, 0⟩ := by decide
-- excluding the start moves it to the next member
example : ∃ r, exTwo.addNotEqualBound (-127) = some r ∧ r.Mem 2 :=
  addNotEqualBound_sound exTwo exTwo_wf (by decide) (-127) (by decide) (by decide) (by decide)
example : exTwo.addNotEqualBound (-127) = some ⟨⟨8, 2, 2, 0⟩, none, none, 0⟩ := by decide
-- the refinement reports "unsatisfiable" only when no member satisfies the comparison
example : exTwo.addSignedLessEqualBound (-128) = none := by decide

end CweModel.C04
