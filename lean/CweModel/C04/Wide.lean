/-
C04 — `compute_unique_common_value` (the repair of `intersect-lcm-overflow-false-unsat`): when the least
common multiple of two positive strides exceeds `u64::MAX`, two 64-bit intervals share at most one
value, and the function computes exactly that value:

* `uniqueCommon_sound`: an answer `Some(v)` satisfies `v ≥ start_left` and both congruences,
* `uniqueCommon_complete`: every common member `x` of the two intervals is the answer.

The `u128`/`i128` operations are modelled with wrap; the proofs show that none wraps.
-/
import CweModel.C04.Crt
import CweModel.C03.Interval

namespace CweModel.C04
open CweModel.Itv CweModel.C02 CweModel.C03

theorem u128_of_small {z : Int} (h0 : 0 ≤ z) (h1 : z < 2 ^ 128) : u128 z = z := by
  unfold u128; exact Int.emod_eq_of_lt h0 h1

theorem u128_of_u64 {z : Int} (h0 : 0 ≤ z) (h1 : z < 2 ^ 64) : u128 z = z :=
  u128_of_small h0 (Int.lt_trans h1 (by decide))

theorem u128_mul_u64 {u v : Int} (hu0 : 0 ≤ u) (hu : u < 2 ^ 64) (hv0 : 0 ≤ v) (hv : v < 2 ^ 64) :
    u128 (u * v) = u * v := by
  have := Int.mul_le_mul (Int.le_sub_one_of_lt hu) (Int.le_sub_one_of_lt hv) hv0 (by decide)
  exact u128_of_small (Int.mul_nonneg hu0 hv0) (by omega)

theorem tquot_mul_cancel_left {g : Int} (m : Int) (hg : g ≠ 0) : tquot (g * m) g = m :=
  Int.mul_tdiv_cancel_left m hg

theorem tquot_of_dvd {d g : Int} (h : g ∣ d) : tquot d g = d / g := Int.tdiv_eq_ediv_of_dvd h

/-- the candidate index: if `p·t' ≡ dq (mod m)`, `li·p ≡ 1 (mod m)` and `0 ≤ t' < m`, then `t'` is the
residue of `dq·li` -/
theorem wide_index (p m li ri dq t' k : Int) (hbez : li * p + ri * m = 1)
    (h : p * t' - dq = m * k) (ht0 : 0 ≤ t') (htm : t' < m) :
    (dq % m) * (li % m) % m = t' := by
  rw [← Int.mul_emod]
  have hd : m ∣ t' - dq * li := by
    refine ⟨li * k + ri * t', ?_⟩
    have e : t' = t' * (li * p + ri * m) := by rw [hbez, Int.mul_one]
    have e2 : p * t' = dq + m * k := by omega
    grind
  rw [← emod_eq_of_dvd_sub hd]
  exact Int.emod_eq_of_lt ht0 htm

/-- the candidate `t·sl` for the index `t ≡ dq·li (mod m)` is congruent to `dq·g` modulo `sr`
(`sl = g·p`, `sr = g·m`) -/
theorem wide_congr (g p m li ri dq t : Int) (hbez : li * p + ri * m = 1) (ht : m ∣ t - dq * li) :
    g * m ∣ t * (g * p) - dq * g := by
  obtain ⟨j, hj⟩ := ht
  refine ⟨p * j - dq * ri, ?_⟩
  have e : t = dq * li + m * j := by omega
  have e2 : li * p = 1 - ri * m := by omega
  rw [e]
  grind

/-- what `compute_unique_common_value` works with: the Bezout coefficients of the strides `sl = g·p`,
`sr = g·m`, normalised to `li·p + ri·m = 1`, and `lcm = g·p·m` -/
theorem stride_bezout (sl sr : Nat) (hsl : sl ≠ 0) (hsr : sr ≠ 0) (hsl64 : sl < 2 ^ 64) (hsr64 : sr < 2 ^ 64) :
    ∃ li ri p m : Int, extendedGcd (sl : Int) (sr : Int) = (((Nat.gcd sl sr : Nat) : Int), li, ri) ∧
      1 ≤ m ∧ (sl : Int) = (Nat.gcd sl sr : Nat) * p ∧ (sr : Int) = (Nat.gcd sl sr : Nat) * m ∧
      ((Nat.lcm sl sr : Nat) : Int) = (Nat.gcd sl sr : Nat) * p * m ∧ li * p + ri * m = 1 := by
  obtain ⟨li, ri, hE, hbez, _⟩ := extendedGcd_spec sl sr (by omega) (by omega) hsl64 hsr64
  obtain ⟨p, m, -, hm, hpZ, hmZ, hlcm⟩ := gcd_factor (Nat.pos_of_ne_zero hsl) (Nat.pos_of_ne_zero hsr)
  refine ⟨li, ri, p, m, hE, hm, hpZ, hmZ, hlcm, ?_⟩
  apply Int.eq_of_mul_eq_mul_left (Int.ne_of_gt (one_le_gcd sr hsl))
  rw [Int.mul_one, Int.mul_add, Int.mul_left_comm _ li, Int.mul_left_comm _ ri, ← hpZ, ← hmZ]
  exact hbez.symm

theorem uniqueCommon_eval (I J : Interval) (hI : I.WF) (hJ : J.WF) (hw : J.w = I.w) (hw64 : I.w ≤ 64)
    {g li ri m : Int} (hE : extendedGcd (I.stride : Int) (J.stride : Int) = (g, li, ri)) (hg : 1 ≤ g) (hm0 : 1 ≤ m)
    (hm : (J.stride : Int) = g * m) :
    computeUniqueCommonValue I J =
      if ¬ g ∣ J.start - I.start then none
      else
        let t := (J.start - I.start) / g % m * (li % m) % m
        if t * (I.stride : Int) ≤ 2 ^ 64 - 1 then some (I.start + t * (I.stride : Int)) else none := by
  obtain ⟨hw0, hIs, _, _, _, _, hIu⟩ := hI
  obtain ⟨_, hJs, _, _, _, _, hJu⟩ := hJ
  rw [hw] at hJs
  have ha := inRange_le_i64 I.w hw64 hIs
  have hb := inRange_le_i64 I.w hw64 hJs
  have hsl0 : (0 : Int) ≤ (I.stride : Int) := Int.natCast_nonneg _
  have hsl64 : (I.stride : Int) < 2 ^ 64 := by exact_mod_cast hIu
  have hm64 : m < 2 ^ 64 := by
    have := Int.mul_le_mul_of_nonneg_right hg (Int.le_trans Int.one_nonneg hm0)
    have : (J.stride : Int) < 2 ^ 64 := by exact_mod_cast hJu
    omega
  have hmp : 0 < m := hm0
  have hm' : m ≠ 0 := Int.ne_of_gt hmp
  unfold computeUniqueCommonValue
  rw [tryToI64_inRange hw0 hw64 hIs, hw, tryToI64_inRange hw0 hw64 hJs]
  simp only [hE]
  rw [i128_of_small (z := J.start - I.start) (by omega) (by omega), hm,
    tquot_mul_cancel_left m (Int.ne_of_gt hg)]
  by_cases hdvd : g ∣ J.start - I.start
  · have h0 : trem (J.start - I.start) g = 0 := Int.tmod_eq_zero_of_dvd hdvd
    have r1 := Int.emod_nonneg ((J.start - I.start) / g) hm'
    have r2 := Int.emod_lt_of_pos ((J.start - I.start) / g) hmp
    have r3 := Int.emod_nonneg li hm'
    have r4 := Int.emod_lt_of_pos li hmp
    have t0 := Int.emod_nonneg ((J.start - I.start) / g % m * (li % m)) hm'
    have t1 := Int.emod_lt_of_pos ((J.start - I.start) / g % m * (li % m)) hmp
    rw [if_neg (not_not_intro h0), if_neg (not_not_intro hdvd), tquot_of_dvd hdvd,
      u128_of_u64 r1 (Int.lt_trans r2 hm64), u128_of_u64 r3 (Int.lt_trans r4 hm64),
      u128_mul_u64 r1 (Int.lt_trans r2 hm64) r3 (Int.lt_trans r4 hm64), u128_of_u64 (Int.le_of_lt hmp) hm64,
      u128_of_u64 hsl0 hsl64, u128_mul_u64 t0 (Int.lt_trans t1 hm64) hsl0 hsl64]
    by_cases hfit : (J.start - I.start) / g % m * (li % m) % m * (I.stride : Int) ≤ 2 ^ 64 - 1
    · have := Int.mul_nonneg t0 hsl0
      rw [if_pos hfit, if_pos hfit, i128_of_small (by omega) (by omega)]
    · rw [if_neg hfit, if_neg hfit]
  · have h0 : trem (J.start - I.start) g ≠ 0 := fun h => hdvd (Int.dvd_of_tmod_eq_zero h)
    rw [if_pos h0, if_pos hdvd]

/-- **C04-unique-common-sound.** An answer `Some(v)` of `compute_unique_common_value` lies at or above the
left start and in the residue classes of both operands. -/
theorem uniqueCommon_sound (I J : Interval) (hI : I.WF) (hJ : J.WF) (hw : J.w = I.w) (hw64 : I.w ≤ 64)
    (hsI : I.stride ≠ 0) (hsJ : J.stride ≠ 0) {v : Int} (h : computeUniqueCommonValue I J = some v) :
    I.start ≤ v ∧ (I.stride : Int) ∣ v - I.start ∧ (J.stride : Int) ∣ v - J.start := by
  obtain ⟨li, ri, p, m, hE, hm, hpZ, hmZ, _, hbez1⟩ :=
    stride_bezout I.stride J.stride hsI hsJ hI.2.2.2.2.2.2 hJ.2.2.2.2.2.2
  rw [uniqueCommon_eval I J hI hJ hw hw64 hE (one_le_gcd _ hsI) hm hmZ] at h
  generalize ((Nat.gcd I.stride J.stride : Nat) : Int) = g at *
  by_cases hnd : ¬ g ∣ J.start - I.start
  · rw [if_pos hnd] at h; cases h
  simp only [if_neg hnd] at h
  have hdq := Int.ediv_mul_cancel (Decidable.not_not.mp hnd)
  generalize (J.start - I.start) / g = dq at *
  have t0 := Int.emod_nonneg (dq % m * (li % m)) (Int.ne_of_gt hm)
  have hd : m ∣ dq % m * (li % m) % m - dq * li := by rw [← Int.mul_emod]; exact Int.dvd_emod_sub_self
  have hc := wide_congr g p m li ri _ _ hbez1 hd
  generalize dq % m * (li % m) % m = t at *
  split at h <;> cases h
  rw [← hmZ, ← hpZ, hdq] at hc
  refine ⟨Int.le_add_of_nonneg_right (Int.mul_nonneg t0 (Int.natCast_nonneg _)),
    by rw [Int.add_comm, Int.add_sub_cancel]; exact Int.dvd_mul_left t _, ?_⟩
  rwa [show I.start + t * (I.stride : Int) - J.start = t * (I.stride : Int) - (J.start - I.start) by omega]

/-- **C04-unique-common-complete.** If the lcm of the strides exceeds `u64::MAX`, every common member of
the two (at most 64-bit) intervals is the answer of `compute_unique_common_value`; in particular the
intervals share at most one value. -/
theorem uniqueCommon_complete (I J : Interval) (hI : I.WF) (hJ : J.WF) (hw : J.w = I.w) (hw64 : I.w ≤ 64)
    (hsI : I.stride ≠ 0) (hsJ : J.stride ≠ 0) (hL : 2 ^ 64 ≤ Nat.lcm I.stride J.stride)
    {x : Int} (hxI : I.Mem x) (hxJ : J.Mem x) : computeUniqueCommonValue I J = some x := by
  obtain ⟨li, ri, p, m, hE, hm, hpZ, hmZ, hlcm, hbez1⟩ :=
    stride_bezout I.stride J.stride hsI hsJ hI.2.2.2.2.2.2 hJ.2.2.2.2.2.2
  have hg := one_le_gcd J.stride hsI
  rw [uniqueCommon_eval I J hI hJ hw hw64 hE hg hm hmZ]
  have hxr := inRange_le_i64 I.w hw64 (Interval.mem_inRange hI hxI)
  have ha := inRange_le_i64 I.w hw64 hI.2.1
  have hL' : (2 : Int) ^ 64 ≤ ((Nat.lcm I.stride J.stride : Nat) : Int) := by exact_mod_cast hL
  have hslp : (0 : Int) < (I.stride : Int) := Int.natCast_pos.mpr (Nat.pos_of_ne_zero hsI)
  obtain ⟨t', ht'⟩ := hxI.2.2
  obtain ⟨k, hk⟩ := hxJ.2.2
  have hx0 := hxI.1
  rw [← hpZ] at hlcm
  generalize ((Nat.lcm I.stride J.stride : Nat) : Int) = L at *
  generalize ((Nat.gcd I.stride J.stride : Nat) : Int) = g at *
  generalize (I.stride : Int) = sl at *
  generalize (J.stride : Int) = sr at *
  -- the index `t'` of `x` lies in `[0, m)` since `sl·t' = x - start_left < 2^64 ≤ lcm = sl·m`
  have ht0 : 0 ≤ t' := Int.le_of_mul_le_mul_left (a := sl) (by omega) hslp
  have htm : t' < m := Int.lt_of_mul_lt_mul_left (a := sl) (by omega) (Int.le_of_lt hslp)
  have hd : J.start - I.start = g * (p * t' - m * k) := by
    rw [Int.mul_sub, ← Int.mul_assoc, ← Int.mul_assoc, ← hpZ, ← hmZ]; omega
  rw [if_neg (not_not_intro ⟨_, hd⟩), hd, Int.mul_ediv_cancel_left _ (Int.ne_of_gt hg)]
  simp only [wide_index p m li ri (p * t' - m * k) t' k hbez1 (Int.sub_sub_self _ _) ht0 htm]
  rw [Int.mul_comm, ← ht', if_pos (by omega), Int.add_comm, Int.sub_add_cancel]

end CweModel.C04
