/-
C04 — the property as a predicate on one answer: a refinement whose feasible values are `F` answers "unsatisfiable"
only if nothing is feasible, and otherwise a good value that contains every feasible value. The bound refinements
(`Bounds`), `signed_intersect` and `intersect` (`Intersect`) each get ONE theorem of this form; soundness, the
"unsatisfiable" half and well-formedness of the result are its three readings (`sound`, `of_none`, `of_some`).
-/
namespace CweModel.C04

def Keeps {α : Type} (mem : α → Int → Prop) (good : α → Prop) (F : Int → Prop) : Option α → Prop
  | none => ∀ x, ¬ F x
  | some r => good r ∧ ∀ x, F x → mem r x

namespace Keeps
variable {α : Type} {mem : α → Int → Prop} {good : α → Prop} {F : Int → Prop} {o : Option α}

theorem ite {c : Prop} [Decidable c] {R : α} (hc : ∀ x, F x → c) (hR : c → Keeps mem good F (some R)) :
    Keeps mem good F (if c then some R else none) := by
  by_cases h : c
  · rw [if_pos h]; exact hR h
  · rw [if_neg h]; exact fun x hx => h (hc x hx)

theorem sound (h : Keeps mem good F o) {x : Int} (hx : F x) : ∃ r, o = some r ∧ mem r x := by
  cases o with
  | none => exact absurd hx (h x)
  | some r => exact ⟨r, rfl, h.2 x hx⟩

theorem of_some {r : α} (h : Keeps mem good F o) (e : o = some r) : good r := by subst e; exact h.1

theorem of_none (h : Keeps mem good F o) (e : o = none) : ∀ x, ¬ F x := by subst e; exact h

end Keeps

theorem ite_some {α : Type} {c : Prop} [Decidable c] {v r : α} (h : (if c then some v else none) = some r) :
    c ∧ r = v := by
  by_cases hc : c
  · rw [if_pos hc] at h; cases h; exact ⟨hc, rfl⟩
  · rw [if_neg hc] at h; cases h

end CweModel.C04
