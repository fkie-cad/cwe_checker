/-
C04 — the chinese-remainder computation of `compute_intersection_residue_class` never gives up
(`Err("Integer overflow …")`) when the stride of the intersection, `lcm(stride_left, stride_right)`,
fits into a `u64`:

* `extendedGcd_spec`: `extended_gcd(a, b)` for `u64` operands returns `(gcd, x, y)` with the Bezout
  identity `gcd = x·a + y·b` and the coefficient bounds `2·gcd·|x| ≤ b`, `2·gcd·|y| ≤ a` (or `a ∣ b` and
  `(x, y) = (1, 0)`); no `i128` operation of the recursion wraps,
* `residueClass_total`: for `lcm ≤ u64::MAX` no `i128` product/sum of the residue computation wraps, the
  candidate satisfies both congruences and therefore passes the code's own verification,
* `residueClass_err_iff`: beyond that it always gives up (`signed_intersect` does not call it there).
-/
import CweModel.C04.Model
import CweModel.C02.Adjust

namespace CweModel.C04
open CweModel.Itv CweModel.C02

theorem mul_bounds {k z m : Int} (hk : 0 ≤ k) (h1 : -m ≤ z) (h2 : z ≤ m) : -(k * m) ≤ k * z ∧ k * z ≤ k * m :=
  ⟨Int.mul_neg k m ▸ Int.mul_le_mul_of_nonneg_left h1 hk, Int.mul_le_mul_of_nonneg_left h2 hk⟩

theorem i128_of_scaled {g z b : Int} (hg : 1 ≤ g) (h1 : -b ≤ 2 * (g * z)) (h2 : 2 * (g * z) ≤ b)
    (hb : b < 2 ^ 64) : i128 z = z := by
  rcases Int.le_total 0 z with hz | hz
  · have := Int.mul_le_mul_of_nonneg_right hg hz
    exact i128_of_small (by omega) (by omega)
  · have := Int.mul_le_mul_of_nonpos_right hg hz
    exact i128_of_small (by omega) (by omega)

theorem i128_mul_small {u z : Int} (hu0 : 0 ≤ u) (hu : u < 2 ^ 64) (h1 : -(2 ^ 63) ≤ z) (h2 : z ≤ 2 ^ 63) :
    i128 (u * z) = u * z := by
  obtain ⟨c1, c2⟩ := mul_bounds hu0 h1 h2
  exact i128_of_small (by omega) (by omega)

theorem i128_sub_of_u64 {a b : Int} (ha0 : 0 ≤ a) (ha : a < 2 ^ 64) (hb0 : 0 ≤ b) (hb : b < 2 ^ 64) :
    i128 (a - b) = a - b := i128_of_small (by omega) (by omega)

theorem trem_natCast (b a : Nat) : trem (b : Int) (a : Int) = ((b % a : Nat) : Int) := by
  unfold trem
  rw [Int.tmod_eq_emod_of_nonneg (by omega), Int.natCast_emod]

theorem tquot_of_nonneg {b a : Int} (hb : 0 ≤ b) : tquot b a = b / a := by
  unfold tquot; exact Int.tdiv_eq_ediv_of_nonneg hb

theorem trem_of_nonneg {b a : Int} (hb : 0 ≤ b) : trem b a = b % a := by
  unfold trem; exact Int.tmod_eq_emod_of_nonneg hb

theorem trem_of_lt {a n : Int} (h0 : 0 ≤ a) (h1 : a < n) : trem a n = a := Int.tmod_eq_of_lt h0 h1

theorem dvd_sub_trem (x k : Int) : k ∣ x - trem x k := Int.dvd_self_sub_tmod

theorem dvd_sub_of_emod {s a r : Int} (h : s ∣ a % s - r) : s ∣ a - r := by
  have := Int.dvd_add (Int.dvd_self_sub_emod (x := a)) h
  rwa [show a - a % s + (a % s - r) = a - r by omega] at this

theorem one_le_gcd {a : Nat} (b : Nat) (ha : a ≠ 0) : (1 : Int) ≤ (Nat.gcd a b : Nat) :=
  Int.ofNat_le.mpr (Nat.gcd_pos_of_pos_left b (Nat.pos_of_ne_zero ha))

theorem extendedGcdAux_zero (fuel : Nat) (b : Int) : extendedGcdAux fuel 0 b = (b, 0, 1) := by
  cases fuel <;> simp [extendedGcdAux]

theorem extendedGcdAux_fst (fuel a b : Nat) (h : a < fuel) :
    (extendedGcdAux fuel (a : Int) (b : Int)).1 = ((Nat.gcd a b : Nat) : Int) := by
  induction fuel generalizing a b with
  | zero => omega
  | succ f ih =>
    unfold extendedGcdAux
    by_cases ha : a = 0
    · subst ha; simp
    · have ha' : ¬ ((a : Int) = 0) := by omega
      rw [if_neg ha']
      simp only
      rw [trem_natCast]
      have hlt : b % a < f := by
        have := Nat.mod_lt b (show 0 < a by omega); omega
      rw [ih (b % a) a hlt, Nat.gcd_rec a b]

theorem extendedGcd_fst (a b : Nat) : (extendedGcd (a : Int) (b : Int)).1 = ((Nat.gcd a b : Nat) : Int) := by
  unfold extendedGcd
  exact extendedGcdAux_fst _ a b (by omega)

/-- the invariant of the Euclid recursion as the code implements it -/
def BezoutOK (a b g x y : Int) : Prop :=
  g = x * a + y * b ∧
  ((a ∣ b ∧ x = 1 ∧ y = 0) ∨ (-b ≤ 2 * (g * x) ∧ 2 * (g * x) ≤ b ∧ -a ≤ 2 * (g * y) ∧ 2 * (g * y) ≤ a))

/-- for `a < b` the coefficient bounds also hold in the case `a ∣ b` -/
theorem BezoutOK.bounds {a b g x y : Int} (h : BezoutOK a b g x y) (ha : 0 < a) (hab : a < b) :
    -b ≤ 2 * (g * x) ∧ 2 * (g * x) ≤ b ∧ -a ≤ 2 * (g * y) ∧ 2 * (g * y) ≤ a := by
  obtain ⟨hid, ⟨⟨k, hk⟩, rfl, rfl⟩ | h⟩ := h
  · have hk1 : 1 < k := Int.lt_of_mul_lt_mul_left (a := a) (by omega) (by omega)
    have : a * 2 ≤ a * k := Int.mul_le_mul_of_nonneg_left hk1 (by omega)
    rw [Int.mul_zero, Int.mul_one]; omega
  · exact h

/-- one step of the Euclid recursion, from `(r, a)` to `(a, b)` with `b = q·a + r`: the invariant is kept
and neither `i128` operation wraps -/
theorem bezout_step {a b q r g x y : Int} (hb : q * a + r = b) (hq : 0 ≤ q) (hr : 0 < r) (hra : r < a)
    (hg : 1 ≤ g) (hb64 : b < 2 ^ 64) (h : BezoutOK r a g x y) :
    BezoutOK a b g (y - q * x) x ∧ i128 (q * x) = q * x ∧ i128 (y - q * x) = y - q * x := by
  obtain ⟨b1, b2, b3, b4⟩ := h.bounds hr hra
  obtain ⟨c1, c2⟩ := mul_bounds hq b1 b2
  have e1 : 2 * (g * (q * x)) = q * (2 * (g * x)) := by ac_rfl
  have e2 : 2 * (g * (y - q * x)) = 2 * (g * y) - q * (2 * (g * x)) := by rw [← e1, Int.mul_sub, Int.mul_sub]
  have d1 : -b ≤ 2 * (g * (y - q * x)) := by omega
  have d2 : 2 * (g * (y - q * x)) ≤ b := by omega
  refine ⟨⟨?_, .inr ⟨d1, d2, b1, b2⟩⟩, i128_of_scaled hg (by omega) (by omega) hb64,
    i128_of_scaled hg d1 d2 hb64⟩
  rw [h.1, ← hb]; grind

theorem extendedGcdAux_spec (fuel a b : Nat) (ha : 0 < a) (ha64 : a < 2 ^ 64) (hb64 : b < 2 ^ 64)
    (h : a < fuel) :
    ∃ x y : Int, extendedGcdAux fuel (a : Int) (b : Int) = (((Nat.gcd a b : Nat) : Int), x, y) ∧
      BezoutOK a b (Nat.gcd a b : Nat) x y := by
  induction fuel generalizing a b with
  | zero => omega
  | succ f ih =>
    have hr_lt : b % a < a := Nat.mod_lt b ha
    rw [extendedGcdAux, if_neg (Int.natCast_ne_zero.mpr (Nat.ne_of_gt ha)), trem_natCast,
      tquot_of_nonneg (Int.natCast_nonneg b)]
    by_cases hr : b % a = 0
    · have hdvd : a ∣ b := Nat.dvd_of_mod_eq_zero hr
      rw [hr, Int.natCast_zero, extendedGcdAux_zero, Nat.gcd_eq_left hdvd]
      exact ⟨1, 0, by simp only [Int.mul_zero]; rfl, by omega, .inl ⟨Int.natCast_dvd_natCast.mpr hdvd, rfl, rfl⟩⟩
    · obtain ⟨x, y, he, hok⟩ := ih (b % a) a (Nat.pos_of_ne_zero hr) (Nat.lt_trans hr_lt ha64) ha64
        (Nat.lt_of_lt_of_le hr_lt (Nat.le_of_lt_succ h))
      rw [← Nat.gcd_rec] at he hok
      have hdm : (b : Int) / a * a + ((b % a : Nat) : Int) = b := by
        rw [Int.natCast_emod, Int.mul_comm]; exact Int.mul_ediv_add_emod _ _
      obtain ⟨hok', e1, e2⟩ := bezout_step hdm (Int.ediv_nonneg (Int.natCast_nonneg b) (Int.natCast_nonneg a))
        (Int.natCast_pos.mpr (Nat.pos_of_ne_zero hr)) (Int.ofNat_lt.mpr hr_lt) (one_le_gcd b (Nat.ne_of_gt ha))
        (by exact_mod_cast hb64) hok
      simp only [he, e1, e2]
      exact ⟨_, _, rfl, hok'⟩

/-- **C04-extended-gcd.** `extended_gcd(a, b)` for positive `u64` operands: the first component is the
gcd, the coefficients satisfy `gcd = x·a + y·b` and either `a ∣ b ∧ (x, y) = (1, 0)` or
`2·gcd·|x| ≤ b ∧ 2·gcd·|y| ≤ a`. (The `i128` subtraction/multiplication of the recursion are modelled
with wrap; the bounds show they never wrap.) -/
theorem extendedGcd_spec (a b : Nat) (ha : 0 < a) (hb : 0 < b) (ha64 : a < 2 ^ 64) (hb64 : b < 2 ^ 64) :
    ∃ x y : Int, extendedGcd (a : Int) (b : Int) = (((Nat.gcd a b : Nat) : Int), x, y) ∧
      BezoutOK a b (Nat.gcd a b : Nat) x y := by
  unfold extendedGcd
  exact extendedGcdAux_spec _ a b ha ha64 hb64 (by omega)

/-- one summand of the candidate: the Bezout product `c·s` of the stride `s = g·k` whose coefficient satisfies
`2·g·|c| ≤ t` is at most `k·t/2 = L/2` in absolute value, so it and its product with a `u64` value fit
into an `i128` -/
theorem crt_summand {g k s t c u L : Int} (hk : 1 ≤ k) (hs : s = g * k) (hL : k * t = L) (hL64 : L < 2 ^ 64)
    (b1 : -t ≤ 2 * (g * c)) (b2 : 2 * (g * c) ≤ t) (hu0 : 0 ≤ u) (hu : u < 2 ^ 64) :
    i128 (c * s) = c * s ∧ i128 (u * (c * s)) = u * (c * s) := by
  obtain ⟨c1, c2⟩ := mul_bounds (Int.le_trans Int.one_nonneg hk) b1 b2
  rw [hL, show k * (2 * (g * c)) = 2 * (c * (g * k)) by ac_rfl, ← hs] at c1 c2
  exact ⟨i128_of_small (by omega) (by omega), i128_mul_small hu0 hu (by omega) (by omega)⟩

theorem crt_no_wrap (sl sr g p q L li ri bl br : Int) (hg : 1 ≤ g) (hp : 1 ≤ p) (hq : 1 ≤ q)
    (hsl : sl = g * p) (hsr : sr = g * q) (hL : L = g * p * q) (hL64 : L < 2 ^ 64)
    (hsl64 : sl < 2 ^ 64) (hsr64 : sr < 2 ^ 64) (hbez : BezoutOK sl sr g li ri)
    (hbl0 : 0 ≤ bl) (hbl1 : bl < sl) (hbr0 : 0 ≤ br) (hbr1 : br < sr) :
    i128 (li * sl) = li * sl ∧ i128 (ri * sr) = ri * sr ∧
    i128 (br / g * (li * sl)) = br / g * (li * sl) ∧ i128 (bl / g * (ri * sr)) = bl / g * (ri * sr) := by
  have hg0 : 0 ≤ g := Int.le_trans Int.one_nonneg hg
  have hu0 : 0 ≤ br / g := Int.ediv_nonneg hbr0 hg0
  have hu1 : br / g ≤ br := Int.ediv_le_self _ hbr0
  obtain ⟨hbez, ⟨_, rfl, rfl⟩ | ⟨b1, b2, b3, b4⟩⟩ := hbez
  · rw [Int.one_mul, Int.zero_mul, Int.add_zero] at hbez
    have := Int.ediv_mul_le br (Int.ne_of_gt hg)
    have := Int.mul_nonneg hu0 hg0
    rw [Int.one_mul, Int.zero_mul, Int.mul_zero, ← hbez]
    exact ⟨i128_of_small (by omega) (by omega), rfl, i128_of_small (by omega) (by omega), rfl⟩
  · obtain ⟨e1, e3⟩ := crt_summand hp hsl (show p * sr = L by rw [hsr, hL]; ac_rfl) hL64 b1 b2
      hu0 (Int.lt_of_le_of_lt hu1 (Int.lt_trans hbr1 hsr64))
    obtain ⟨e2, e4⟩ := crt_summand hq hsr (show q * sl = L by rw [hsl, hL]; ac_rfl) hL64 b3 b4
      (Int.ediv_nonneg hbl0 hg0) (Int.lt_of_le_of_lt (Int.ediv_le_self _ hbl0) (Int.lt_trans hbl1 hsl64))
    exact ⟨e1, e2, e3, e4⟩

/-- the candidate satisfies both congruences: it is `rc ≡ t1 + t2 + m (mod L)` with `t1 ≡ qr·A`, `t2 ≡ ql·B (mod L)`
for the Bezout products `A + B = g`, and `L` is a common multiple of the strides `sl ∣ A`, `sr ∣ B`. Hence
`rc ≡ g·ql + m (mod sl)` and `rc ≡ g·qr + m (mod sr)`. -/
theorem crt_congr {sl sr L g A B ql qr m t1 t2 rc : Int} (hsl : sl ∣ L) (hsr : sr ∣ L) (hA : sl ∣ A) (hB : sr ∣ B)
    (hAB : g = A + B) (h1 : L ∣ qr * A - t1) (h2 : L ∣ ql * B - t2) (h3 : L ∣ t1 + t2 + m - rc) :
    sl ∣ g * ql + m - rc ∧ sr ∣ g * qr + m - rc := by
  have h := Int.dvd_add (Int.dvd_add h3 h1) h2
  have el : g * ql + m - rc = t1 + t2 + m - rc + (qr * A - t1) + (ql * B - t2) + (ql - qr) * A := by
    rw [hAB]; grind
  have er : g * qr + m - rc = t1 + t2 + m - rc + (qr * A - t1) + (ql * B - t2) + (qr - ql) * B := by
    rw [hAB]; grind
  rw [el, er]
  exact ⟨Int.dvd_add (Int.dvd_trans hsl h) (Int.dvd_mul_of_dvd_right hA),
    Int.dvd_add (Int.dvd_trans hsr h) (Int.dvd_mul_of_dvd_right hB)⟩

/-- the tail of `compute_intersection_residue_class` after the gcd test (same text as in the model) -/
def crtTail (sl sr g li ri bl br : Int) : Residue :=
  let lcm := i128 (tquot sl g * sr)
  let t1 := trem (i128 (tquot (trem br lcm) g * i128 (li * sl))) lcm
  let t2 := trem (i128 (tquot (trem bl lcm) g * i128 (ri * sr))) lcm
  let rc := i128 (i128 (t1 + t2) + trem bl g)
  let rc := rc % lcm
  if lcm ≤ 2 ^ 64 - 1 ∧ trem lcm sl = 0 ∧ trem lcm sr = 0 ∧ trem (i128 (bl - rc)) sl = 0
      ∧ trem (i128 (br - rc)) sr = 0 then
    .some (toU 64 lcm) (toU 64 rc)
  else .err

theorem crtTail_exact {sl sr g li ri bl br L : Int} (hlcm : i128 (tquot sl g * sr) = L) (hL0 : 0 < L)
    (hL64 : L < 2 ^ 64) (hg : 0 < g) (hbl0 : 0 ≤ bl) (hbl1 : bl < L) (hbr0 : 0 ≤ br) (hbr1 : br < L)
    (e1 : i128 (li * sl) = li * sl) (e2 : i128 (ri * sr) = ri * sr)
    (e3 : i128 (br / g * (li * sl)) = br / g * (li * sl)) (e4 : i128 (bl / g * (ri * sr)) = bl / g * (ri * sr)) :
    crtTail sl sr g li ri bl br =
      let rc := (trem (br / g * (li * sl)) L + trem (bl / g * (ri * sr)) L + bl % g) % L
      if L ≤ 2 ^ 64 - 1 ∧ trem L sl = 0 ∧ trem L sr = 0 ∧ trem (bl - rc) sl = 0 ∧ trem (br - rc) sr = 0 then
        .some (toU 64 L) (toU 64 rc)
      else .err := by
  have ht1 := trem_bounds (br / g * (li * sl)) L hL0
  have ht2 := trem_bounds (bl / g * (ri * sr)) L hL0
  have hm0 : 0 ≤ bl % g := Int.emod_nonneg _ (Int.ne_of_gt hg)
  have hm1 : bl % g ≤ bl := emod_le_of_nonneg bl g hbl0 hg
  have hrc0 := Int.emod_nonneg (trem (br / g * (li * sl)) L + trem (bl / g * (ri * sr)) L + bl % g) (Int.ne_of_gt hL0)
  have hrc1 := Int.emod_lt_of_pos (trem (br / g * (li * sl)) L + trem (bl / g * (ri * sr)) L + bl % g) hL0
  simp only [crtTail, hlcm, trem_of_lt hbr0 hbr1, trem_of_lt hbl0 hbl1, tquot_of_nonneg hbr0, tquot_of_nonneg hbl0, e1, e2,
    e3, e4, trem_of_nonneg hbl0]
  generalize trem (br / g * (li * sl)) L = t1 at *
  generalize trem (bl / g * (ri * sr)) L = t2 at *
  rw [i128_of_small (z := t1 + t2) (by omega) (by omega), i128_of_small (z := t1 + t2 + bl % g) (by omega) (by omega)]
  generalize (t1 + t2 + bl % g) % L = rc at *
  rw [i128_sub_of_u64 hbl0 (Int.lt_trans hbl1 hL64) hrc0 (Int.lt_trans hrc1 hL64),
    i128_sub_of_u64 hbr0 (Int.lt_trans hbr1 hL64) hrc0 (Int.lt_trans hrc1 hL64)]

/-- **the tail never overflows.** With `sl = g·p`, `sr = g·q`, `L = g·p·q ≤ u64::MAX`, Bezout coefficients
as `extended_gcd` returns them and residues `bl < sl`, `br < sr` that agree modulo `g`: the tail answers
`Some((L, rc))` with `0 ≤ rc < L`, `rc ≡ bl (mod sl)`, `rc ≡ br (mod sr)`. -/
theorem crtTail_eval (sl sr g p q L li ri bl br : Int) (hg : 1 ≤ g) (hp : 1 ≤ p) (hq : 1 ≤ q)
    (hsl : sl = g * p) (hsr : sr = g * q) (hL : L = g * p * q) (hL64 : L < 2 ^ 64)
    (hsl64 : sl < 2 ^ 64) (hsr64 : sr < 2 ^ 64)
    (hbez : g = li * sl + ri * sr)
    (hbd : (sl ∣ sr ∧ li = 1 ∧ ri = 0) ∨
      (-sr ≤ 2 * (g * li) ∧ 2 * (g * li) ≤ sr ∧ -sl ≤ 2 * (g * ri) ∧ 2 * (g * ri) ≤ sl))
    (hbl0 : 0 ≤ bl) (hbl1 : bl < sl) (hbr0 : 0 ≤ br) (hbr1 : br < sr) (heq : bl % g = br % g)
    (hlcm : i128 (tquot sl g * sr) = L) (hLsl : sl ∣ L) (hLsr : sr ∣ L) :
    ∃ rc : Int, crtTail sl sr g li ri bl br = .some (toU 64 L) (toU 64 rc) ∧ 0 ≤ rc ∧ rc < L ∧
      sl ∣ bl - rc ∧ sr ∣ br - rc := by
  obtain ⟨e1, e2, e3, e4⟩ := crt_no_wrap sl sr g p q L li ri bl br hg hp hq hsl hsr hL hL64 hsl64 hsr64
    ⟨hbez, hbd⟩ hbl0 hbl1 hbr0 hbr1
  have hL0 : 0 < L := hL ▸ Int.mul_pos (Int.mul_pos hg hp) hq
  rw [crtTail_exact hlcm hL0 hL64 hg hbl0 (Int.lt_of_lt_of_le hbl1 (Int.le_of_dvd hL0 hLsl)) hbr0
    (Int.lt_of_lt_of_le hbr1 (Int.le_of_dvd hL0 hLsr)) e1 e2 e3 e4]
  obtain ⟨c4, c5⟩ := crt_congr hLsl hLsr (Int.dvd_mul_left li sl) (Int.dvd_mul_left ri sr) hbez
    (dvd_sub_trem (br / g * (li * sl)) L) (dvd_sub_trem (bl / g * (ri * sr)) L) Int.dvd_self_sub_emod
  rw [Int.mul_ediv_add_emod] at c4
  rw [show g * (br / g) + bl % g = br from heq ▸ Int.mul_ediv_add_emod br g] at c5
  exact ⟨_, if_pos ⟨by omega, Int.tmod_eq_zero_of_dvd hLsl, Int.tmod_eq_zero_of_dvd hLsr, Int.tmod_eq_zero_of_dvd c4,
    Int.tmod_eq_zero_of_dvd c5⟩, Int.emod_nonneg _ (Int.ne_of_gt hL0), Int.emod_lt_of_pos _ hL0, c4, c5⟩

/-- the lcm as `compute_intersection_residue_class` and `signed_intersect` compute it -/
theorem div_gcd_mul (a b : Nat) : a / Nat.gcd a b * b = Nat.lcm a b := by
  rw [Nat.lcm_eq_mul_div, Nat.mul_div_right_comm (Nat.gcd_dvd_left _ _)]

theorem tquot_gcd_mul (a b : Nat) : tquot (a : Int) (Nat.gcd a b : Nat) * (b : Int) = (Nat.lcm a b : Nat) := by
  rw [tquot_of_nonneg (by omega), ← Int.natCast_ediv, ← Int.natCast_mul, div_gcd_mul]

theorem gcd_factor {a b : Nat} (ha : 0 < a) (hb : 0 < b) :
    ∃ p q : Int, 1 ≤ p ∧ 1 ≤ q ∧ (a : Int) = (Nat.gcd a b : Nat) * p ∧ (b : Int) = (Nat.gcd a b : Nat) * q ∧
      ((Nat.lcm a b : Nat) : Int) = (Nat.gcd a b : Nat) * p * q := by
  obtain ⟨p, hp⟩ := Nat.gcd_dvd_left a b
  obtain ⟨q, hq⟩ := Nat.gcd_dvd_right a b
  have hl : Nat.lcm a b = Nat.gcd a b * p * q := by
    rw [← div_gcd_mul, Nat.div_eq_of_eq_mul_right (Nat.gcd_pos_of_pos_left b ha) hp, Nat.mul_comm _ p,
      Nat.mul_assoc, ← hq]
  refine ⟨p, q, ?_, ?_, by exact_mod_cast hp, by exact_mod_cast hq, by exact_mod_cast hl⟩
  · have : p ≠ 0 := fun h => by rw [h, Nat.mul_zero] at hp; omega
    omega
  · have : q ≠ 0 := fun h => by rw [h, Nat.mul_zero] at hq; omega
    omega

theorem residueClass_gcd_test (I J : Interval) (hsI : I.stride ≠ 0) (hsJ : J.stride ≠ 0) :
    computeIntersectionResidueClass I J =
      if I.start % ((Nat.gcd I.stride J.stride : Nat) : Int) ≠ J.start % ((Nat.gcd I.stride J.stride : Nat) : Int)
      then .empty
      else crtTail (I.stride : Int) (J.stride : Int) ((Nat.gcd I.stride J.stride : Nat) : Int)
        (extendedGcd (I.stride : Int) (J.stride : Int)).2.1 (extendedGcd (I.stride : Int) (J.stride : Int)).2.2
        (I.start % (I.stride : Int)) (J.start % (J.stride : Int)) := by
  have hgl : ((Nat.gcd I.stride J.stride : Nat) : Int) ∣ (I.stride : Int) :=
    Int.natCast_dvd_natCast.mpr (Nat.gcd_dvd_left _ _)
  have hgr : ((Nat.gcd I.stride J.stride : Nat) : Int) ∣ (J.stride : Int) :=
    Int.natCast_dvd_natCast.mpr (Nat.gcd_dvd_right _ _)
  rw [← Int.emod_emod_of_dvd I.start hgl, ← Int.emod_emod_of_dvd J.start hgr,
    ← trem_of_nonneg (Int.emod_nonneg _ (Int.natCast_ne_zero.mpr hsI)),
    ← trem_of_nonneg (Int.emod_nonneg _ (Int.natCast_ne_zero.mpr hsJ)), ← extendedGcd_fst,
    computeIntersectionResidueClass, if_neg (fun h => hsI h.1), if_neg hsI, if_neg hsJ]
  rfl

/-- **C04-crt-total.** `compute_intersection_residue_class` for two positive strides whose least common
multiple fits into a `u64`: the computation never answers `Err("Integer overflow …")`. It answers
`Ok(None)` exactly when the start values differ modulo the gcd of the strides, and otherwise
`Ok(Some((lcm, rc)))` with `rc < lcm` congruent to the left start modulo the left stride and to the right
start modulo the right stride. (All `i128` operations are modelled with wrap; the proof shows that none
of them wraps and that the candidate passes the code's verification.) -/
theorem residueClass_total (I J : Interval) (hI : I.WF) (hJ : J.WF) (hsI : I.stride ≠ 0) (hsJ : J.stride ≠ 0)
    (hL : Nat.lcm I.stride J.stride < 2 ^ 64) :
    (computeIntersectionResidueClass I J = .empty ∧
      I.start % ((Nat.gcd I.stride J.stride : Nat) : Int) ≠ J.start % ((Nat.gcd I.stride J.stride : Nat) : Int)) ∨
    (∃ rc : Nat, computeIntersectionResidueClass I J = .some (Nat.lcm I.stride J.stride) rc ∧
      rc < Nat.lcm I.stride J.stride ∧ (I.stride : Int) ∣ I.start - rc ∧ (J.stride : Int) ∣ J.start - rc) := by
  rw [residueClass_gcd_test I J hsI hsJ]
  by_cases hcong : I.start % ((Nat.gcd I.stride J.stride : Nat) : Int)
      = J.start % ((Nat.gcd I.stride J.stride : Nat) : Int)
  · right
    have hIu : (I.stride : Int) < 2 ^ 64 := by exact_mod_cast hI.2.2.2.2.2.2
    have hJu : (J.stride : Int) < 2 ^ 64 := by exact_mod_cast hJ.2.2.2.2.2.2
    have hL64 : ((Nat.lcm I.stride J.stride : Nat) : Int) < 2 ^ 64 := by exact_mod_cast hL
    have hsI' := Nat.pos_of_ne_zero hsI
    have hsJ' := Nat.pos_of_ne_zero hsJ
    have hslp : (0 : Int) < (I.stride : Int) := Int.natCast_pos.mpr hsI'
    have hsrp : (0 : Int) < (J.stride : Int) := Int.natCast_pos.mpr hsJ'
    have hg := one_le_gcd J.stride hsI
    obtain ⟨li, ri, hE, hbez, hbd⟩ := extendedGcd_spec I.stride J.stride hsI' hsJ' hI.2.2.2.2.2.2 hJ.2.2.2.2.2.2
    obtain ⟨p, q, hp, hq, hsl, hsr, hLpq⟩ := gcd_factor hsI' hsJ'
    have heq : I.start % (I.stride : Int) % ((Nat.gcd I.stride J.stride : Nat) : Int)
        = J.start % (J.stride : Int) % ((Nat.gcd I.stride J.stride : Nat) : Int) := by
      rw [Int.emod_emod_of_dvd _ ⟨p, hsl⟩, Int.emod_emod_of_dvd _ ⟨q, hsr⟩, hcong]
    obtain ⟨rc, hres, hrc0, hrc1, c4, c5⟩ := crtTail_eval _ _ _ p q _ li ri _ _ hg hp hq hsl hsr hLpq hL64 hIu hJu
      hbez hbd (Int.emod_nonneg I.start (Int.ne_of_gt hslp)) (Int.emod_lt_of_pos _ hslp)
      (Int.emod_nonneg J.start (Int.ne_of_gt hsrp)) (Int.emod_lt_of_pos _ hsrp) heq
      (by rw [tquot_gcd_mul]; exact i128_of_small (by omega) (by omega))
      (Int.natCast_dvd_natCast.mpr (Nat.dvd_lcm_left _ _)) (Int.natCast_dvd_natCast.mpr (Nat.dvd_lcm_right _ _))
    have hrc : (toU 64 rc : Int) = rc := toU_of_nonneg_lt 64 hrc0 (Int.lt_trans hrc1 hL64)
    have hLu : toU 64 ((Nat.lcm I.stride J.stride : Nat) : Int) = Nat.lcm I.stride J.stride :=
      Int.ofNat_inj.mp (toU_of_nonneg_lt 64 (Int.natCast_nonneg _) hL64)
    rw [if_neg (fun h => h hcong), hE, hres, hLu]
    rw [← hrc] at hrc1 c4 c5
    exact ⟨toU 64 rc, rfl, Int.ofNat_lt.mp hrc1, dvd_sub_of_emod c4, dvd_sub_of_emod c5⟩
  · exact .inl ⟨if_pos hcong, hcong⟩

theorem i128_of_big {z : Int} (h1 : 2 ^ 127 ≤ z) (h2 : z < 2 ^ 128) : i128 z = z - 2 ^ 128 := by
  rcases wrap_cases 128 (by decide) z (Int.le_trans (by decide) h1) (Int.le_trans (Int.le_of_lt h2) (by decide)) with
    ⟨hr, _⟩ | ⟨_, h⟩ | ⟨hr, _⟩
  · exact absurd (Int.lt_of_le_sub_one hr.2) (Int.not_lt.mpr h1)
  · exact h
  · exact absurd (Int.lt_of_lt_of_le hr (by decide)) (Int.not_lt.mpr h1)

/-- of two divisors of a power of two, one divides the other: after division by their gcd they are coprime
divisors, and an even one leaves only `1` for the other -/
theorem dvd_or_dvd_of_dvd_two_pow {n a b : Nat} (h1 : a ∣ 2 ^ n) (h2 : b ∣ 2 ^ n) : a ∣ b ∨ b ∣ a := by
  obtain ⟨a', b', hco, ha, hb⟩ := Nat.exists_coprime a b
  have one : ∀ {c d : Nat}, Nat.Coprime c d → 2 ∣ c → d ∣ 2 ^ n → d = 1 := fun hcd hc hd =>
    ((hcd.coprime_dvd_left hc).pow_left n).symm.eq_one_of_dvd hd
  by_cases h : 2 ∣ a'
  · have := one hco h (Nat.dvd_trans ⟨_, hb⟩ h2)
    rw [this, Nat.one_mul] at hb
    exact .inr (hb ▸ Nat.gcd_dvd_left a b)
  · have hodd : Nat.Coprime 2 a' := by
      rw [Nat.coprime_iff_gcd_eq_one, Nat.gcd_rec, show a' % 2 = 1 by omega]; rfl
    have := one hodd (Nat.dvd_refl 2) (Nat.dvd_trans ⟨_, ha⟩ h1)
    rw [this, Nat.one_mul] at ha
    exact .inl (ha ▸ Nat.gcd_dvd_right a b)

theorem crtTail_err (sl sr g li ri bl br : Int)
    (h : ¬ (i128 (tquot sl g * sr) ≤ 2 ^ 64 - 1 ∧ trem (i128 (tquot sl g * sr)) sl = 0 ∧
      trem (i128 (tquot sl g * sr)) sr = 0)) :
    crtTail sl sr g li ri bl br = .err :=
  if_neg fun ⟨a, b, c, _⟩ => h ⟨a, b, c⟩

/-- **C04-crt-gives-up.** If the start values agree modulo the gcd of the (positive) strides and the lcm
of the strides exceeds `u64::MAX`, `compute_intersection_residue_class` answers
`Err("Integer overflow …")` — also when the `i128` product `(stride_left / gcd) * stride_right` wraps
(then it would have to be divisible by both strides, which forces both to be powers of two). -/
theorem residueClass_err_of_big (I J : Interval) (hI : I.WF) (hJ : J.WF) (hsI : I.stride ≠ 0) (hsJ : J.stride ≠ 0)
    (hL : 2 ^ 64 ≤ Nat.lcm I.stride J.stride)
    (hcong : I.start % ((Nat.gcd I.stride J.stride : Nat) : Int)
      = J.start % ((Nat.gcd I.stride J.stride : Nat) : Int)) :
    computeIntersectionResidueClass I J = .err := by
  have hIu := hI.2.2.2.2.2.2
  have hJu := hJ.2.2.2.2.2.2
  rw [residueClass_gcd_test I J hsI hsJ, if_neg (fun h => h hcong)]
  apply crtTail_err
  rw [tquot_gcd_mul]
  have hlt : Nat.lcm I.stride J.stride < 2 ^ 64 * 2 ^ 64 :=
    Nat.lt_of_le_of_lt (Nat.lcm_le_mul (Nat.pos_of_ne_zero hsI) (Nat.pos_of_ne_zero hsJ)) (Nat.mul_lt_mul'' hIu hJu)
  by_cases hsmall : ((Nat.lcm I.stride J.stride : Nat) : Int) < 2 ^ 127
  · rw [i128_of_small (by omega) hsmall]
    omega
  · rw [i128_of_big (by omega) (by omega)]
    rintro ⟨_, c2, c3⟩
    -- the strides divide the lcm and the wrapped value `lcm - 2^128`, hence `2^128`
    have two_pow : ∀ {s : Nat}, s ∣ Nat.lcm I.stride J.stride →
        trem (((Nat.lcm I.stride J.stride : Nat) : Int) - 2 ^ 128) s = 0 → s ∣ 2 ^ 128 := by
      intro s hs hc
      have := Int.dvd_sub (Int.natCast_dvd_natCast.mpr hs) (Int.dvd_of_tmod_eq_zero hc)
      rw [Int.sub_sub_self] at this
      exact Int.natCast_dvd_natCast.mp (by exact_mod_cast this)
    rcases dvd_or_dvd_of_dvd_two_pow (two_pow (Nat.dvd_lcm_left _ _) c2) (two_pow (Nat.dvd_lcm_right _ _) c3)
      with h | h
    · rw [Nat.lcm_eq_right h] at hL; omega
    · rw [Nat.lcm_eq_left h] at hL; omega

/-- **C04-crt-err-iff.** For two positive strides, `compute_intersection_residue_class` answers
`Err("Integer overflow …")` exactly when the residue classes meet (start values congruent modulo the gcd)
but the stride of the intersection, the lcm, exceeds `u64::MAX`. -/
theorem residueClass_err_iff (I J : Interval) (hI : I.WF) (hJ : J.WF) (hsI : I.stride ≠ 0) (hsJ : J.stride ≠ 0) :
    computeIntersectionResidueClass I J = .err ↔
      (I.start % ((Nat.gcd I.stride J.stride : Nat) : Int) = J.start % ((Nat.gcd I.stride J.stride : Nat) : Int) ∧
        2 ^ 64 ≤ Nat.lcm I.stride J.stride) := by
  constructor
  · intro herr
    constructor
    · apply Decidable.byContradiction
      intro hn
      rw [residueClass_gcd_test I J hsI hsJ, if_pos hn] at herr
      cases herr
    · apply Decidable.byContradiction
      intro hn
      rcases residueClass_total I J hI hJ hsI hsJ (by omega) with ⟨h, _⟩ | ⟨rc, h, _⟩ <;>
        (rw [h] at herr; cases herr)
  · rintro ⟨hc, hL⟩
    exact residueClass_err_of_big I J hI hJ hsI hsJ hL hc

end CweModel.C04
