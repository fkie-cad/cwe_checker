/-
C04 — `intersect`: every common member of two values is a member of the intersection, for ALL operands.

`Crt` (the chinese-remainder computation cannot overflow and passes the code's own verification whenever
`lcm(strides) ≤ u64::MAX`) and `Wide` (otherwise `compute_unique_common_value` finds the only possible common value)
are combined with `adjust_to_stride_and_remainder` (its exact value set, C02 `mem_adjust`) into one theorem per
function, `signedIntersect_keeps` and `intersect_keeps`: "unsatisfiable" only without a common member, otherwise a
well-formed result of the same width that contains every common member. `signedIntersect_spec`, `intersect_sound`
and `intersect_none_no_common` are readings of them.
-/
import CweModel.C04.Wide
import CweModel.C04.Keeps
import CweModel.C02.Count

namespace CweModel.C04
open CweModel.Itv CweModel.C02 CweModel.C03

theorem residueOfSingle_outcome (x : Int) (J : Interval) (hJ : J.WF) (hw64 : J.w ≤ 64) (hst : J.stride ≠ 0)
    (hx : InRange J.w x) :
    (residueOfSingle x J = .empty ∧ ¬ J.Mem x) ∨
    ∃ rem : Nat, residueOfSingle x J = .some J.stride rem ∧ (J.stride : Int) ∣ J.start - rem := by
  obtain ⟨hw0, hJs, hJe, hle, h0, hd, hu⟩ := hJ
  have hn : (0 : Int) < (J.stride : Int) := Int.natCast_pos.mpr (Nat.pos_of_ne_zero hst)
  have hu' : ((J.stride : Nat) : Int) < 2 ^ 64 := by exact_mod_cast hu
  have e1 : toU 64 (J.stride : Int) = J.stride := Int.ofNat_inj.mp (toU_of_nonneg_lt 64 (Int.le_of_lt hn) hu')
  unfold residueOfSingle
  by_cases hc : J.contains x = true
  · refine .inr ⟨toU 64 (J.start % (J.stride : Int)), ?_, ?_⟩
    · rw [if_pos hc, tryToI128_inRange hw0 hw64 hJs]
      simp only [trem_fix _ _ hn, e1]
    · rw [toU_of_nonneg_lt 64 (Int.emod_nonneg _ (Int.ne_of_gt hn)) (Int.lt_trans (Int.emod_lt_of_pos _ hn) hu')]
      exact Int.dvd_self_sub_emod
  · exact .inl ⟨if_neg hc, fun hm => hc ((contains_iff_mem J hw0 hw64 hJs hle hx).mpr hm)⟩

/-- the single-value case of `compute_intersection_residue_class` -/
theorem residueOfSingle_spec (x : Int) (J : Interval) (hJ : J.WF) (hw64 : J.w ≤ 64) (hst : J.stride ≠ 0)
    (hx : J.Mem x) :
    ∃ rem : Nat, residueOfSingle x J = .some J.stride rem ∧ (J.stride : Int) ∣ x - rem := by
  rcases residueOfSingle_outcome x J hJ hw64 hst (Interval.mem_inRange hJ hx) with ⟨-, hno⟩ | ⟨rem, e, hd⟩
  · exact absurd hx hno
  · exact ⟨rem, e, dvd_sub_trans hx.2.2 hd⟩

theorem residueClass_single_left {I J : Interval} (hI : I.stride = 0) (hJ : J.stride ≠ 0) :
    computeIntersectionResidueClass I J = residueOfSingle I.start J := by
  rw [computeIntersectionResidueClass, if_neg (fun h => hJ h.2), if_pos hI]

theorem residueClass_single_right {I J : Interval} (hI : I.stride ≠ 0) (hJ : J.stride = 0) :
    computeIntersectionResidueClass I J = residueOfSingle J.start I := by
  rw [computeIntersectionResidueClass, if_neg (fun h => hI h.1), if_neg hI, if_pos hJ]

theorem lcm_dvd_int {s t : Nat} {z : Int} (h1 : (s : Int) ∣ z) (h2 : (t : Int) ∣ z) :
    ((Nat.lcm s t : Nat) : Int) ∣ z := by
  rw [← Int.natAbs_dvd_natAbs] at h1 h2
  simp only [Int.natAbs_natCast] at h1 h2
  have := Nat.lcm_dvd h1 h2
  rw [← Int.natAbs_dvd_natAbs]
  simpa using this

theorem cong_of_common (I J : Interval) {x : Int} (hxI : I.Mem x) (hxJ : J.Mem x) :
    I.start % ((Nat.gcd I.stride J.stride : Nat) : Int) = J.start % ((Nat.gcd I.stride J.stride : Nat) : Int) :=
  (emod_eq_of_dvd_sub (Int.dvd_trans (Int.natCast_dvd_natCast.mpr (Nat.gcd_dvd_left _ _)) hxI.2.2)).symm.trans
    (emod_eq_of_dvd_sub (Int.dvd_trans (Int.natCast_dvd_natCast.mpr (Nat.gcd_dvd_right _ _)) hxJ.2.2))

theorem eq_start_of_stride_zero {I : Interval} (h0 : I.stride = 0) {x : Int} (hx : I.Mem x) : x = I.start :=
  ((I.mem_iff x).mp hx).2.2.1 h0

theorem residueClass_outcome (I J : Interval) (hI : I.WF) (hJ : J.WF) (hw : J.w = I.w) (hw64 : I.w ≤ 64)
    (hnz : ¬ (I.stride = 0 ∧ J.stride = 0)) (hL : Nat.lcm I.stride J.stride < 2 ^ 64) :
    (computeIntersectionResidueClass I J = .empty ∧ ∀ x, I.Mem x → ¬ J.Mem x) ∨
    ∃ st rem : Nat, computeIntersectionResidueClass I J = .some st rem ∧ 0 < st ∧ st < 2 ^ 64 ∧
      ∀ x, I.Mem x → J.Mem x → (st : Int) ∣ x - rem := by
  by_cases hsI : I.stride = 0
  · -- a common member is the single value of `I`
    have hsJ : J.stride ≠ 0 := fun h => hnz ⟨hsI, h⟩
    rw [residueClass_single_left hsI hsJ]
    rcases residueOfSingle_outcome I.start J hJ (hw ▸ hw64) hsJ (hw ▸ hI.start_inRange) with ⟨e, hno⟩ | ⟨rem, e, hd⟩
    · exact .inl ⟨e, fun x hxI hxJ => hno (eq_start_of_stride_zero hsI hxI ▸ hxJ)⟩
    · exact .inr ⟨_, rem, e, Nat.pos_of_ne_zero hsJ, hJ.stride_lt, fun x _ hxJ => dvd_sub_trans hxJ.2.2 hd⟩
  · by_cases hsJ : J.stride = 0
    · rw [residueClass_single_right hsI hsJ]
      rcases residueOfSingle_outcome J.start I hI hw64 hsI (hw ▸ hJ.start_inRange) with ⟨e, hno⟩ | ⟨rem, e, hd⟩
      · exact .inl ⟨e, fun x hxI hxJ => hno (eq_start_of_stride_zero hsJ hxJ ▸ hxI)⟩
      · exact .inr ⟨_, rem, e, Nat.pos_of_ne_zero hsI, hI.stride_lt, fun x hxI _ => dvd_sub_trans hxI.2.2 hd⟩
    · rcases residueClass_total I J hI hJ hsI hsJ hL with ⟨e, hne⟩ | ⟨rc, e, _, d1, d2⟩
      · exact .inl ⟨e, fun x hxI hxJ => hne (cong_of_common I J hxI hxJ)⟩
      · exact .inr ⟨_, rc, e, Nat.lcm_pos (Nat.pos_of_ne_zero hsI) (Nat.pos_of_ne_zero hsJ), hL, fun x hxI hxJ =>
          lcm_dvd_int (dvd_sub_trans hxI.2.2 d1) (dvd_sub_trans hxJ.2.2 d2)⟩

theorem smax2_spec (a b : Int) : Interval.smax2 a b = max a b := by
  unfold Interval.smax2; split <;> omega

theorem smin2_spec (a b : Int) : Interval.smin2 a b = min a b := by
  unfold Interval.smin2; split <;> omega

theorem inRange_max_min {I J : Interval} (hI : I.WF) (hJ : J.WF) (hw : J.w = I.w) :
    InRange I.w (max I.start J.start) ∧ InRange I.w (min I.stop J.stop) := by
  obtain ⟨_, hIs, hIe, _⟩ := hI
  obtain ⟨_, hJs, hJe, _⟩ := hJ
  rw [hw] at hJs hJe
  constructor
  · rw [Int.max_def]; split <;> assumption
  · rw [Int.min_def]; split <;> assumption

theorem adjustToStrideAndRemainder_w {I r : Interval} {st rm : Nat} (h : I.adjustToStrideAndRemainder st rm = some r) :
    r.w = I.w := by
  unfold Interval.adjustToStrideAndRemainder at h
  by_cases hw : I.w > 64
  · rw [if_pos hw] at h; cases h; rfl
  · rw [if_neg hw] at h
    simp only at h
    split at h
    · cases h
    · cases h; rfl

theorem signedIntersect_w {I J r : Interval} (h : I.signedIntersect J = some r) : r.w = I.w := by
  unfold Interval.signedIntersect at h
  extract_lets s e at h
  by_cases h1 : I.stride = 0 ∧ J.stride = 0
  · rw [if_pos h1] at h; exact (ite_some h).2 ▸ rfl
  rw [if_neg h1] at h
  by_cases h2 : I.w > 64
  · rw [if_pos h2] at h; exact (ite_some h).2 ▸ rfl
  rw [if_neg h2] at h
  by_cases h3 : I.stride / Nat.gcd I.stride J.stride * J.stride > 2 ^ 64 - 1
  · rw [if_pos h3] at h
    split at h
    · split at h
      · exact (ite_some h).2 ▸ rfl
      · cases h
    · cases h
  · rw [if_neg h3] at h
    split at h
    · exact (adjustToStrideAndRemainder_w h :)
    · cases h

theorem intersect_interval (a b r : IntervalDomain) (h : a.intersect b = some r) :
    a.interval.signedIntersect b.interval = some r.interval := by
  unfold IntervalDomain.intersect at h
  split at h
  · cases h
  · rename_i I hI
    simp only at h
    rw [hI]
    split at h
    · cases h
      simp only [updateUpper_interval, updateLower_interval]; rfl
    · cases h
      simp only [updateUpper_interval, updateLower_interval]; rfl

theorem intersect_w {a b r : IntervalDomain} (h : a.intersect b = some r) : r.interval.w = a.interval.w :=
  signedIntersect_w (intersect_interval a b r h)

/-- What `signed_intersect` answers on two well-formed intervals of one width, whatever
their strides: "empty" only if they share no value; otherwise a well-formed interval of that width that contains every
common member. -/
theorem signedIntersect_keeps (I J : Interval) (hI : I.WF) (hJ : J.WF) (hw : J.w = I.w) :
    Keeps Interval.Mem (fun r => r.WF ∧ r.w = I.w) (fun x => I.Mem x ∧ J.Mem x) (I.signedIntersect J) := by
  have hw0 := hI.1
  obtain ⟨hsr, her⟩ := inRange_max_min hI hJ hw
  have hb : ∀ x, I.Mem x ∧ J.Mem x → max I.start J.start ≤ x ∧ x ≤ min I.stop J.stop := fun x hx =>
    ⟨Int.max_le.mpr ⟨hx.1.1, hx.2.1⟩, Int.le_min.mpr ⟨hx.1.2.1, hx.2.2.1⟩⟩
  have h00 : I.stride = 0 ∧ J.stride = 0 → ∀ x, I.Mem x ∧ J.Mem x → max I.start J.start = min I.stop J.stop :=
    fun hz x hx => by
      have := hI.2.2.2.2.1.mp hz.1; have := hJ.2.2.2.2.1.mp hz.2; have := hb x hx; omega
  simp only [Interval.signedIntersect, smax2_spec, smin2_spec, div_gcd_mul]
  generalize max I.start J.start = s at *
  generalize min I.stop J.stop = e at *
  by_cases hz : I.stride = 0 ∧ J.stride = 0
  · rw [if_pos hz]
    exact .ite (h00 hz) fun hse => ⟨⟨hse ▸ Interval.wf_single I.w hw0 s hsr, rfl⟩, fun x hx =>
      ⟨(hb x hx).1, (hb x hx).2, by rw [show x - s = 0 by have := hb x hx; omega]; exact Int.dvd_refl _⟩⟩
  rw [if_neg hz]
  by_cases hw64 : I.w > 64
  · rw [if_pos hw64]
    exact .ite (fun x hx => Int.le_trans (hb x hx).1 (hb x hx).2) fun hse =>
      ⟨⟨Interval.wf_ifStride hw0 hsr her hse Nat.one_pos (by decide) (Int.one_dvd _), rfl⟩, fun x hx =>
        Interval.mem_ifStride.mpr ⟨(hb x hx).1, (hb x hx).2, Int.one_dvd _⟩⟩
  have hw64' : I.w ≤ 64 := Nat.le_of_not_gt hw64
  rw [if_neg hw64]
  by_cases hL : Nat.lcm I.stride J.stride > 2 ^ 64 - 1
  · -- at most one common value, and `compute_unique_common_value` finds it
    have hsI : I.stride ≠ 0 := fun h => by rw [h, Nat.lcm_zero_left] at hL; omega
    have hsJ : J.stride ≠ 0 := fun h => by rw [h, Nat.lcm_zero_right] at hL; omega
    have hu : ∀ x, I.Mem x ∧ J.Mem x → computeUniqueCommonValue I J = some x := fun x hx =>
      uniqueCommon_complete I J hI hJ hw hw64' hsI hsJ (by omega) hx.1 hx.2
    rw [if_pos hL, tryToI128_inRange hw0 hw64' hsr, tryToI128_inRange hw0 hw64' her]
    cases hv : computeUniqueCommonValue I J with
    | none => exact fun x hx => by rw [hu x hx] at hv; cases hv
    | some v =>
      have hxv : ∀ x, I.Mem x ∧ J.Mem x → x = v := fun x hx => Option.some.inj ((hu x hx).symm.trans hv)
      exact .ite (fun x hx => hxv x hx ▸ hb x hx) fun _ =>
        ⟨⟨Interval.wf_single I.w hw0 _ (wrap_inRange I.w hw0 _), rfl⟩, fun x hx => by
          rw [← hxv x hx, wrap_of_inRange I.w hw0 (Interval.mem_inRange hI hx.1)]
          exact (Interval.mem_single _ _ _).mpr rfl⟩
  · rw [if_neg hL]
    rcases residueClass_outcome I J hI hJ hw hw64' hz (by omega) with ⟨e', hno⟩ | ⟨st, rem, e', h1, h2, hd⟩
    · rw [e']; exact fun x hx => hno x hx.1 hx.2
    · rw [e']
      show Keeps _ _ _ (Interval.adjustToStrideAndRemainder ⟨I.w, s, e, st⟩ st rem)
      cases hr : Interval.adjustToStrideAndRemainder ⟨I.w, s, e, st⟩ st rem with
      | none => exact fun x hx => adjust_none (I := ⟨I.w, s, e, st⟩) hw0 hw64' hsr her h1 hr (hb x hx).1 (hb x hx).2 (hd x hx.1 hx.2)
      | some r =>
        obtain ⟨m1, m2, m3⟩ := mem_adjust (I := ⟨I.w, s, e, st⟩) hw0 hw64' hsr her h1 h2 hr
        exact ⟨⟨m1, m2⟩, fun x hx => (m3 x).mpr ⟨(hb x hx).1, (hb x hx).2, hd x hx.1 hx.2⟩⟩

/-- **C04-intersect (intervals).** Every common member of two well-formed intervals of the same width is
a member of `signed_intersect`, which in particular does not report "empty". No restriction on the
strides: if their lcm fits a `u64` the chinese-remainder path is taken (`residueClass_total`), otherwise
the intervals share at most one value and `compute_unique_common_value` finds it
(`uniqueCommon_complete`). -/
theorem signedIntersect_spec (I J : Interval) (hI : I.WF) (hJ : J.WF) (hw : J.w = I.w)
    {x : Int} (hxI : I.Mem x) (hxJ : J.Mem x) :
    ∃ r, I.signedIntersect J = some r ∧ r.Mem x ∧ r.WF ∧ r.w = I.w := by
  have h := signedIntersect_keeps I J hI hJ hw
  obtain ⟨r, e, hm⟩ := h.sound ⟨hxI, hxJ⟩
  exact ⟨r, e, hm, h.of_some e⟩

/-- What `intersect` answers on two well-formed values of one width (any width, any strides): "unsatisfiable" only if
they share no value, otherwise a well-formed value of that width that contains every common member. -/
theorem intersect_keeps (a b : IntervalDomain) (ha : a.WF) (hb : b.WF) (hw : b.interval.w = a.interval.w) :
    Keeps IntervalDomain.Mem (fun r => r.WF ∧ r.interval.w = a.interval.w) (fun x => a.Mem x ∧ b.Mem x)
      (a.intersect b) := by
  have hk := signedIntersect_keeps a.interval b.interval ha.1 hb.1 hw
  unfold IntervalDomain.intersect
  cases hI : a.interval.signedIntersect b.interval with
  | none => rw [hI] at hk; exact hk
  | some I =>
    rw [hI] at hk
    obtain ⟨⟨hIwf, hIw⟩, hmem⟩ := hk
    have h4 := HintInv.ofOperands ha hb hw hIw
    simp only
    generalize ((((IntervalDomain.ofInterval I).updateLower a.lower).updateLower b.lower).updateUpper
      a.upper).updateUpper b.upper = m at *
    obtain ⟨rfl, -, hH⟩ := h4
    -- whatever the delay `d < 2^64` is set to
    have hd : ∀ d, d < 2 ^ 64 → Keeps IntervalDomain.Mem (fun r => r.WF ∧ r.interval.w = a.interval.w)
        (fun x => a.Mem x ∧ b.Mem x) (some { m with delay := d }) := fun d hd =>
      ⟨⟨⟨hIwf, fun u hu => (hH.2 u hu).2, fun l hl => (hH.1 l hl).2, hd⟩, hIw⟩, hmem⟩
    have hmax : max a.delay b.delay < 2 ^ 64 := Nat.max_lt.mpr ⟨ha.2.2.2, hb.2.2.2⟩
    split
    · exact hd _ (Nat.lt_of_le_of_lt (Nat.min_le_left _ _) hmax)
    · exact hd _ hmax

/-- **C04-intersect.** Every concrete value represented by both operands is represented by the
intersection, for ALL well-formed operands of equal width (any strides). The residue computation
(`extended_gcd`, chinese remainder in `i128`) is proved not to overflow and not to give up when the lcm
of the strides fits a `u64`; beyond that the unique common value is computed in `u128`. -/
theorem intersect_sound (a b : IntervalDomain) (ha : a.WF) (hb : b.WF) (hw : b.interval.w = a.interval.w)
    {x : Int} (hxa : a.Mem x) (hxb : b.Mem x) : ∃ r, a.intersect b = some r ∧ r.Mem x :=
  (intersect_keeps a b ha hb hw).sound ⟨hxa, hxb⟩

/-- **C04-intersect-unsat.** `intersect` reports "unsatisfiable" only when the operands share no concrete
value. -/
theorem intersect_none_no_common (a b : IntervalDomain) (ha : a.WF) (hb : b.WF) (hw : b.interval.w = a.interval.w)
    (hnone : a.intersect b = none) : ¬ ∃ x, a.Mem x ∧ b.Mem x :=
  fun ⟨x, hx⟩ => (intersect_keeps a b ha hb hw).of_none hnone x hx

/-! ### non-vacuity -/

/-- `[45, stride 8, 69]` ∩ `[-116, stride 7, 101]` (the witness of defect D10) -/
def exI : IntervalDomain := ⟨⟨8, 45, 69, 8⟩, none, none, 0⟩
def exJ : IntervalDomain := ⟨⟨8, -116, 101, 7⟩, none, none, 0⟩

example : ∃ r, exI.intersect exJ = some r ∧ r.Mem 45 :=
  intersect_sound exI exJ
    ⟨by decide, (by intro u h; cases h), (by intro l h; cases h), by decide⟩
    ⟨by decide, (by intro u h; cases h), (by intro l h; cases h), by decide⟩ rfl
    (x := 45) (by decide) (by decide)

/-- the witness of the known finding: `{4, 4 + 2313877300527753421, …}` ∩ `{4, 4 + 1610612736}` (8 byte) -/
def exK : IntervalDomain := ⟨⟨64, 4, 4 + 2313877300527753421 * 3, 2313877300527753421⟩, none, none, 0⟩
def exM : IntervalDomain := ⟨⟨64, 4, 4 + 1610612736, 1610612736⟩, none, none, 0⟩

example : ∃ r, exK.intersect exM = some r ∧ r.Mem 4 :=
  intersect_sound exK exM
    ⟨by decide, (by intro u h; cases h), (by intro l h; cases h), by decide⟩
    ⟨by decide, (by intro u h; cases h), (by intro l h; cases h), by decide⟩ rfl
    (x := 4) (by decide) (by decide)

example : exI.intersect exJ = some ⟨⟨8, 45, 45, 0⟩, none, none, 0⟩ := by decide

end CweModel.C04
