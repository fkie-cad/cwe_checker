/-
C06 — property theorems. Statement of the property:

  For the brick-sequence and character-inclusion string domains, normalizing a value does not
  change the set of strings it represents, appending two values represents every concatenation
  of their members, and merging two values represents every member of either input.

All theorems are about the model in `Model.lean` (of the repaired code, see there) and hold for
ALL values: arbitrary alphabets, string sets, list lengths and bounds (the merge and widen theorems
for well-formed operands, `WF`).
-/
import CweModel.C06.Model
namespace CweModel.C06

theorem mem_insBy {α} [DecidableEq α] (lt : α → α → Bool) (x a : α) (l : List α) :
    a ∈ insBy lt x l ↔ a = x ∨ a ∈ l := by
  induction l with
  | nil => simp [insBy]
  | cons y ys ih =>
    rw [insBy]
    split
    · subst_vars; simp
    · split <;> simp [ih, or_left_comm]

theorem mem_canonBy {α} [DecidableEq α] (lt : α → α → Bool) (a : α) (l : List α) :
    a ∈ canonBy lt l ↔ a ∈ l := by
  induction l with
  | nil => simp [canonBy]
  | cons x xs ih => exact (mem_insBy lt x a (canonBy lt xs)).trans (by rw [ih, List.mem_cons])

theorem mem_canon (a : Str) (l : List Str) : a ∈ canon l ↔ a ∈ l := mem_canonBy _ _ _
theorem mem_canonC (a : Char) (l : List Char) : a ∈ canonC l ↔ a ∈ l := mem_canonBy _ _ _

theorem reps_zero {S : List Str} {u : Str} : Reps S 0 u ↔ u = [] :=
  ⟨fun h => by cases h; rfl, fun h => h ▸ .zero⟩

theorem reps_succ {S : List Str} {n : Nat} {u : Str} :
    Reps S (n + 1) u ↔ ∃ s t, u = s ++ t ∧ Reps S n s ∧ t ∈ S :=
  ⟨fun h => by cases h with | succ h1 h2 => exact ⟨_, _, rfl, h1, h2⟩,
   fun ⟨_, _, hu, h1, h2⟩ => hu ▸ .succ h1 h2⟩

theorem reps_one {S : List Str} {t : Str} : Reps S 1 t ↔ t ∈ S :=
  ⟨fun h => by obtain ⟨s, u, rfl, h1, h2⟩ := reps_succ.mp h; rwa [reps_zero.mp h1],
   fun h => .succ .zero h⟩

theorem Reps.append {S : List Str} {j k : Nat} {s t : Str} (h1 : Reps S j s) (h2 : Reps S k t) :
    Reps S (j + k) (s ++ t) := by
  induction h2 with
  | zero => simpa using h1
  | succ _ hm ih => rw [← List.append_assoc, ← Nat.add_assoc]; exact .succ ih hm

theorem Reps.split {S : List Str} {j k : Nat} {u : Str} (h : Reps S (j + k) u) :
    ∃ s t, u = s ++ t ∧ Reps S j s ∧ Reps S k t := by
  induction k generalizing u with
  | zero => exact ⟨u, [], by simp, h, .zero⟩
  | succ k ih =>
    obtain ⟨s', t', rfl, h1, h2⟩ := reps_succ.mp h
    obtain ⟨s, t, rfl, hs, ht⟩ := ih h1
    exact ⟨s, t ++ t', by simp, hs, .succ ht h2⟩

theorem Reps.mono {S S' : List Str} (hs : ∀ t ∈ S, t ∈ S') {k : Nat} {s : Str} (h : Reps S k s) :
    Reps S' k s := by
  induction h with
  | zero => exact .zero
  | succ _ hm ih => exact .succ ih (hs _ hm)

theorem Reps.exists_of_mem {S : List Str} {t : Str} (ht : t ∈ S) (k : Nat) : ∃ s, Reps S k s := by
  induction k with
  | zero => exact ⟨[], .zero⟩
  | succ k ih => obtain ⟨s, hs⟩ := ih; exact ⟨s ++ t, .succ hs ht⟩

theorem Brick.lang_exact {b : Brick} {n : Nat} (h1 : b.min = n) (h2 : b.max = n) (s : Str) :
    b.lang s ↔ Reps b.seq n s :=
  ⟨fun ⟨_, hk1, hk2, hr⟩ => Nat.le_antisymm (h2 ▸ hk2) (h1 ▸ hk1) ▸ hr,
   fun hr => ⟨n, Nat.le_of_eq h1, Nat.le_of_eq h2.symm, hr⟩⟩

theorem lang_of_isEmptyString {b : Brick} (h : b.isEmptyString = true) (s : Str) :
    b.lang s ↔ s = [] := by
  simp only [Brick.isEmptyString, Bool.and_eq_true, decide_eq_true_eq] at h
  exact (Brick.lang_exact h.1.2 h.2 s).trans reps_zero

theorem emptyBD_lang (s : Str) : emptyBD.lang s ↔ s = [] :=
  lang_of_isEmptyString (b := Brick.empty) rfl s

theorem lang_one_one (S : List Str) (s : Str) : (Brick.mk S 1 1).lang s ↔ s ∈ S :=
  (Brick.lang_exact rfl rfl s).trans reps_one

theorem Brick.lang_add (S : List Str) {m₁ M₁ m₂ M₂ : Nat} (h₁ : m₁ ≤ M₁) (h₂ : m₂ ≤ M₂) (s : Str) :
    (∃ u v, s = u ++ v ∧ (Brick.mk S m₁ M₁).lang u ∧ (Brick.mk S m₂ M₂).lang v)
      ↔ (Brick.mk S (m₁ + m₂) (M₁ + M₂)).lang s := by
  constructor
  · rintro ⟨u, v, rfl, ⟨k₁, hl₁, hu₁, hr₁⟩, ⟨k₂, hl₂, hu₂, hr₂⟩⟩
    exact ⟨k₁ + k₂, Nat.add_le_add hl₁ hl₂, Nat.add_le_add hu₁ hu₂, hr₁.append hr₂⟩
  · rintro ⟨k, hk₁, hk₂, hr⟩
    simp only at hk₁ hk₂
    obtain ⟨j, i, rfl, hj₁, hj₂, hi₁, hi₂⟩ : ∃ j i, j + i = k ∧ m₁ ≤ j ∧ j ≤ M₁ ∧ m₂ ≤ i ∧ i ≤ M₂ := by
      by_cases h : k ≤ M₁ + m₂
      · exact ⟨k - m₂, m₂, Nat.sub_add_cancel (Nat.le_trans (Nat.le_add_left ..) hk₁),
          Nat.le_sub_of_add_le hk₁, Nat.sub_le_of_le_add h, Nat.le_refl _, h₂⟩
      · have h := Nat.le_of_lt (Nat.lt_of_not_le h)
        exact ⟨M₁, k - M₁, Nat.add_sub_cancel' (Nat.le_trans (Nat.le_add_right ..) h), h₁, Nat.le_refl _,
          Nat.le_sub_of_add_le (Nat.add_comm .. ▸ h), Nat.sub_le_of_le_add (Nat.add_comm .. ▸ hk₂)⟩
    obtain ⟨u, v, rfl, hu, hv⟩ := hr.split
    exact ⟨u, v, rfl, ⟨j, hj₁, hj₂, hu⟩, ⟨i, hi₁, hi₂, hv⟩⟩

theorem mem_newGen_nil (S : List Str) (t : Str) : t ∈ newGen S [] ↔ t ∈ S := by
  simp [newGen]

theorem mem_newGen_ne (S gen : List Str) (hg : gen ≠ []) (t : Str) :
    t ∈ newGen S gen ↔ ∃ s ∈ S, ∃ g ∈ gen, g ++ s = t := by
  simp [newGen, hg]

/-- invariant of `generate_permutations_of_fixed_length`: after `j` rounds `generated` holds the
`j`-fold concatenations (and is the empty `Vec` before the first round) -/
def GenInv (S : List Str) (j : Nat) (gen : List Str) : Prop :=
  (j = 0 ∧ gen = []) ∨ (1 ≤ j ∧ ∀ t, t ∈ gen ↔ Reps S j t)

theorem GenInv.step {S : List Str} {j : Nat} {gen : List Str} (h : GenInv S j gen) :
    GenInv S (j + 1) (newGen S gen) := by
  refine Or.inr ⟨by omega, fun t => ?_⟩
  rcases h with ⟨rfl, rfl⟩ | ⟨hj, hmem⟩
  · rw [mem_newGen_nil, reps_one]
  · by_cases hg : gen = []
    · -- no `j`-fold concatenation exists, so `S` is empty
      subst hg
      have hS : ∀ t, t ∉ S := fun t ht =>
        (Reps.exists_of_mem ht j).elim fun s hs => List.not_mem_nil ((hmem s).mpr hs)
      rw [mem_newGen_nil, reps_succ]
      exact ⟨fun ht => absurd ht (hS t), fun ⟨_, u, _, _, hu⟩ => absurd hu (hS u)⟩
    · rw [mem_newGen_ne S gen hg, reps_succ]
      constructor
      · rintro ⟨s, hs, g, hg, rfl⟩; exact ⟨g, s, rfl, (hmem g).mp hg, hs⟩
      · rintro ⟨g, s, rfl, hg, hs⟩; exact ⟨s, hs, g, (hmem g).mpr hg, rfl⟩

theorem mem_genPermsAux {S : List Str} (r : Nat) {j : Nat} {gen : List Str} (h : GenInv S j gen)
    (t : Str) : t ∈ genPermsAux S r gen ↔ Reps S (j + r + 1) t := by
  induction r generalizing j gen with
  | zero =>
    rcases h.step with ⟨h0, _⟩ | ⟨_, hm⟩
    · omega
    · exact hm t
  | succ r ih => rw [genPermsAux, ih h.step, Nat.add_right_comm j 1 r, Nat.add_assoc j r 1]

theorem mem_genPerms {S : List Str} {n : Nat} (hn : 1 ≤ n) (t : Str) :
    t ∈ genPerms n S [] 1 ↔ Reps S n t := by
  rw [genPerms, mem_genPermsAux (n - 1) (Or.inl ⟨rfl, rfl⟩), Nat.zero_add, Nat.sub_add_cancel hn]

theorem transform_lang (b : Brick) {n : Nat} (hn : 1 ≤ n) (s : Str) :
    (b.transformMinMaxEqual n).lang s ↔ Reps b.seq n s := by
  rw [Brick.transformMinMaxEqual, lang_one_one, mem_canon, mem_genPerms hn]

/-- rule 3: `[S]^{n,n} = [S^n]^{1,1}` -/
theorem rule3_lang (b : Brick) (h : b.min = b.max) (h1 : b.min > 1) (s : Str) :
    (b.transformMinMaxEqual b.min).lang s ↔ b.lang s :=
  (transform_lang b (Nat.le_of_lt h1) s).trans (Brick.lang_exact rfl h.symm s).symm

/-- rule 5: `[S]^{m,M} = [S^m]^{1,1} [S]^{0,M-m}` for `1 ≤ m < M` -/
theorem rule5_lang (b : Brick) (h1 : b.min ≥ 1) (h2 : b.max > b.min) (s : Str) :
    (∃ u v, s = u ++ v ∧ b.breakSimpler.1.lang u ∧ b.breakSimpler.2.lang v) ↔ b.lang s := by
  simpa only [Brick.breakSimpler, transform_lang b h1, Brick.lang_exact (b := ⟨b.seq, b.min, b.min⟩) rfl rfl,
    Nat.add_zero, Nat.add_sub_cancel' (Nat.le_of_lt h2)]
    using Brick.lang_add b.seq (Nat.le_refl b.min) (Nat.zero_le (b.max - b.min)) s

/-- rule 2: `[S₁]^{1,1} [S₂]^{1,1} = [S₁·S₂]^{1,1}` -/
theorem rule2_lang (b n : Brick) (h : b.min = 1 ∧ b.max = 1 ∧ n.min = 1 ∧ n.max = 1) (s : Str) :
    (∃ u v, s = u ++ v ∧ b.lang u ∧ n.lang v) ↔ (b.mergeBoundOne n).lang s := by
  obtain ⟨S1, m1, M1⟩ := b
  obtain ⟨S2, m2, M2⟩ := n
  obtain ⟨rfl, rfl, rfl, rfl⟩ := h
  simp only [Brick.mergeBoundOne, lang_one_one, mem_canon, List.mem_flatMap, List.mem_map]
  constructor
  · rintro ⟨u, v, rfl, hu, hv⟩; exact ⟨u, hu, v, hv, rfl⟩
  · rintro ⟨u, hu, v, hv, rfl⟩; exact ⟨u, v, rfl, hu, hv⟩

/-- rule 4 (as repaired): `[S]^{0,M₁} [S]^{0,M₂} = [S]^{0,M₁+M₂}` if the sum fits into `u32` -/
theorem rule4_lang (b n : Brick) (h : step4Cond b n = true) (s : Str) :
    (∃ u v, s = u ++ v ∧ b.lang u ∧ n.lang v) ↔ (b.mergeEqualContent n).lang s := by
  obtain ⟨S1, m1, M1⟩ := b
  obtain ⟨S2, m2, M2⟩ := n
  simp only [step4Cond, Bool.and_eq_true, decide_eq_true_eq] at h
  obtain ⟨⟨⟨rfl, rfl⟩, rfl⟩, hlt⟩ := h
  simpa only [Brick.mergeEqualContent, Nat.add_zero, Nat.zero_mod, Nat.mod_eq_of_lt hlt]
    using Brick.lang_add S1 (Nat.zero_le M1) (Nat.zero_le M2) s

theorem langList_cons_congr {x y : BrickDomain} {xs ys : List BrickDomain}
    (hx : ∀ s, x.lang s ↔ y.lang s) (hxs : ∀ s, langList xs s ↔ langList ys s) (s : Str) :
    langList (x :: xs) s ↔ langList (y :: ys) s := by
  simp only [langList, hx, hxs]

theorem langList_append (l m : List BrickDomain) (s : Str) :
    langList (l ++ m) s ↔ ∃ u v, s = u ++ v ∧ langList l u ∧ langList m v := by
  induction l generalizing s with
  | nil => exact ⟨fun h => ⟨[], s, rfl, rfl, h⟩, fun ⟨_, _, hs, hu, h⟩ => by subst hu hs; exact h⟩
  | cons x xs ih =>
    simp only [List.cons_append, langList, ih]
    constructor
    · rintro ⟨u, _, rfl, hu, v1, v2, rfl, h1, h2⟩
      exact ⟨u ++ v1, v2, by simp, ⟨u, v1, rfl, hu, h1⟩, h2⟩
    · rintro ⟨_, v, rfl, ⟨u1, u2, rfl, h1, h2⟩, hv⟩
      exact ⟨u1, u2 ++ v, by simp, h1, u2, v, rfl, h2, hv⟩

theorem langList_one (x : BrickDomain) (s : Str) : langList [x] s ↔ x.lang s := by
  simp [langList]

theorem langList_two (x y : BrickDomain) (s : Str) :
    langList [x, y] s ↔ ∃ u v, s = u ++ v ∧ x.lang u ∧ y.lang v := by
  simp [langList]

theorem langList_drop_empty {x : BrickDomain} (hx : ∀ s, x.lang s ↔ s = []) (rest : List BrickDomain)
    (s : Str) : langList (x :: rest) s ↔ langList rest s := by
  simp only [langList, hx]
  exact ⟨fun ⟨_, _, hs, hu, h⟩ => by subst hu hs; exact h, fun h => ⟨[], s, rfl, rfl, h⟩⟩

/-- the five rewrite rules of `normalize`, as redex and contractum -/
inductive Rule : List BrickDomain → List BrickDomain → Prop
  | empty {b : Brick} : b.isEmptyString = true → Rule [.val b] []
  | power {b : Brick} : b.min = b.max ∧ b.min > 1 → Rule [.val b] [.val (b.transformMinMaxEqual b.min)]
  | split {b : Brick} : b.min ≥ 1 ∧ b.max > b.min →
      Rule [.val b] [.val b.breakSimpler.1, .val b.breakSimpler.2]
  | product {b n : Brick} : b.min = 1 ∧ b.max = 1 ∧ n.min = 1 ∧ n.max = 1 →
      Rule [.val b, .val n] [.val (b.mergeBoundOne n)]
  | sum {b n : Brick} : step4Cond b n = true → Rule [.val b, .val n] [.val (b.mergeEqualContent n)]

/-- A pass of the loop that changes the list rewrites one redex, leaving what is in front of it and
behind it: what every rule and every context preserves holds between `l` and `normStep l`. -/
theorem normStep_rule {P : List BrickDomain → List BrickDomain → Prop}
    (ctx : ∀ x {l l'}, P l l' → P (x :: l) (x :: l'))
    (rule : ∀ {red con} rest, Rule red con → P (red ++ rest) (con ++ rest))
    {l l' : List BrickDomain} (h : normStep l = some l') : P l l' := by
  fun_induction normStep l generalizing l' with
  | case1 => cases h
  | case2 rest ih => obtain ⟨r, hr, rfl⟩ := Option.map_eq_some_iff.mp h; exact ctx _ (ih hr)
  | case3 b rest he => cases h; exact rule rest (.empty he)
  | case4 b rest _ h3 => cases h; exact rule rest (.power h3)
  | case5 b rest _ _ h5 => cases h; exact rule rest (.split h5)
  | case6 b _ _ _ n rest h2 => cases h; exact rule rest (.product h2)
  | case7 b _ _ _ n rest _ h4 => cases h; exact rule rest (.sum h4)
  | case8 b _ _ _ n rest _ _ ih => obtain ⟨r, hr, rfl⟩ := Option.map_eq_some_iff.mp h; exact ctx _ (ih hr)
  | case9 b rest _ _ _ _ ih => obtain ⟨r, hr, rfl⟩ := Option.map_eq_some_iff.mp h; exact ctx _ (ih hr)

theorem Rule.lang {red con : List BrickDomain} (h : Rule red con) (s : Str) :
    langList con s ↔ langList red s := by
  cases h with
  | empty he => exact (langList_drop_empty (x := .val _) (lang_of_isEmptyString he) [] s).symm
  | power h3 => simpa only [BrickDomain.lang, langList_one] using rule3_lang _ h3.1 h3.2 s
  | split h5 => simpa only [BrickDomain.lang, langList_one, langList_two] using rule5_lang _ h5.1 h5.2 s
  | product h2 => simpa only [BrickDomain.lang, langList_one, langList_two] using (rule2_lang _ _ h2 s).symm
  | sum h4 => simpa only [BrickDomain.lang, langList_one, langList_two] using (rule4_lang _ _ h4 s).symm

/-- **C06-normalize-step.** One pass of the rewrite loop of `normalize` (whichever of the five rules
fires, at whichever position) does not change the represented set of strings. -/
theorem normStep_lang {l l' : List BrickDomain} (h : normStep l = some l') (s : Str) :
    langList l' s ↔ langList l s :=
  normStep_rule (P := fun l l' => ∀ s, langList l' s ↔ langList l s)
    (fun _ _ _ ih => langList_cons_congr (fun _ => Iff.rfl) ih)
    (fun _ hr s => by simp only [langList_append, hr.lang]) h s

theorem normalizeFuel_rule {P : List BrickDomain → List BrickDomain → Prop} (refl : ∀ l, P l l)
    (step : ∀ {l l₁ l'}, normStep l = some l₁ → P l₁ l' → P l l')
    {f : Nat} {l l' : List BrickDomain} (h : normalizeFuel f l = some l') : P l l' := by
  induction f generalizing l with
  | zero => cases h
  | succ f ih =>
    rw [normalizeFuel] at h
    split at h
    · cases h; exact refl _
    · split at h
      · cases h; exact refl _
      · exact step ‹_› (ih h)

/-- **C06-normalize (list level).** Whatever the step budget, if the loop of `normalize` returns a
list, it represents the same set of strings as the input. -/
theorem normalizeFuel_lang {f : Nat} {l l' : List BrickDomain} (h : normalizeFuel f l = some l')
    (s : Str) : langList l' s ↔ langList l s :=
  normalizeFuel_rule (P := fun l l' => ∀ s, langList l' s ↔ langList l s) (fun _ _ => Iff.rfl)
    (fun h₁ ih s => (ih s).trans (normStep_lang h₁ s)) h s

/-- **C06-normalize.** Normalizing a value does not change the set of strings it represents. -/
theorem normalize_lang {b b' : BricksDomain} (h : b.normalize = .ok b') (s : Str) :
    b'.lang s ↔ b.lang s := by
  cases b with
  | top => cases h
  | val l =>
    rw [BricksDomain.normalize] at h
    split at h
    · cases h; exact normalizeFuel_lang ‹_› s
    · cases h

theorem mu_cons (x : BrickDomain) (l : List BrickDomain) :
    mu (x :: l) = mu l + 1 + 2 * x.reducible.toNat := by
  rw [mu, mu, List.filter_cons]
  cases x.reducible
  · exact Nat.add_right_comm ..
  · simp only [if_true, List.length_cons, Bool.toNat_true, Nat.mul_add]; ac_rfl

theorem mu_append (l m : List BrickDomain) : mu (l ++ m) = mu l + mu m := by
  rw [mu, mu, mu, List.length_append, List.filter_append, List.length_append, Nat.mul_add,
    Nat.add_add_add_comm]

theorem Brick.reducible_iff (b : Brick) : (BrickDomain.val b).reducible = true ↔
    (b.min = b.max ∧ b.min > 1) ∨ (b.min ≥ 1 ∧ b.max > b.min) := by
  simp only [BrickDomain.reducible, Brick.reducible, Bool.or_eq_true, Bool.and_eq_true, decide_eq_true_eq]

theorem Brick.reducible_eq_false {b : Brick} (h : b.min = 0 ∨ (b.min = 1 ∧ b.max = 1)) :
    (BrickDomain.val b).reducible = false :=
  Bool.eq_false_iff.mpr (mt b.reducible_iff.mp (by omega))

theorem Rule.mu {red con : List BrickDomain} (h : Rule red con) : mu con < mu red := by
  cases h with
  | empty => simp only [mu_cons]; omega
  | @power b h3 =>
    simp only [mu_cons, b.reducible_iff.mpr (.inl h3),
      Brick.reducible_eq_false (b := b.transformMinMaxEqual b.min) (.inr ⟨rfl, rfl⟩)]
    decide
  | @split b h5 =>
    simp only [mu_cons, b.reducible_iff.mpr (.inr h5),
      Brick.reducible_eq_false (b := b.breakSimpler.1) (.inr ⟨rfl, rfl⟩),
      Brick.reducible_eq_false (b := b.breakSimpler.2) (.inl rfl)]
    decide
  | @product b n =>
    simp only [mu_cons, Brick.reducible_eq_false (b := b.mergeBoundOne n) (.inr ⟨rfl, rfl⟩), Bool.toNat_false]
    omega
  | @sum b n h4 =>
    simp only [step4Cond, Bool.and_eq_true, decide_eq_true_eq] at h4
    simp only [mu_cons, Bool.toNat_false, Brick.reducible_eq_false (b := b.mergeEqualContent n)
      (.inl (by simp [Brick.mergeEqualContent, h4.1.1.2, h4.1.2]))]
    omega

theorem normStep_mu {l l' : List BrickDomain} (h : normStep l = some l') : mu l' < mu l :=
  normStep_rule (P := fun l l' => mu l' < mu l)
    (fun _ _ _ ih => by simp only [mu_cons]; omega)
    (fun _ hr => by simp only [mu_append]; have := hr.mu; omega) h

theorem normalizeFuel_isSome {f : Nat} {l : List BrickDomain} (h : mu l < f) :
    ∃ l', normalizeFuel f l = some l' := by
  induction f generalizing l with
  | zero => omega
  | succ f ih =>
    rw [normalizeFuel]
    split
    · exact ⟨_, rfl⟩
    · split
      · exact ⟨_, rfl⟩
      · exact ih (Nat.lt_of_lt_of_le (normStep_mu ‹_›) (Nat.le_of_lt_succ h))

/-- **C06-normalize-terminates.** The loop of the (repaired) `normalize` reaches its fixpoint within
`mu l + 1` passes, for every list of bricks. -/
theorem normalizeList_terminates (l : List BrickDomain) : ∃ l', normalizeList l = some l' :=
  normalizeFuel_isSome (Nat.lt_succ_self _)

/-- **C06-normalize-total.** `normalize` of a non-`Top` value returns a value with the same strings. -/
theorem normalize_total (l : List BrickDomain) :
    ∃ l', (BricksDomain.val l).normalize = .ok (.val l') ∧ ∀ s, langList l' s ↔ langList l s := by
  obtain ⟨l', h⟩ := normalizeList_terminates l
  exact ⟨l', by rw [BricksDomain.normalize, h], normalizeFuel_lang h⟩

def WFList (l : List BrickDomain) : Prop := ∀ x ∈ l, BrickDomain.WF x

theorem wfList_cons {x : BrickDomain} {l : List BrickDomain} : WFList (x :: l) ↔ x.WF ∧ WFList l :=
  List.forall_mem_cons

theorem wfList_append {l m : List BrickDomain} : WFList (l ++ m) ↔ WFList l ∧ WFList m :=
  List.forall_mem_append

theorem mod_wrap_le (n : Nat) : n % wrap ≤ u32Max :=
  Nat.le_of_lt_succ (Nat.mod_lt n (by decide))

theorem Rule.wf {red con : List BrickDomain} (h : Rule red con) (hw : WFList red) : WFList con := by
  have one : ∀ S : List Str, BrickDomain.WF (.val ⟨S, 1, 1⟩) :=
    fun _ => ⟨(by decide : 1 ≤ u32Max), (by decide : 1 ≤ u32Max)⟩
  cases h with
  | empty => exact List.forall_mem_nil _
  | power => exact wfList_cons.mpr ⟨one _, List.forall_mem_nil _⟩
  | split =>
    have hb : Brick.max _ ≤ u32Max := (wfList_cons.mp hw).1.2
    exact wfList_cons.mpr ⟨one _, wfList_cons.mpr ⟨⟨Nat.zero_le _, Nat.le_trans (Nat.sub_le ..) hb⟩, List.forall_mem_nil _⟩⟩
  | product => exact wfList_cons.mpr ⟨one _, List.forall_mem_nil _⟩
  | sum => exact wfList_cons.mpr ⟨⟨mod_wrap_le _, mod_wrap_le _⟩, List.forall_mem_nil _⟩

theorem normStep_wf {l l' : List BrickDomain} (h : normStep l = some l') : WFList l → WFList l' :=
  normStep_rule (P := fun l l' => WFList l → WFList l')
    (fun _ _ _ ih hw => wfList_cons.mpr ⟨(wfList_cons.mp hw).1, ih (wfList_cons.mp hw).2⟩)
    (fun _ hr hw => wfList_append.mpr ⟨hr.wf (wfList_append.mp hw).1, (wfList_append.mp hw).2⟩) h

theorem normalizeFuel_wf {f : Nat} {l l' : List BrickDomain} (h : normalizeFuel f l = some l') :
    WFList l → WFList l' :=
  normalizeFuel_rule (P := fun l l' => WFList l → WFList l') (fun _ => id)
    (fun h₁ ih hw => ih (normStep_wf h₁ hw)) h

/-- `o` is a list of length `n` that is `short` with empty-string bricks inserted, as far as the
theorems need it -/
def PadsTo (o : Option (List BrickDomain)) (short : List BrickDomain) (n : Nat) : Prop :=
  ∃ l, o = some l ∧ l.length = n ∧
    (∀ s, langList l s ↔ langList short s) ∧ (∀ x ∈ l, x = emptyBD ∨ x ∈ short)

theorem PadsTo.keep {o : Option (List BrickDomain)} {short : List BrickDomain} {n : Nat} (x : BrickDomain) :
    PadsTo o short n → PadsTo (o.map (x :: ·)) (x :: short) (n + 1)
  | ⟨l, ho, hn, hl, hm⟩ => ⟨x :: l, ho ▸ rfl, hn ▸ rfl, langList_cons_congr (fun _ => Iff.rfl) hl,
      fun y hy => (List.mem_cons.mp hy).elim (fun e => .inr (e ▸ List.mem_cons_self))
        fun hy => (hm y hy).imp_right (List.mem_cons_of_mem _)⟩

theorem PadsTo.pad {o : Option (List BrickDomain)} {short : List BrickDomain} {n : Nat} :
    PadsTo o short n → PadsTo (o.map (emptyBD :: ·)) short (n + 1)
  | ⟨l, ho, hn, hl, hm⟩ => ⟨emptyBD :: l, ho ▸ rfl, hn ▸ rfl,
      fun s => (langList_drop_empty emptyBD_lang l s).trans (hl s),
      fun y hy => (List.mem_cons.mp hy).elim .inl (hm y)⟩

theorem padGo_spec (d : Nat) (short long : List BrickDomain) (added : Nat)
    (hlen : short.length + (d - added) = long.length) :
    PadsTo (padGo d short long added) short long.length := by
  fun_induction padGo d short long added with
  | case1 short =>
    obtain rfl : short = [] := List.eq_nil_of_length_eq_zero (Nat.eq_zero_of_add_eq_zero_right hlen)
    exact ⟨[], rfl, rfl, fun _ => Iff.rfl, fun _ h => nomatch h⟩
  | case2 => simp only [List.length_nil, List.length_cons] at hlen; omega
  | case3 _ _ _ _ s0 _ ih => exact (ih (Nat.add_right_cancel (Nat.add_right_comm .. ▸ hlen))).keep s0
  | case4 _ _ _ _ ih => exact (ih (by simp only [List.length_cons] at hlen; omega)).pad
  | case5 _ _ _ _ _ _ _ ih => exact (ih (by simp only [List.length_cons] at hlen ⊢; omega)).pad
  | case6 _ _ _ _ s0 _ _ ih => exact (ih (Nat.add_right_cancel (Nat.add_right_comm .. ▸ hlen))).keep s0

/-- `pad_list` never panics when the first list is not longer than the second; the padded list has
the length of the longer list, represents the strings of the shorter one, and only adds
empty-string bricks. -/
theorem padList_spec (short long : List BrickDomain) (h : short.length ≤ long.length) :
    ∃ l, padList short long = some l ∧ l.length = long.length ∧
      (∀ s, langList l s ↔ langList short s) ∧ (∀ x ∈ l, x = emptyBD ∨ x ∈ short) :=
  padGo_spec _ short long 0 (Nat.add_sub_cancel' h)

theorem Brick.lang_mono {a c : Brick} (hs : ∀ t ∈ a.seq, t ∈ c.seq) (hmin : c.min ≤ a.min)
    (hmax : a.max ≤ c.max) {s : Str} : a.lang s → c.lang s :=
  fun ⟨k, h1, h2, hr⟩ => ⟨k, Nat.le_trans hmin h1, Nat.le_trans h2 hmax, hr.mono hs⟩

theorem Brick.widen_sound (a b : Brick) (ha : a.WF) (hb : b.WF) {s : Str} (h : a.lang s ∨ b.lang s) :
    (a.widen b).lang s := by
  have hl : ∀ t ∈ a.seq, t ∈ canon (a.seq ++ b.seq) := fun t ht => (mem_canon ..).mpr (List.mem_append_left _ ht)
  have hr : ∀ t ∈ b.seq, t ∈ canon (a.seq ++ b.seq) := fun t ht => (mem_canon ..).mpr (List.mem_append_right _ ht)
  simp only [Brick.widen]
  split
  · trivial
  · split
    · exact h.elim (Brick.lang_mono hl (Nat.zero_le _) ha.2) (Brick.lang_mono hr (Nat.zero_le _) hb.2)
    · exact h.elim (Brick.lang_mono hl (Nat.min_le_left ..) (Nat.le_max_left ..))
        (Brick.lang_mono hr (Nat.min_le_right ..) (Nat.le_max_right ..))

theorem Brick.widen_wf (a b : Brick) (ha : a.WF) (hb : b.WF) : (a.widen b).WF := by
  simp only [Brick.widen]
  split
  · trivial
  · split
    · exact ⟨Nat.zero_le _, Nat.le_refl _⟩
    · exact ⟨Nat.le_trans (Nat.min_le_left _ _) ha.1, Nat.max_le.mpr ⟨ha.2, hb.2⟩⟩

/-- **C06-brick-merge.** Merging two single bricks represents every string of either brick. -/
theorem BrickDomain.merge_sound (x y : BrickDomain) (hx : x.WF) (hy : y.WF) {s : Str}
    (h : x.lang s ∨ y.lang s) : (x.merge y).lang s := by
  cases x <;> cases y <;> first | exact True.intro | exact Brick.widen_sound _ _ hx hy h

theorem BrickDomain.merge_wf (x y : BrickDomain) (hx : x.WF) (hy : y.WF) : (x.merge y).WF := by
  cases x <;> cases y <;> first | exact True.intro | exact Brick.widen_wf _ _ hx hy

theorem zipWith_merge_sound (xs ys : List BrickDomain) (hlen : xs.length = ys.length)
    (hx : WFList xs) (hy : WFList ys) {s : Str} (h : langList xs s ∨ langList ys s) :
    langList (List.zipWith BrickDomain.merge xs ys) s := by
  induction xs generalizing ys s with
  | nil => cases ys with
    | nil => exact h.elim id id
    | cons => cases hlen
  | cons x xs ih => cases ys with
    | nil => cases hlen
    | cons y ys =>
      obtain ⟨hx, hxs⟩ := wfList_cons.mp hx
      obtain ⟨hy, hys⟩ := wfList_cons.mp hy
      have ih := @ih ys (Nat.succ.inj hlen) hxs hys
      rcases h with ⟨u, v, rfl, hu, hv⟩ | ⟨u, v, rfl, hu, hv⟩
      · exact ⟨u, v, rfl, BrickDomain.merge_sound x y hx hy (.inl hu), ih (.inl hv)⟩
      · exact ⟨u, v, rfl, BrickDomain.merge_sound x y hx hy (.inr hu), ih (.inr hv)⟩

theorem zipWith_merge_wf (xs ys : List BrickDomain) (hx : WFList xs) (hy : WFList ys) :
    WFList (List.zipWith BrickDomain.merge xs ys) := by
  induction xs generalizing ys with
  | nil => exact List.forall_mem_nil _
  | cons x xs ih => cases ys with
    | nil => exact List.forall_mem_nil _
    | cons y ys =>
      obtain ⟨hx, hxs⟩ := wfList_cons.mp hx
      obtain ⟨hy, hys⟩ := wfList_cons.mp hy
      exact wfList_cons.mpr ⟨BrickDomain.merge_wf x y hx hy, ih ys hxs hys⟩

/-- the `newSelf?` of `widenList a b`; its `newOther?` is the same with the operands exchanged -/
theorem pad_operand (a b : List BrickDomain) (ha : WFList a) :
    ∃ na, (if a.length < b.length then padList a b else some a) = some na ∧
      na.length = max a.length b.length ∧ (∀ s, langList na s ↔ langList a s) ∧ WFList na := by
  split
  · obtain ⟨l, hl, hlen, hlang, hmem⟩ := padList_spec a b (Nat.le_of_lt ‹_›)
    exact ⟨l, hl, hlen.trans (Nat.max_eq_right (Nat.le_of_lt ‹_›)).symm, hlang, fun x hx => (hmem x hx).elim (· ▸ ⟨Nat.zero_le _, Nat.zero_le _⟩) (ha x)⟩
  · exact ⟨a, rfl, (Nat.max_eq_left (Nat.le_of_not_lt ‹_›)).symm, fun _ => Iff.rfl, ha⟩

theorem widenList_spec (a b : List BrickDomain) (ha : WFList a) (hb : WFList b) :
    ∃ r, widenList a b = some r ∧ (∀ s, langList a s ∨ langList b s → r.lang s) ∧ r.WF := by
  obtain ⟨na, h1, hna, hla, hwa⟩ := pad_operand a b ha
  obtain ⟨nb, h2, hnb, hlb, hwb⟩ := pad_operand b a hb
  simp only [widenList, gt_iff_lt, h1, h2]
  split
  · exact ⟨_, rfl, fun _ _ => trivial, trivial⟩
  · split
    · exact ⟨_, rfl, fun _ _ => trivial, trivial⟩
    · exact ⟨_, rfl, fun s hs => zipWith_merge_sound na nb (hna.trans ((Nat.max_comm ..).trans hnb.symm)) hwa hwb (hs.imp (hla s).mpr (hlb s).mpr),
        zipWith_merge_wf na nb hwa hwb⟩

/-- **C06-widen.** `BricksDomain::widen` of two values over-approximates both. -/
theorem widen_sound (a b : BricksDomain) (ha : a.WF) (hb : b.WF) {r : BricksDomain}
    (h : a.widen b = .ok r) {s : Str} (hs : a.lang s ∨ b.lang s) : r.lang s := by
  cases a <;> cases b <;> simp only [BricksDomain.widen] at h <;> try cases h
  rename_i la lb
  obtain ⟨r', hr', hsound, _⟩ := widenList_spec la lb ha hb
  rw [hr'] at h
  cases h
  exact hsound s hs

theorem merge_spec (a b : BricksDomain) (ha : a.WF) (hb : b.WF) :
    ∃ r, a.merge b = .ok r ∧ r.WF ∧ ∀ s, a.lang s ∨ b.lang s → r.lang s := by
  cases a <;> cases b <;> try exact ⟨.top, rfl, trivial, fun _ _ => trivial⟩
  rename_i la lb
  simp only [BricksDomain.merge]
  split
  · exact ⟨_, rfl, ha, fun s hs => hs.elim id (‹la = lb› ▸ id)⟩
  · obtain ⟨r', hr', hsound, hwf⟩ := widenList_spec la lb ha hb
    rw [hr']
    cases r' with
    | top => exact ⟨_, rfl, trivial, fun _ _ => trivial⟩
    | val w =>
      obtain ⟨n, hn⟩ := normalizeList_terminates w
      simp only [hn]
      exact ⟨_, rfl, normalizeFuel_wf hn hwf, fun s hs => (normalizeFuel_lang hn s).mpr (hsound s hs)⟩

/-- **C06-merge-total.** Merging never panics and never runs out of the step budget. -/
theorem merge_total (a b : BricksDomain) (ha : a.WF) (hb : b.WF) : ∃ r, a.merge b = .ok r :=
  (merge_spec a b ha hb).imp fun _ h => h.1

/-- **C06-merge.** Merging two values represents every member of either input. -/
theorem merge_sound (a b : BricksDomain) (ha : a.WF) (hb : b.WF) {r : BricksDomain}
    (h : a.merge b = .ok r) {s : Str} (hs : a.lang s ∨ b.lang s) : r.lang s := by
  obtain ⟨r', hr', _, hsound⟩ := merge_spec a b ha hb
  cases hr'.symm.trans h
  exact hsound s hs

theorem merge_wf (a b : BricksDomain) (ha : a.WF) (hb : b.WF) {r : BricksDomain}
    (h : a.merge b = .ok r) : r.WF := by
  obtain ⟨r', hr', hwf, _⟩ := merge_spec a b ha hb
  cases hr'.symm.trans h
  exact hwf

/-- **C06-append.** Appending two values represents every concatenation of their members. -/
theorem append_sound (a b : BricksDomain) {s t : Str} (hs : a.lang s) (ht : b.lang t) :
    (a.append b).lang (s ++ t) := by
  cases a <;> cases b
  · trivial
  · exact ⟨s, t, rfl, trivial, ht⟩
  · exact (langList_append ..).mpr ⟨s, t, rfl, hs, (langList_one ..).mpr trivial⟩
  · exact (langList_append ..).mpr ⟨s, t, rfl, hs, ht⟩

theorem append_wf (a b : BricksDomain) (ha : a.WF) (hb : b.WF) : (a.append b).WF := by
  cases a <;> cases b
  · trivial
  · exact wfList_cons.mpr ⟨trivial, hb⟩
  · exact wfList_append.mpr ⟨ha, wfList_cons.mpr ⟨trivial, List.forall_mem_nil _⟩⟩
  · exact wfList_append.mpr ⟨ha, hb⟩

theorem ofString_lang (c s : Str) : (BricksDomain.ofString c).lang s ↔ s = c :=
  (langList_one ..).trans ((lang_one_one [c] s).trans List.mem_singleton)

theorem CharSet.union_has (a b : CharSet) (c : Char) : (a.union b).has c ↔ a.has c ∨ b.has c := by
  cases a <;> cases b <;> simp [CharSet.union, CharSet.has, mem_canonC]

theorem CharSet.inter_has {a b r : CharSet} (h : a.inter b = some r) (c : Char) :
    r.has c ↔ a.has c ∧ b.has c := by
  cases a <;> cases b <;> cases h
  simp [CharSet.has, List.mem_filter]

/-- **C06-ci-merge.** Merging two character-inclusion values represents every member of either. -/
theorem ci_merge_sound (a b : CIDomain) {r : CIDomain} (h : a.merge b = .ok r) {s : Str}
    (hs : a.repr s ∨ b.repr s) : r.repr s := by
  cases a <;> cases b <;> simp only [CIDomain.merge] at h <;> try (cases h; trivial)
  rename_i c1 p1 c2 p2
  split at h
  · rename_i heq
    cases h
    obtain ⟨rfl, rfl⟩ := heq
    exact hs.elim id id
  · split at h
    · rename_i ci hci
      cases h
      refine ⟨fun c hc => ?_, fun c hc => (CharSet.union_has ..).mpr (hs.imp (·.2 c hc) (·.2 c hc))⟩
      have := (CharSet.inter_has hci c).mp hc
      exact hs.elim (·.1 c this.1) (·.1 c this.2)
    · cases h

/-- the merge of two reachable values (the set of certain characters is never `Top`) does not panic -/
theorem ci_merge_total (c1 c2 : List Char) (p1 p2 : CharSet) :
    ∃ r, (CIDomain.val (.val c1) p1).merge (.val (.val c2) p2) = .ok r := by
  simp only [CIDomain.merge, CharSet.inter]
  split <;> exact ⟨_, rfl⟩

/-- **C06-ci-append.** Appending two character-inclusion values represents every concatenation. -/
theorem ci_append_sound (a b : CIDomain) {s t : Str} (hs : a.repr s) (ht : b.repr t) :
    (a.append b).repr (s ++ t) := by
  cases a <;> cases b
  · trivial
  · exact ⟨fun c hc => List.mem_append_right _ (ht.1 c hc), fun _ _ => trivial⟩
  · exact ⟨fun c hc => List.mem_append_left _ (hs.1 c hc), fun _ _ => trivial⟩
  · exact ⟨fun c hc => List.mem_append.mpr (((CharSet.union_has ..).mp hc).imp (hs.1 c) (ht.1 c)),
      fun c hc => (CharSet.union_has ..).mpr ((List.mem_append.mp hc).imp (hs.2 c) (ht.2 c))⟩

theorem ci_ofString_repr (c : Str) : (CIDomain.ofString c).repr c :=
  ⟨fun _ => (mem_canonC ..).mp, fun _ => (mem_canonC ..).mpr⟩

theorem stripPrefix_eq_some {t s r : Str} : stripPrefix t s = some r ↔ s = t ++ r := by
  induction t generalizing s with
  | nil => simp [stripPrefix, eq_comm]
  | cons a t ih =>
    cases s with
    | nil => simp [stripPrefix]
    | cons b s =>
      rw [stripPrefix]
      split
      · subst_vars; simp [ih]
      · simp [eq_comm, *]

theorem reps_succ_left {S : List Str} {k : Nat} {u : Str} :
    Reps S (k + 1) u ↔ ∃ t ∈ S, ∃ r, u = t ++ r ∧ Reps S k r := by
  rw [Nat.add_comm]
  constructor
  · intro h
    obtain ⟨t, r, rfl, ht, hr⟩ := h.split
    exact ⟨t, reps_one.mp ht, r, rfl, hr⟩
  · rintro ⟨t, ht, r, rfl, hr⟩
    exact (reps_one.mpr ht).append hr

theorem inPow_iff (S : List Str) (k : Nat) (s : Str) : inPow S k s = true ↔ Reps S k s := by
  induction k generalizing s with
  | zero => simp [inPow, reps_zero]
  | succ k ih =>
    rw [reps_succ_left]
    simp only [inPow, List.any_eq_true]
    constructor
    · rintro ⟨t, ht, h⟩
      split at h
      · exact ⟨t, ht, _, stripPrefix_eq_some.mp ‹_›, (ih _).mp h⟩
      · cases h
    · rintro ⟨t, ht, r, rfl, hr⟩
      exact ⟨t, ht, by rw [stripPrefix_eq_some.mpr rfl]; exact (ih r).mpr hr⟩

theorem Reps.pad {S : List Str} (h : [] ∈ S) {j : Nat} {s : Str} (hr : Reps S j s) (i : Nat) :
    Reps S (j + i) s := by
  induction i with
  | zero => exact hr
  | succ i ih => exact List.append_nil s ▸ Reps.succ ih h

/-- the empty pieces of a decomposition can be dropped -/
theorem Reps.shrink {S : List Str} {k : Nat} {s : Str} (h : Reps S k s) :
    ∃ k0, k0 ≤ s.length ∧ k0 ≤ k ∧ Reps S k0 s ∧ (k0 < k → [] ∈ S) := by
  induction h with
  | zero => exact ⟨0, Nat.le_refl _, Nat.le_refl _, .zero, fun h => absurd h (Nat.lt_irrefl _)⟩
  | @succ k s t _ ht ih =>
    obtain ⟨k0, h1, h2, h3, h4⟩ := ih
    cases t with
    | nil => exact ⟨k0, by simpa using h1, Nat.le_succ_of_le h2, by simpa using h3, fun _ => ht⟩
    | cons c t =>
      refine ⟨k0 + 1, ?_, Nat.succ_le_succ h2, .succ h3 ht, fun h => h4 (Nat.lt_of_succ_lt_succ h)⟩
      rw [List.length_append, List.length_cons]; omega

theorem Reps.between {S : List Str} {k k' : Nat} {s : Str} (h : Reps S k s)
    (h1 : min k s.length ≤ k') (h2 : k' ≤ k) : Reps S k' s := by
  obtain ⟨k0, hk0, hk0k, hr0, hnil⟩ := h.shrink
  rcases Nat.lt_or_ge k0 k with hlt | hge
  · exact Nat.add_sub_cancel' (Nat.le_trans (Nat.le_min.mpr ⟨hk0k, hk0⟩) h1) ▸ hr0.pad (hnil hlt) (k' - k0)
  · exact Nat.le_antisymm (Nat.le_trans (Nat.le_min.mpr ⟨Nat.le_refl k, Nat.le_trans hge hk0⟩) h1) h2 ▸ h

theorem any_range_sub (p : Nat → Bool) (lo hi : Nat) :
    (List.range (hi + 1 - lo)).any (fun i => p (lo + i)) = true ↔ ∃ k, lo ≤ k ∧ k ≤ hi ∧ p k = true := by
  simp only [List.any_eq_true, List.mem_range]
  exact ⟨fun ⟨i, hi, h⟩ => ⟨lo + i, Nat.le_add_right .., Nat.le_of_lt_succ (Nat.add_comm .. ▸ Nat.add_lt_of_lt_sub hi), h⟩,
    fun ⟨k, h1, h2, h⟩ => ⟨k - lo, Nat.sub_lt_sub_right h1 (Nat.lt_succ_of_le h2), by rwa [Nat.add_sub_cancel' h1]⟩⟩

theorem memBrick_iff (b : Brick) (s : Str) : memBrick b s = true ↔ b.lang s := by
  refine (any_range_sub (inPow b.seq · s) b.min _).trans ?_
  simp only [inPow_iff, Brick.lang]
  constructor
  · rintro ⟨k, h1, h2, hr⟩
    exact ⟨k, h1, Nat.le_trans h2 (Nat.min_le_left ..), hr⟩
  · rintro ⟨k, h1, h2, hr⟩
    exact ⟨min k (max b.min s.length), Nat.le_min.mpr ⟨h1, Nat.le_max_left ..⟩,
      Nat.le_min.mpr ⟨Nat.le_trans (Nat.min_le_left ..) h2, Nat.min_le_right ..⟩,
      hr.between (Nat.le_min.mpr ⟨Nat.min_le_left .., Nat.le_trans (Nat.min_le_right ..) (Nat.le_max_right ..)⟩)
        (Nat.min_le_left ..)⟩

theorem memBD_iff (x : BrickDomain) (s : Str) : memBD x s = true ↔ x.lang s := by
  cases x with
  | top => simp [memBD, BrickDomain.lang]
  | val b => exact memBrick_iff b s

theorem mem_remsAfter (x : BrickDomain) (s r : Str) :
    r ∈ remsAfter x s ↔ ∃ u, s = u ++ r ∧ x.lang u := by
  simp only [remsAfter, List.mem_filterMap, List.mem_range, Option.ite_none_right_eq_some,
    Option.some.injEq, memBD_iff]
  constructor
  · rintro ⟨i, _, hm, rfl⟩
    exact ⟨s.take i, (List.take_append_drop i s).symm, hm⟩
  · rintro ⟨u, rfl, hu⟩
    exact ⟨u.length, by simp; omega, by simpa using hu, by simp⟩

theorem memRems_iff (l : List BrickDomain) (rems : List Str) :
    memRems l rems = true ↔ ∃ r ∈ rems, langList l r := by
  induction l generalizing rems with
  | nil => simp [memRems, langList]
  | cons x xs ih =>
    simp only [memRems, ih, mem_canon, List.mem_flatMap, mem_remsAfter, langList]
    constructor
    · rintro ⟨r', ⟨r, hr, u, rfl, hu⟩, h⟩; exact ⟨_, hr, u, r', rfl, hu, h⟩
    · rintro ⟨r, hr, u, v, rfl, hu, hv⟩; exact ⟨v, ⟨_, hr, u, rfl, hu⟩, hv⟩

theorem memList_iff (l : List BrickDomain) (s : Str) : memList l s = true ↔ langList l s := by
  simp [memList, memRems_iff]

/-- **C06-spec-exec.** The membership test the driver evaluates on implementation outputs decides
the declarative language. -/
theorem memBricks_iff (b : BricksDomain) (s : Str) : memBricks b s = true ↔ b.lang s := by
  cases b with
  | top => simp [memBricks, BricksDomain.lang]
  | val l => exact memList_iff l s

theorem memCI_iff (l : List Char) (P : CharSet) (s : Str) :
    memCI (.val (.val l) P) s = true ↔ (CIDomain.val (.val l) P).repr s := by
  cases P <;> simp [memCI, CIDomain.repr, CharSet.has, List.all_eq_true]

section Examples
private def a : Str := ['a']
private def b : Str := ['b']

/-- the unit test `test_normalize` of the Rust code, on the model -/
example : normalizeList [.val ⟨[a], 1, 1⟩, .val ⟨[a, b], 2, 3⟩, .val ⟨[a, b], 0, 1⟩]
    = some [.val ⟨[a ++ a ++ a, a ++ a ++ b, a ++ b ++ a, a ++ b ++ b], 1, 1⟩, .val ⟨[a, b], 0, 2⟩] := by
  decide +kernel

/-- `"a" ⊔ "a"·"a"`: the value on which `normalize` used to loop forever (rule 4 merged
`[{a}]^{1,1}[{a}]^{0,1}` into `[{a}]^{1,2}`, which rule 5 breaks into the same two bricks) -/
example : (BricksDomain.ofString a).merge ((BricksDomain.ofString a).append (BricksDomain.ofString a))
    = .ok (.val [.val ⟨[a], 1, 1⟩, .val ⟨[a], 0, 1⟩]) := by decide +kernel

example : (Brick.mk [a] 1 1).mergeEqualContent ⟨[a], 0, 1⟩ = ⟨[a], 1, 2⟩ ∧
    (Brick.mk [a] 1 2).breakSimpler = (⟨[a], 1, 1⟩, ⟨[a], 0, 1⟩) := by decide

/-- D11: without the overflow guard rule 4 turns `[{b}]^{0,u32::MAX}[{b}]^{0,1}` into `[{b}]^{0,0}`,
which no longer contains "b" -/
example : ¬ ((Brick.mk [b] 0 u32Max).mergeEqualContent ⟨[b], 0, 1⟩).lang b := by
  rw [← memBrick_iff]; decide

example : step4Cond ⟨[b], 0, u32Max⟩ ⟨[b], 0, 1⟩ = false := by decide

/-- the hypotheses of `merge_sound` are satisfiable with a non-trivial result -/
example : ∃ r, (BricksDomain.val [.val ⟨[a], 1, 1⟩, .val ⟨[b], 1, 1⟩]).merge (.val [.val ⟨[a], 1, 1⟩]) = .ok r ∧
    r.lang (a ++ b) ∧ r.lang a ∧ ¬ r.lang b := by
  refine ⟨.val [.val ⟨[a], 1, 1⟩, .val ⟨[b], 0, 1⟩], by decide +kernel, ?_, ?_, ?_⟩ <;>
    rw [← memBricks_iff] <;> decide

example : (CIDomain.ofString (a ++ b)).merge (CIDomain.ofString a) = .ok (.val (.val a) (.val (a ++ b))) := by
  decide
end Examples

end CweModel.C06
