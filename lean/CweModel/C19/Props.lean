/-
C19 — property theorems. Statement of the property:

  For every set of disjoint memory segments and every address and size, a read returns the
  bytes stored at that address (in the image's byte order) exactly when the whole range lies in
  one read-only segment, reports 'unknown content' when it lies in one writable segment, and
  fails otherwise. A string read at any address inside a read-only segment returns the
  NUL-terminated string stored there, and writability/readability queries report the flags of
  the segment containing the address.
-/
import CweModel.C19.Model

namespace CweModel.C19

theorem containsRange_iff (s : Seg) (addr size : Nat) :
    s.containsRange addr size = true ↔ s.hasRange addr size := by
  simp only [Seg.containsRange, Seg.hasRange, Bool.and_eq_true, decide_eq_true_eq]
  omega

theorem containsAddr_iff (s : Seg) (a : Nat) : s.containsAddr a = true ↔ s.has a := by
  simp only [Seg.containsAddr, Seg.has, Bool.and_eq_true, decide_eq_true_eq, ge_iff_le]

theorem pieceBytes_foldl (bs : List Nat) (acc : Nat) :
    bs.foldl (fun acc b => acc * 256 + b) acc = acc * 256 ^ bs.length + pieceBytes bs := by
  induction bs generalizing acc with
  | nil => simp [pieceBytes]
  | cons b bs ih =>
    rw [pieceBytes, List.foldl_cons, List.foldl_cons, ih, ih (0 * 256 + b)]
    simp [Nat.pow_succ, Nat.add_mul, Nat.mul_assoc, Nat.add_assoc, Nat.mul_comm 256]

theorem pieceBytes_cons (b : Nat) (bs : List Nat) :
    pieceBytes (b :: bs) = b * 256 ^ bs.length + pieceBytes bs := by
  rw [pieceBytes, List.foldl_cons, pieceBytes_foldl]; simp

theorem pieceBytes_append_single (bs : List Nat) (b : Nat) :
    pieceBytes (bs ++ [b]) = pieceBytes bs * 256 + b := by
  simp [pieceBytes, List.foldl_append]

theorem slice_eq (s : Seg) {addr n : Nat} (h : s.hasRange addr n) :
    (s.bytes.drop (addr - s.base)).take n = (List.range' addr n).map s.byteAt := by
  obtain ⟨h1, h2⟩ := h
  rw [Seg.endAddr] at h2
  apply List.ext_getElem
  · rw [List.length_take, List.length_drop, List.length_map, List.length_range']; omega
  · intro i _ hi
    rw [List.length_map, List.length_range'] at hi
    rw [List.getElem_take, List.getElem_drop, List.getElem_map, List.getElem_range', Seg.byteAt,
      Nat.one_mul, Nat.sub_add_comm h1, List.getD_eq_getElem?_getD, List.getElem?_eq_getElem,
      Option.getD_some]

theorem value_be (s : Seg) (addr n : Nat) :
    pieceBytes ((List.range' addr n).map s.byteAt) = valueAt s false addr n := by
  induction n generalizing addr with
  | zero => rfl
  | succ n ih => simp [List.range'_succ, pieceBytes_cons, valueAt, ih]

theorem value_le (s : Seg) (addr n : Nat) :
    pieceBytes ((List.range' addr n).map s.byteAt).reverse = valueAt s true addr n := by
  induction n generalizing addr with
  | zero => rfl
  | succ n ih => simp [List.range'_succ, pieceBytes_append_single, valueAt, ih, Nat.mul_comm, Nat.add_comm]

theorem model_value (s : Seg) (le : Bool) (addr size : Nat) (h : s.hasRange addr size) :
    pieceBytes (if le then ((s.bytes.drop (addr - s.base)).take size).reverse
                else (s.bytes.drop (addr - s.base)).take size) = valueAt s le addr size := by
  rw [slice_eq s h]
  cases le
  · exact value_be s addr size
  · exact value_le s addr size

theorem disjoint_unique {segs : List Seg} (hd : Disjoint segs) {s t : Seg} (hs : s ∈ segs)
    (ht : t ∈ segs) {a : Nat} (hsa : s.has a) (hta : t.has a) : s = t := by
  have excl : ∀ {u v : Seg}, u.disjoint v → u.has a → v.has a → False := by
    intro u v h hu hv; simp only [Seg.disjoint, Seg.has] at *; omega
  exact List.Pairwise.forall_of_forall_of_flip (R := fun u v => u.has a → v.has a → u = v)
    (fun _ _ _ _ => rfl) (hd.imp fun h hu hv => (excl h hu hv).elim)
    (hd.imp fun h hv hu => (excl h hu hv).elim) hs ht hsa hta

theorem hasRange_has {s : Seg} {addr size : Nat} (h : s.hasRange addr size) (hpos : 0 < size) :
    s.has addr :=
  ⟨h.1, Nat.lt_of_lt_of_le (Nat.lt_add_of_pos_right hpos) h.2⟩

theorem find_containsAddr {segs : List Seg} (hd : Disjoint segs) {s : Seg} (hs : s ∈ segs)
    {a : Nat} (hsa : s.has a) : segs.find? (fun t => t.containsAddr a) = some s := by
  cases hf : segs.find? (fun t => t.containsAddr a) with
  | none => exact absurd ((containsAddr_iff s a).mpr hsa) (List.find?_eq_none.mp hf s hs)
  | some t =>
    rw [disjoint_unique hd hs (List.mem_of_find?_eq_some hf) hsa
      ((containsAddr_iff t a).mp (List.find?_some (p := fun t : Seg => t.containsAddr a) hf))]

theorem find_containsAddr_none {segs : List Seg} {a : Nat} (hn : ∀ s ∈ segs, ¬ s.has a) :
    segs.find? (fun t => t.containsAddr a) = none :=
  List.find?_eq_none.mpr fun t ht hc => hn t ht ((containsAddr_iff t a).mp hc)

/-- **C19-read.** `read` gives one of the answers the byte-map specification allows: a value only
for a range inside a read-only segment, `unknown` only inside a writable one, failure only if no
segment holds the range. -/
theorem read_satisfies_spec (segs : List Seg) (le : Bool) (addr size : Nat) :
    ReadSpec segs le addr size (read segs le addr size) := by
  unfold read
  cases hf : segs.find? (fun s => s.containsRange addr size) with
  | none => exact .fail fun s hs h => List.find?_eq_none.mp hf s hs ((containsRange_iff s addr size).mpr h)
  | some s =>
    have hs := List.mem_of_find?_eq_some hf
    have hr := (containsRange_iff s addr size).mp (List.find?_some (p := fun t : Seg => t.containsRange addr size) hf)
    cases hw : s.w with
    | true => simpa [hw] using ReadSpec.unknown s hs hr hw
    | false =>
      simp only [hw, Bool.false_eq_true, if_false]
      exact model_value s le addr size hr ▸ .value s hs hr hw

/-- **C19-read-exactly.** For disjoint segments and a non-empty range the specification admits
exactly one answer, so `read_satisfies_spec` determines the result ("exactly when"). -/
theorem readSpec_functional {segs : List Seg} (hd : Disjoint segs) {le : Bool} {addr size : Nat}
    (hpos : 0 < size) {r₁ r₂ : Res (Option Nat)}
    (h₁ : ReadSpec segs le addr size r₁) (h₂ : ReadSpec segs le addr size r₂) : r₁ = r₂ := by
  have uniq : ∀ {s t : Seg}, s ∈ segs → t ∈ segs → s.hasRange addr size → t.hasRange addr size → s = t :=
    fun hs ht hsr htr => disjoint_unique hd hs ht (hasRange_has hsr hpos) (hasRange_has htr hpos)
  cases h₁ with
  | value s hs hr hw =>
    cases h₂ with
    | value t ht hr' _ => rw [uniq hs ht hr hr']
    | unknown t ht hr' hw' => rw [uniq hs ht hr hr', hw'] at hw; cases hw
    | fail h => exact absurd hr (h s hs)
  | unknown s hs hr hw =>
    cases h₂ with
    | value t ht hr' hw' => rw [uniq hs ht hr hr', hw'] at hw; cases hw
    | unknown _ _ _ _ => rfl
    | fail h => exact absurd hr (h s hs)
  | fail h =>
    cases h₂ with
    | value t ht hr' _ => exact absurd hr' (h t ht)
    | unknown t ht hr' _ => exact absurd hr' (h t ht)
    | fail _ => rfl

/-- Both take the first segment that passes the same test, `specRead` as the head of a `filter`
and `read` by `find?`; overlap and empty ranges make no difference. -/
theorem specRead_eq_read (segs : List Seg) (le : Bool) (addr size : Nat) :
    specRead segs le addr size = read segs le addr size := by
  have hp : (fun s : Seg => decide (s.base ≤ addr) && decide (addr + size ≤ s.endAddr))
      = fun s => s.containsRange addr size :=
    funext fun s => by rw [Bool.eq_iff_iff, containsRange_iff]; simp [Seg.hasRange]
  unfold read specRead
  rw [hp, ← List.head?_filter]
  cases hf : segs.filter (fun s => s.containsRange addr size) with
  | nil => rfl
  | cons s _ =>
    have hs : s ∈ segs.filter (fun s => s.containsRange addr size) := hf ▸ List.mem_cons_self
    have hr := (containsRange_iff s addr size).mp (List.mem_filter.mp hs).2
    simp only [List.head?_cons, model_value s le addr size hr]

theorem specRead_satisfies_spec (segs : List Seg) (le : Bool) (addr size : Nat) :
    ReadSpec segs le addr size (specRead segs le addr size) :=
  specRead_eq_read .. ▸ read_satisfies_spec ..

/-- **C19-read-eq.** model = executable specification -/
theorem read_eq_specRead {segs : List Seg} (hd : Disjoint segs) (le : Bool) (addr size : Nat)
    (hpos : 0 < size) : read segs le addr size = specRead segs le addr size :=
  (specRead_eq_read ..).symm

theorem isGlobal_iff (segs : List Seg) (le : Bool) (addr size : Nat) :
    isGlobalMemoryAddress segs le addr size = true ↔ ∃ s ∈ segs, s.hasRange addr size := by
  have h := read_satisfies_spec segs le addr size
  unfold isGlobalMemoryAddress
  generalize read segs le addr size = r at h
  cases h with
  | value s hs hr _ => exact iff_of_true rfl ⟨s, hs, hr⟩
  | unknown s hs hr _ => exact iff_of_true rfl ⟨s, hs, hr⟩
  | fail hn => exact iff_of_false (fun h => nomatch h) fun ⟨s, hs, hr⟩ => hn s hs hr

/-- **C19-flags.** `is_address_writeable` reports the write flag of the segment containing the
address, and fails iff no segment contains it. -/
theorem isAddressWriteable_spec {segs : List Seg} (hd : Disjoint segs) (a : Nat) :
    (∀ s ∈ segs, s.has a → isAddressWriteable segs a = .ok s.w) ∧
    ((∀ s ∈ segs, ¬ s.has a) → isAddressWriteable segs a = .err) :=
  ⟨fun s hs hsa => by rw [isAddressWriteable, find_containsAddr hd hs hsa],
   fun hn => by rw [isAddressWriteable, find_containsAddr_none hn]⟩

/-- **C19-interval-flags.** interval queries report the flag of the segment containing the start
address if the interval end does not leave it, and fail otherwise. -/
theorem intervalFlag_spec {segs : List Seg} (hd : Disjoint segs) (flag : Seg → Bool) (a e : Nat) :
    (∀ s ∈ segs, s.has a → e ≤ s.endAddr → intervalFlag flag segs a e = .ok (flag s)) ∧
    (∀ s ∈ segs, s.has a → s.endAddr < e → intervalFlag flag segs a e = .err) ∧
    ((∀ s ∈ segs, ¬ s.has a) → intervalFlag flag segs a e = .err) :=
  ⟨fun s hs hsa he => by rw [intervalFlag, find_containsAddr hd hs hsa]; exact if_pos he,
   fun s hs hsa he => by rw [intervalFlag, find_containsAddr hd hs hsa]; exact if_neg (Nat.not_le.mpr he),
   fun hn => by rw [intervalFlag, find_containsAddr_none hn]⟩

/-- **C19-ro-pointer.** -/
theorem roDataPointer_spec {segs : List Seg} (hd : Disjoint segs) (a : Nat) :
    (∀ s ∈ segs, s.has a → roDataPointer segs a = if s.w then .err else .ok (s, a - s.base)) ∧
    ((∀ s ∈ segs, ¬ s.has a) → roDataPointer segs a = .err) :=
  ⟨fun s hs hsa => by rw [roDataPointer, find_containsAddr hd hs hsa],
   fun hn => by rw [roDataPointer, find_containsAddr_none hn]⟩

theorem nulPos_spec (bs : List Nat) (k : Nat) (hk : k < bs.length)
    (hz : bs.getD k 0 = 0) (hnz : ∀ j < k, bs.getD j 0 ≠ 0) : nulPos bs = some k := by
  induction bs generalizing k with
  | nil => cases hk
  | cons b bs ih =>
    cases k with
    | zero => exact if_pos hz
    | succ k =>
      rw [nulPos, if_neg (show b ≠ 0 from hnz 0 (Nat.succ_pos k)),
        ih k (Nat.lt_of_succ_lt_succ hk) hz fun j hj => hnz (j + 1) (Nat.succ_lt_succ hj)]
      rfl

theorem getD_drop (s : Seg) {a : Nat} (h : s.base ≤ a) (j : Nat) :
    (s.bytes.drop (a - s.base)).getD j 0 = s.byteAt (a + j) := by
  rw [Seg.byteAt, List.getD_eq_getElem?_getD, List.getD_eq_getElem?_getD, List.getElem?_drop,
    Nat.sub_add_comm h]

/-- **C19-string.** A string read at any address `a` inside a segment `s` (in particular inside
a read-only one), such that the first NUL at or after `a` within the segment is at `a + k` and
the bytes before it are valid UTF-8, returns exactly the bytes `[a, a+k)` of the segment — also
when another segment ends exactly at `a` (adjacent segments). -/
theorem readString_spec {segs : List Seg} (hd : Disjoint segs) (valid : List Nat → Bool)
    {s : Seg} (hs : s ∈ segs) {a k : Nat} (hsa : s.has a) (hk : a + k < s.endAddr)
    (hz : s.byteAt (a + k) = 0) (hnz : ∀ j < k, s.byteAt (a + j) ≠ 0)
    (hv : valid ((s.bytes.drop (a - s.base)).take k) = true) :
    readString valid segs a = .ok ((s.bytes.drop (a - s.base)).take k) := by
  have hnul : nulPos (s.bytes.drop (a - s.base)) = some k :=
    nulPos_spec _ k (by rw [List.length_drop]; have := hsa.1; rw [Seg.endAddr] at hk; omega)
      (getD_drop s hsa.1 k ▸ hz) fun j hj => getD_drop s hsa.1 j ▸ hnz j hj
  simp only [readString, find_containsAddr hd hs hsa, hnul, hv, if_true]

theorem readString_outside {segs : List Seg} (valid : List Nat → Bool) (a : Nat)
    (hn : ∀ s ∈ segs, ¬ s.has a) : readString valid segs a = .err := by
  rw [readString, find_containsAddr_none hn]

/-- **C19-offset.** shifting all segments shifts all queries -/
theorem read_addOffset (segs : List Seg) (le : Bool) (addr size off : Nat) :
    read (addOffset segs off) le (addr + off) size = read segs le addr size := by
  have hc : ∀ s : Seg, Seg.containsRange { s with base := s.base + off } (addr + off) size
      = s.containsRange addr size := by
    intro s
    rw [Bool.eq_iff_iff, containsRange_iff, containsRange_iff]
    simp only [Seg.hasRange, Seg.endAddr]
    omega
  simp only [read, addOffset, List.find?_map, Function.comp_def, hc]
  cases segs.find? (fun s => s.containsRange addr size) with
  | none => rfl
  | some s => simp only [Option.map_some, Nat.add_sub_add_right]

theorem addOffset_disjoint {segs : List Seg} (hd : Disjoint segs) (off : Nat) :
    Disjoint (addOffset segs off) := by
  unfold Disjoint addOffset at *
  rw [List.pairwise_map]
  refine hd.imp ?_
  intro a b h
  simp only [Seg.disjoint, Seg.endAddr] at *
  omega

/-! ### non-vacuity: a concrete adjacent-segment layout meets the hypotheses -/

def exSegs : List Seg :=
  [ { base := 0x1000, bytes := [1, 2, 3, 4], r := true, w := false, x := false },
    { base := 0x1004, bytes := [0x78, 0x79, 0], r := true, w := false, x := false },
    { base := 0x2000, bytes := [9, 9], r := true, w := true, x := false } ]

example : Disjoint exSegs := by
  simp [Disjoint, exSegs, Seg.disjoint, Seg.endAddr]
example : read exSegs true 0x1001 2 = .ok (some 0x0302) := by decide
example : read exSegs false 0x1001 2 = .ok (some 0x0203) := by decide
example : read exSegs true 0x1003 2 = .err := by decide          -- straddles two segments
example : read exSegs true 0x2000 2 = .ok none := by decide
example : readString (fun _ => true) exSegs 0x1004 = .ok [0x78, 0x79] := by decide

end CweModel.C19
