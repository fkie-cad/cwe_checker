/-
C07 — theorems.

Property C07: "For every graph and every monotone transfer system over a finite-height join lattice,
running the solver from given start values terminates with the least assignment that contains the
start values and is closed under all edge transfers, whatever node priority order is used. With a
step bound, no node is processed more often than the bound, and the solver reports 'stabilized'
only when the returned assignment is closed under all edge transfers."

`CweModel.Base.Fix` proves the statement for an abstract machine in which the node taken from the
worklist and the order of its out-edges are ARBITRARY. This file proves that the function-by-function
model of the Rust code (`Model.lean`: priorities, `BTreeSet` worklist, largest priority first, petgraph
edge order) refines that machine for EVERY permutation of the nodes as priority list: both loops are
instances of one loop with fuel, `runFuel`, and every iteration is a `Step` / `BStep`. From that it
concludes the property for the model. `kleene_least` justifies the executable specification the
driver evaluates on the implementation's output.
-/
import CweModel.C07.Model
namespace CweModel.C07
open CweModel.Fix

variable {V : Type}

theorem mem_insertSet {x p : Nat} {l : List Nat} : x ∈ insertSet p l ↔ x = p ∨ x ∈ l := by
  unfold insertSet
  split
  · constructor
    · exact Or.inr
    · rintro (rfl | h)
      · assumption
      · exact h
  · exact List.mem_cons

theorem maxPrio_mem : ∀ {l : List Nat} {p : Nat}, maxPrio l = some p → p ∈ l := by
  intro l
  induction l with
  | nil => intro p h; cases h
  | cons a rest ih =>
    intro p h
    unfold maxPrio at h
    split at h
    · next q hq =>
      cases h
      rw [Nat.max_def]
      split
      · exact List.mem_cons_of_mem _ (ih hq)
      · exact List.mem_cons_self ..
    · cases h; exact List.mem_cons_self ..

theorem nodeToIndex_some : ∀ (l : List Nat) (off node i : Nat), nodeToIndex l off node = some i →
    ∃ j, i = off + j ∧ l[j]? = some node := by
  intro l
  induction l with
  | nil => intro off node i h; cases h
  | cons x rest ih =>
    intro off node i h
    unfold nodeToIndex at h
    split at h
    · next i' hr =>
      cases h
      obtain ⟨j, hj, hget⟩ := ih _ _ _ hr
      exact ⟨j + 1, hj.trans (Nat.add_right_comm ..), hget⟩
    · split at h
      · next hx => cases h; exact ⟨0, rfl, congrArg some hx⟩
      · cases h

theorem nodeToIndex_isSome : ∀ (l : List Nat) (off node : Nat), node ∈ l →
    ∃ i, nodeToIndex l off node = some i := by
  intro l
  induction l with
  | nil => intro off node h; cases h
  | cons x rest ih =>
    intro off node h
    unfold nodeToIndex
    split
    · exact ⟨_, rfl⟩
    · next hr =>
      rcases List.mem_cons.mp h with rfl | h
      · exact ⟨off, if_pos rfl⟩
      · obtain ⟨i, hi⟩ := ih (off + 1) node h
        rw [hr] at hi; cases hi

theorem mkNodePrio_spec {prio : List Nat} {node : Nat} (h : node ∈ prio) :
    prio[mkNodePrio prio node]? = some node := by
  obtain ⟨i, hi⟩ := nodeToIndex_isSome prio 0 node h
  obtain ⟨j, hj, hget⟩ := nodeToIndex_some prio 0 node i hi
  rw [mkNodePrio, hi, hj, Nat.zero_add]
  exact hget

theorem mkNodePrio_inv (prio : List Nat) (node : Nat) (h : node ∈ prio) :
    prio.getD (mkNodePrio prio node) 0 = node := by
  rw [List.getD_eq_getElem?_getD, mkNodePrio_spec h]
  rfl

theorem mkNodePrio_lt (prio : List Nat) (node : Nat) (h : node ∈ prio) :
    mkNodePrio prio node < prio.length :=
  (List.getElem?_eq_some_iff.mp (mkNodePrio_spec h)).1

theorem mkNodePrio_getElem {prio : List Nat} (hnd : prio.Nodup) {p : Nat} (hp : p < prio.length) :
    mkNodePrio prio prio[p] = p :=
  (List.getElem_inj hnd).mp (List.getElem?_eq_some_iff.mp (mkNodePrio_spec (List.getElem_mem hp))).2

/-- the set of nodes `< n` whose priority is in the `BTreeSet` `l` -/
def absWl (n : Nat) (np : Nat → Nat) (l : List Nat) (i : Nat) : Bool := decide (np i ∈ l) && decide (i < n)

section AbsWl
variable {n : Nat} {np : Nat → Nat} (hinj : ∀ {i j}, i < n → j < n → np i = np j → i = j)
  {node : Nat} (hn : node < n) (l : List Nat)
include hinj hn

theorem absWl_insert :
    absWl n np (insertSet (np node) l) = fun i => if i = node then true else absWl n np l i := by
  funext i
  by_cases hi : i = node
  · simp [absWl, hi, hn, mem_insertSet]
  · by_cases hin : i < n
    · have : np i ≠ np node := fun h => hi (hinj hin hn h)
      simp [absWl, hi, hin, mem_insertSet, this]
    · simp [absWl, hi, hin]

theorem absWl_filter :
    absWl n np (l.filter (fun q => q ≠ np node)) = fun i => if i = node then false else absWl n np l i := by
  funext i
  by_cases hi : i = node
  · simp [absWl, hi]
  · by_cases hin : i < n
    · have : np i ≠ np node := fun h => hi (hinj hin hn h)
      simp [absWl, hi, hin, List.mem_filter, this]
    · simp [absWl, hi, hin]
end AbsWl

def absState (n : Nat) (c : Comp V) : State V :=
  { vals := c.vals
    wl := absWl n c.nodePrio c.worklist }

structure PrioOK (n : Nat) (c : Comp V) : Prop where
  inv : ∀ i, i < n → c.prioToNode.getD (c.nodePrio i) 0 = i
  wl  : ∀ p ∈ c.worklist, ∃ i, i < n ∧ c.nodePrio i = p

theorem PrioOK.inj {n : Nat} {c : Comp V} (h : PrioOK n c) {i j : Nat} (hi : i < n) (hj : j < n)
    (heq : c.nodePrio i = c.nodePrio j) : i = j := by
  have := h.inv i hi
  rw [heq, h.inv j hj] at this
  exact this.symm

theorem sim_setNodeValue {n : Nat} {c : Comp V} (h : PrioOK n c) {node : Nat} (hn : node < n) (v : V) :
    PrioOK n (c.setNodeValue node v) ∧
    absState n (c.setNodeValue node v) = (absState n c).setNodeValue node v :=
  ⟨⟨h.inv, fun p hp => (mem_insertSet.mp hp).elim (fun hp => ⟨node, hn, hp.symm⟩) (h.wl p)⟩,
   congrArg (State.mk _) (absWl_insert h.inj hn c.worklist)⟩

theorem absState_stabilized {n : Nat} {c : Comp V} (h : c.worklist = []) : (absState n c).stabilized := by
  intro i
  show absWl n c.nodePrio c.worklist i = false
  rw [h]; rfl

theorem absState_wlBounded (n : Nat) (c : Comp V) : WlBounded n (absState n c) :=
  fun _ hi => of_decide_eq_true (Bool.and_eq_true_iff.mp hi).2

variable [DecidableEq V]

theorem updateEdge_joint (P : Problem V) (c : Comp V) {s : State V} (hv : s.vals = c.vals) (e : Edge V) :
    (c.updateEdge P e = c ∧ updateEdge P s e = s) ∨
    ∃ v, c.updateEdge P e = c.setNodeValue e.dst v ∧ updateEdge P s e = s.setNodeValue e.dst v := by
  unfold Comp.updateEdge updateEdge Comp.mergeNodeValue mergeNodeValue
  rw [hv]
  cases c.vals e.src with
  | none => exact .inl ⟨rfl, rfl⟩
  | some a =>
    dsimp only
    cases e.f a with
    | none => exact .inl ⟨rfl, rfl⟩
    | some x =>
      dsimp only
      cases c.vals e.dst with
      | none => exact .inr ⟨_, rfl, rfl⟩
      | some old =>
        dsimp only
        split
        · exact .inr ⟨_, rfl, rfl⟩
        · exact .inl ⟨rfl, rfl⟩

theorem Comp.updateEdge_shape (P : Problem V) (c : Comp V) (e : Edge V) :
    c.updateEdge P e = c ∨ ∃ v, c.updateEdge P e = c.setNodeValue e.dst v :=
  (updateEdge_joint P c (s := ⟨c.vals, fun _ => false⟩) rfl e).imp And.left fun ⟨v, h, _⟩ => ⟨v, h⟩

theorem sim_updateEdge (P : Problem V) {n : Nat} {c : Comp V} (h : PrioOK n c) (e : Edge V)
    (he : e.dst < n) :
    PrioOK n (c.updateEdge P e) ∧ absState n (c.updateEdge P e) = updateEdge P (absState n c) e := by
  rcases updateEdge_joint P c (s := absState n c) rfl e with ⟨h1, h2⟩ | ⟨v, h1, h2⟩ <;> rw [h1, h2]
  · exact ⟨h, rfl⟩
  · exact sim_setNodeValue h he v

omit [DecidableEq V] in
theorem outEdges_ok (P : Problem V) (node : Nat) : OutEdges P node (outEdges P node) :=
  ⟨fun e he => (outEdges_filter P node).1 e (List.mem_reverse.mp he),
   fun e he hp => List.mem_reverse.mpr ((outEdges_filter P node).2 e he hp)⟩

theorem sim_updateNode (P : Problem V) {n : Nat} (hW : WellFormed P n) {c : Comp V} (h : PrioOK n c)
    (node : Nat) :
    PrioOK n (c.updateNode P node) ∧
    absState n (c.updateNode P node) = updateEdges P (absState n c) (outEdges P node) := by
  have hes : ∀ e ∈ outEdges P node, e.dst < n := fun e he => (hW e ((outEdges_ok P node).1 e he).1).2
  unfold Comp.updateNode
  generalize outEdges P node = es at hes
  induction es generalizing c with
  | nil => exact ⟨h, rfl⟩
  | cons e es ih =>
    obtain ⟨h1, h2⟩ := sim_updateEdge P h e (hes e (List.mem_cons_self ..))
    obtain ⟨h3, h4⟩ := ih h1 (fun e' he' => hes e' (List.mem_cons_of_mem _ he'))
    exact ⟨h3, h4.trans (congrArg (updateEdges P · es) h2)⟩

omit [DecidableEq V] in
theorem popMax_some {c c' : Comp V} {p : Nat} (h : c.popMax = some (p, c')) :
    p ∈ c.worklist ∧ c' = { c with worklist := c.worklist.filter (fun q => q ≠ p) } := by
  unfold Comp.popMax at h
  split at h
  · next q hq => cases h; exact ⟨maxPrio_mem hq, rfl⟩
  · cases h

omit [DecidableEq V] in
theorem popMax_isNone (c : Comp V) : c.popMax.isNone = c.worklist.isEmpty := by
  unfold Comp.popMax
  cases c.worklist with
  | nil => rfl
  | cons a l => unfold maxPrio; cases maxPrio l <;> rfl

omit [DecidableEq V] in
theorem popMax_none {c : Comp V} (h : c.popMax = none) : c.worklist = [] :=
  List.isEmpty_iff.mp ((popMax_isNone c).symm.trans (congrArg Option.isNone h))

omit [DecidableEq V] in
/-- taking the largest priority out of the `BTreeSet` removes exactly its node from the abstract
worklist -/
theorem sim_popMax {n : Nat} {c c' : Comp V} (h : PrioOK n c) {p : Nat} (hp : c.popMax = some (p, c')) :
    let node := c.prioToNode.getD p 0
    node < n ∧ (absState n c).wl node = true ∧ PrioOK n c' ∧ absState n c' = (absState n c).remove node ∧
    c.nodePrio node = p ∧ c'.nodePrio = c.nodePrio := by
  obtain ⟨hmem, rfl⟩ := popMax_some hp
  obtain ⟨i, hi, rfl⟩ := h.wl p hmem
  dsimp only
  rw [h.inv i hi]
  exact ⟨hi, Bool.and_eq_true_iff.mpr ⟨decide_eq_true hmem, decide_eq_true hi⟩,
    ⟨h.inv, fun q hq => h.wl q (List.mem_filter.mp hq).1⟩,
    congrArg (State.mk _) (absWl_filter h.inj hi c.worklist), rfl, rfl⟩

/-- `while let Some(b) = next(a) { a = b }` with fuel; the flag says that the loop ended by itself.
Both loops of the model are of this form (`compute_eq`, `loop_eq`). -/
def runFuel {α : Type} (next : α → Option α) : Nat → α → α × Bool
  | 0, a => (a, (next a).isNone)
  | fuel + 1, a =>
    match next a with
    | some b => runFuel next fuel b
    | none => (a, true)

section RunFuel
variable {α : Type} {next : α → Option α} {J : α → Prop}

theorem runFuel_reaches {R : α → α → Prop} (hrefl : ∀ a, R a a)
    (hstep : ∀ a b, J a → next a = some b → J b ∧ ∀ c, R b c → R a c) :
    ∀ (fuel : Nat) (a a' : α), J a → runFuel next fuel a = (a', true) → R a a' ∧ J a' ∧ next a' = none := by
  intro fuel
  induction fuel with
  | zero =>
    intro a a' hJ h
    obtain ⟨rfl, hn⟩ := Prod.mk.inj h
    exact ⟨hrefl a, hJ, Option.isNone_iff_eq_none.mp hn⟩
  | succ fuel ih =>
    intro a a' hJ h
    unfold runFuel at h
    split at h
    · next b hb =>
      obtain ⟨hJb, hR⟩ := hstep a b hJ hb
      obtain ⟨r, hJ', hn⟩ := ih b a' hJb h
      exact ⟨hR a' r, hJ', hn⟩
    · next hn =>
      obtain ⟨rfl, -⟩ := Prod.mk.inj h
      exact ⟨hrefl a, hJ, hn⟩

theorem runFuel_ends {μ : α → Nat} (hstep : ∀ a b, J a → next a = some b → J b ∧ μ b < μ a) :
    ∀ (fuel : Nat) (a : α), J a → μ a ≤ fuel → (runFuel next fuel a).2 = true := by
  intro fuel
  induction fuel with
  | zero =>
    intro a hJ hμ
    cases hn : next a with
    | none => exact congrArg Option.isNone hn
    | some b => exact absurd (Nat.lt_of_lt_of_le (hstep a b hJ hn).2 hμ) (Nat.not_lt_zero _)
  | succ fuel ih =>
    intro a hJ hμ
    unfold runFuel
    split
    · next b hb =>
      obtain ⟨hJb, hlt⟩ := hstep a b hJ hb
      exact ih b hJb (Nat.le_of_lt_succ (Nat.lt_of_lt_of_le hlt hμ))
    · rfl
end RunFuel

def Comp.next (P : Problem V) (c : Comp V) : Option (Comp V) :=
  c.popMax.map fun x => x.2.updateNode P (c.prioToNode.getD x.1 0)

theorem compute_eq (P : Problem V) (fuel : Nat) (c : Comp V) :
    Comp.compute P fuel c = runFuel (Comp.next P) fuel c := by
  induction fuel generalizing c with
  | zero => exact congrArg (Prod.mk c) ((popMax_isNone c).symm.trans Option.isNone_map.symm)
  | succ fuel ih =>
    unfold Comp.compute runFuel Comp.next Comp.takeNext
    cases c.popMax with
    | none => rfl
    | some x => exact ih _

theorem sim_iteration (P : Problem V) {n : Nat} (hW : WellFormed P n) {c c' : Comp V} (h : PrioOK n c)
    (hn : c.next P = some c') : PrioOK n c' ∧ Step P (absState n c) (absState n c') := by
  obtain ⟨⟨p, c1⟩, hp, rfl⟩ := Option.map_eq_some_iff.mp hn
  obtain ⟨_, hwl, hok, habs, _, _⟩ := sim_popMax h hp
  obtain ⟨hok2, habs2⟩ := sim_updateNode P hW hok (c.prioToNode.getD p 0)
  rw [habs2, habs]
  exact ⟨hok2, Step.mk _ _ _ hwl (outEdges_ok P _)⟩

/-- **refinement of `compute`**: if the loop of the model ends by itself, the final state is reached
by a run of the abstract machine and its worklist is empty. -/
theorem compute_run (P : Problem V) {n : Nat} (hW : WellFormed P n) :
    ∀ (fuel : Nat) (c c' : Comp V), PrioOK n c → Comp.compute P fuel c = (c', true) →
      Run P (absState n c) (absState n c') ∧ c'.worklist = [] ∧ PrioOK n c' := by
  intro fuel c c' h hc
  rw [compute_eq] at hc
  obtain ⟨hrun, hok, hn⟩ := runFuel_reaches (R := fun a b => Run P (absState n a) (absState n b))
    (fun a => Run.refl P _)
    (fun a b hJ hab => ⟨(sim_iteration P hW hJ hab).1, fun _ => Run.head (sim_iteration P hW hJ hab).2⟩)
    fuel c c' h hc
  exact ⟨hrun, popMax_none (Option.map_eq_none_iff.mp hn), hok⟩

omit [DecidableEq V] in
theorem nodePrio_setNodeValue (c : Comp V) (node : Nat) (v : V) :
    (c.setNodeValue node v).nodePrio = c.nodePrio := rfl

theorem nodePrio_updateNode (P : Problem V) (c : Comp V) (node : Nat) :
    (c.updateNode P node).nodePrio = c.nodePrio := by
  unfold Comp.updateNode
  generalize outEdges P node = es
  induction es generalizing c with
  | nil => rfl
  | cons e es ih =>
    refine (ih (c.updateEdge P e)).trans ?_
    rcases c.updateEdge_shape P e with h | ⟨v, h⟩
    · rw [h]
    · rw [h, nodePrio_setNodeValue]

def absB (n : Nat) (b : BComp V) : BState V :=
  { st := absState n b.c
    steps := b.steps
    nonStab := absWl n b.c.nodePrio b.nonStab }

/-- `PrioOK` for the bounded loop: `non_stabilized_nodes` holds priorities of nodes, too -/
def BOK (n : Nat) (b : BComp V) : Prop :=
  PrioOK n b.c ∧ ∀ q ∈ b.nonStab, ∃ i, i < n ∧ b.c.nodePrio i = q

def BComp.next (P : Problem V) (k : Nat) (b : BComp V) : Option (BComp V) :=
  b.c.popMax.map fun x =>
    let node := b.c.prioToNode.getD x.1 0
    if b.steps node < k then
      { c := x.2.updateNode P node
        steps := fun i => if i = node then b.steps i + 1 else b.steps i
        nonStab := b.nonStab }
    else { c := x.2, steps := b.steps, nonStab := insertSet x.1 b.nonStab }

theorem loop_eq (P : Problem V) (k fuel : Nat) (b : BComp V) :
    BComp.loop P k fuel b = runFuel (BComp.next P k) fuel b := by
  induction fuel generalizing b with
  | zero => exact congrArg (Prod.mk b) ((popMax_isNone b.c).symm.trans Option.isNone_map.symm)
  | succ fuel ih =>
    rw [BComp.loop, runFuel, BComp.next]
    cases b.c.popMax with
    | none => rfl
    | some x => exact (apply_ite (BComp.loop P k fuel) ..).symm.trans (ih _)

theorem sim_next (P : Problem V) {n : Nat} (hW : WellFormed P n) (k : Nat) {b b' : BComp V} (h : BOK n b)
    (hn : b.next P k = some b') : BOK n b' ∧ BStep P k (absB n b) (absB n b') := by
  obtain ⟨⟨p, c1⟩, hp, rfl⟩ := Option.map_eq_some_iff.mp hn
  obtain ⟨hnode, hwl, hok1, habs1, hnp, hnp1⟩ := sim_popMax h.1 hp
  generalize b.c.prioToNode.getD p 0 = node at *
  show BOK n (if b.steps node < k then _ else _) ∧ BStep P k _ (absB n (if b.steps node < k then _ else _))
  by_cases hlt : b.steps node < k
  · rw [if_pos hlt]
    obtain ⟨hok2, habs2⟩ := sim_updateNode P hW hok1 node
    have hnp2 := (nodePrio_updateNode P c1 node).trans hnp1
    refine ⟨⟨hok2, hnp2 ▸ h.2⟩, ?_⟩
    show BStep P k (absB n b) ⟨absState n (c1.updateNode P node), _,
      absWl n (c1.updateNode P node).nodePrio b.nonStab⟩
    rw [habs2, habs1, hnp2]
    exact BStep.process (absB n b) node _ hwl hlt (outEdges_ok P node)
  · rw [if_neg hlt]
    refine ⟨⟨hok1, fun q hq => ?_⟩, ?_⟩
    · rw [hnp1]
      exact (mem_insertSet.mp hq).elim (fun hq => ⟨node, hnode, hnp.trans hq.symm⟩) (h.2 q)
    · show BStep P k (absB n b) ⟨absState n c1, _, absWl n c1.nodePrio (insertSet p b.nonStab)⟩
      rw [habs1, hnp1, ← hnp, absWl_insert h.1.inj hnode]
      exact BStep.giveUp (absB n b) node hwl hlt

/-- **refinement of `compute_with_max_steps`**: if the loop of the model ends by itself, the final
state is reached by a bounded run of the abstract machine and its worklist is empty. -/
theorem loop_run (P : Problem V) {n : Nat} (hW : WellFormed P n) (k : Nat) :
    ∀ (fuel : Nat) (b b' : BComp V), PrioOK n b.c →
      (∀ q ∈ b.nonStab, ∃ i, i < n ∧ b.c.nodePrio i = q) → BComp.loop P k fuel b = (b', true) →
      BRun P k (absB n b) (absB n b') ∧ b'.c.worklist = [] ∧ PrioOK n b'.c ∧
      (∀ q ∈ b'.nonStab, ∃ i, i < n ∧ b'.c.nodePrio i = q) := by
  intro fuel b b' h hns hc
  rw [loop_eq] at hc
  obtain ⟨hrun, hok, hn⟩ := runFuel_reaches (R := fun a b => BRun P k (absB n a) (absB n b)) (J := BOK n)
    (fun a => .refl _)
    (fun a b hJ hab => ⟨(sim_next P hW k hJ hab).1, fun _ => .step (sim_next P hW k hJ hab).2⟩)
    fuel b b' ⟨h, hns⟩ hc
  exact ⟨hrun, popMax_none (Option.map_eq_none_iff.mp hn), hok⟩

theorem loop_ends (P : Problem V) {n : Nat} (hW : WellFormed P n) (k : Nat) {μ : BComp V → Nat}
    (hμ : ∀ b b', BOK n b → b.next P k = some b' → μ b' < μ b) (fuel : Nat) (b : BComp V) (h : BOK n b)
    (hm : μ b ≤ fuel) : (BComp.loop P k fuel b).2 = true := by
  rw [loop_eq]
  exact runFuel_ends (fun a b hJ hab => ⟨(sim_next P hW k hJ hab).1, hμ a b hJ hab⟩) fuel b h hm

/-- a priority order of a graph with `n` nodes: every node occurs exactly once -/
structure IsPriorityOrder (n : Nat) (prio : List Nat) : Prop where
  nodup : prio.Nodup
  len   : prio.length = n
  all   : ∀ i, i < n → i ∈ prio
  lt    : ∀ x ∈ prio, x < n

omit [DecidableEq V] in
theorem from_ok {n : Nat} {prio : List Nat} (hp : IsPriorityOrder n prio) (default : Option V) :
    PrioOK n (fromNodePriorityList default prio) ∧ Init (absState n (fromNodePriorityList default prio)) := by
  refine ⟨⟨fun i hi => mkNodePrio_inv prio i (hp.all i hi), fun p hpw => ?_⟩, fun i a ha => ?_⟩
  · cases default with
    | none => cases hpw
    | some d =>
      have hpl : p < prio.length := List.mem_range.mp hpw
      exact ⟨prio[p], hp.lt _ (List.getElem_mem hpl), mkNodePrio_getElem hp.nodup hpl⟩
  · cases default with
    | none => cases ha
    | some d =>
      have ha : (if i < prio.length then some d else none) = some a := ha
      split at ha
      · next hil =>
        have hin : i < n := hp.len ▸ hil
        exact Bool.and_eq_true_iff.mpr
          ⟨decide_eq_true (List.mem_range.mpr (mkNodePrio_lt prio i (hp.all i hin))), decide_eq_true hin⟩
      · cases ha

omit [DecidableEq V] in
theorem init_setNodeValue {s : State V} (h : Init s) (node : Nat) (v : V) : Init (s.setNodeValue node v) := by
  intro i a ha
  by_cases hi : i = node
  · rw [hi]; exact s.setNodeValue_wl_self v
  · rw [s.setNodeValue_wl_of_ne v hi]
    exact h i a ((s.setNodeValue_vals_of_ne v hi).symm.trans ha)

omit [DecidableEq V] in
theorem init_ok {n : Nat} {prio : List Nat} (hp : IsPriorityOrder n prio) (default : Option V)
    (start : List (Nat × V)) (hs : ∀ x ∈ start, x.1 < n) :
    PrioOK n (Comp.init default prio start) ∧ Init (absState n (Comp.init default prio start)) := by
  unfold Comp.init
  have := from_ok hp default
  generalize fromNodePriorityList default prio = c at this
  induction start generalizing c with
  | nil => exact this
  | cons x rest ih =>
    obtain ⟨h1, h2⟩ := sim_setNodeValue this.1 (hs x (List.mem_cons_self ..)) x.2
    exact ih (fun y hy => hs y (List.mem_cons_of_mem _ hy)) _ ⟨h1, h2 ▸ init_setNodeValue this.2 _ _⟩

omit [DecidableEq V] in
theorem foldl_setNodeValue_vals (start : List (Nat × V)) : ∀ (c : Comp V),
    (start.foldl (fun c x => c.setNodeValue x.1 x.2) c).vals =
      start.foldl (fun (A : Assign V) x => fun i => if i = x.1 then some x.2 else A i) c.vals := by
  induction start with
  | nil => intro c; rfl
  | cons x rest ih => intro c; exact ih _

omit [DecidableEq V] in
theorem init_vals (default : Option V) (prio : List Nat) (start : List (Nat × V)) :
    (Comp.init default prio start).vals = startVals default prio.length start :=
  foldl_setNodeValue_vals start _

section Main
variable (P : Problem V) (hL : IsSemilattice P.join) {n : Nat} (hW : WellFormed P n)
include hL hW

/-- **C07 (unbounded solver, model of the Rust code).** For every problem over a join-semilattice
with monotone transfers, every priority order `prio` of the nodes, every optional default value and
every list of start values: if `compute` returns, the node values are THE least assignment that
contains the start values and is closed under all edge transfers. -/
theorem compute_least (hM : Monotone P) {prio : List Nat} (hp : IsPriorityOrder n prio) (default : Option V)
    (start : List (Nat × V)) (hs : ∀ x ∈ start, x.1 < n) (fuel : Nat) (c' : Comp V)
    (h : Comp.compute P fuel (Comp.init default prio start) = (c', true)) :
    IsLeastClosedAbove P (startVals default n start) c'.vals ∧ c'.hasStabilized = true := by
  obtain ⟨hok, hinit⟩ := init_ok hp default start hs
  obtain ⟨hrun, hemp, _⟩ := compute_run P hW fuel _ _ hok h
  have := run_least hL hM hinit hrun (absState_stabilized hemp)
  rw [show (absState n (Comp.init default prio start)).vals = _ from init_vals default prio start, hp.len] at this
  exact ⟨this, by simp [Comp.hasStabilized, hemp]⟩

/-- **C07, "whatever node priority order is used".** Two priority orders give the same result. -/
theorem compute_order_independent (hM : Monotone P) {prio₁ prio₂ : List Nat} (hp₁ : IsPriorityOrder n prio₁)
    (hp₂ : IsPriorityOrder n prio₂) (default : Option V) (start : List (Nat × V)) (hs : ∀ x ∈ start, x.1 < n)
    (fuel₁ fuel₂ : Nat) (c₁ c₂ : Comp V)
    (h₁ : Comp.compute P fuel₁ (Comp.init default prio₁ start) = (c₁, true))
    (h₂ : Comp.compute P fuel₂ (Comp.init default prio₂ start) = (c₂, true)) : c₁.vals = c₂.vals :=
  (compute_least P hL hW hM hp₁ default start hs fuel₁ c₁ h₁).1.unique hL
    (compute_least P hL hW hM hp₂ default start hs fuel₂ c₂ h₂).1

/-- **C07, termination.** Over a lattice of height `H` (rank function, see `Fix.ranked_of_chains`)
`compute` returns after at most `n·(2H+3)` iterations of its loop, for every priority order. -/
theorem compute_terminates {H : Nat} {rank : V → Nat} (hR : Ranked P H rank) {prio : List Nat}
    (hp : IsPriorityOrder n prio) (default : Option V) (start : List (Nat × V)) (hs : ∀ x ∈ start, x.1 < n)
    (fuel : Nat) (hfuel : n * (2 * H + 3) ≤ fuel) :
    (Comp.compute P fuel (Comp.init default prio start)).2 = true :=
  (compute_eq P fuel _).symm ▸ runFuel_ends (μ := fun c => measure n H rank (absState n c))
    (fun a _ hJ hab => ⟨(sim_iteration P hW hJ hab).1,
      (sim_iteration P hW hJ hab).2.measure_lt hL hR (absState_wlBounded n a)⟩)
    fuel _ (init_ok hp default start hs).1 (Nat.le_trans (measure_le n H rank _) hfuel)

omit hL in
/-- `loop_run` for `compute_with_max_steps` as a whole; what is said about its result comes from
this run by one lemma of `Fix`. -/
theorem bounded_run {c : Comp V} (hok : PrioOK n c) {k fuel : Nat}
    (h : (c.computeWithMaxSteps P k fuel).2.2 = true) :
    let b := (BComp.loop P k fuel ⟨c, fun _ => 0, []⟩).1
    BRun P k (BState.start (absState n c)) (absB n b) ∧ (absState n b.c).stabilized ∧
    PrioOK n (c.computeWithMaxSteps P k fuel).1 := by
  obtain ⟨hrun, hemp, hok', hns'⟩ := loop_run P hW k fuel ⟨c, fun _ => 0, []⟩ _ hok
    (fun _ hq => nomatch hq) (Prod.ext rfl h)
  exact ⟨hrun, absState_stabilized hemp, hok'.inv, hns'⟩

omit hL in
/-- The counter is compared with `k` before every `update_node`, whatever the transfers and the
join do. -/
theorem computeWithMaxSteps_steps_le {c : Comp V} (hok : PrioOK n c) {k fuel : Nat}
    (h : (c.computeWithMaxSteps P k fuel).2.2 = true) (i : Nat) :
    (c.computeWithMaxSteps P k fuel).2.1 i ≤ k :=
  (bounded_run P hW hok h).1.steps_le (fun _ => Nat.zero_le _) i

/-- **C07, bounded variant: no node is processed more often than the bound.** (`steps[node]` is
incremented exactly when `update_node(node)` is called.) -/
theorem bounded_steps_le (hM : Monotone P) {prio : List Nat} (hp : IsPriorityOrder n prio) (default : Option V)
    (start : List (Nat × V)) (hs : ∀ x ∈ start, x.1 < n) (k fuel : Nat)
    (h : (Comp.computeWithMaxSteps P k fuel (Comp.init default prio start)).2.2 = true) (i : Nat) :
    (Comp.computeWithMaxSteps P k fuel (Comp.init default prio start)).2.1 i ≤ k :=
  computeWithMaxSteps_steps_le P hW (init_ok hp default start hs).1 h i

/-- **C07, bounded variant: intermediate results lie between the start values and the least
solution** (every closed assignment above the start values dominates them). -/
theorem bounded_between_start_and_least (hM : Monotone P) {prio : List Nat} (hp : IsPriorityOrder n prio)
    (default : Option V) (start : List (Nat × V)) (hs : ∀ x ∈ start, x.1 < n) (k fuel : Nat)
    (h : (Comp.computeWithMaxSteps P k fuel (Comp.init default prio start)).2.2 = true) :
    Assign.le P (startVals default n start) (Comp.computeWithMaxSteps P k fuel (Comp.init default prio start)).1.vals ∧
    ∀ S, Closed P S → Assign.le P (startVals default n start) S →
      Assign.le P (Comp.computeWithMaxSteps P k fuel (Comp.init default prio start)).1.vals S := by
  rw [← hp.len, ← init_vals default prio start]
  exact bounded_between hL hM (bounded_run P hW (init_ok hp default start hs).1 h).1

/-- Monotone transfers are needed for leastness only. -/
theorem computeWithMaxSteps_closed {c : Comp V} (hok : PrioOK n c) (hinit : Init (absState n c))
    {k fuel : Nat} (h : (c.computeWithMaxSteps P k fuel).2.2 = true)
    (hst : (c.computeWithMaxSteps P k fuel).1.hasStabilized = true) :
    Closed P (c.computeWithMaxSteps P k fuel).1.vals :=
  have ⟨hrun, hdone, _⟩ := bounded_run P hW hok h
  bounded_closed_of_stabilized hL hinit hrun hdone
    (absState_stabilized (c := Comp.mk ..) (List.isEmpty_iff.mp hst))

/-- **C07, bounded variant: `has_stabilized` ⇒ closed** — and then the result is even the least
closed assignment above the start values, as for `compute`. -/
theorem bounded_stabilized_closed (hM : Monotone P) {prio : List Nat} (hp : IsPriorityOrder n prio)
    (default : Option V) (start : List (Nat × V)) (hs : ∀ x ∈ start, x.1 < n) (k fuel : Nat)
    (h : (Comp.computeWithMaxSteps P k fuel (Comp.init default prio start)).2.2 = true)
    (hst : (Comp.computeWithMaxSteps P k fuel (Comp.init default prio start)).1.hasStabilized = true) :
    Closed P (Comp.computeWithMaxSteps P k fuel (Comp.init default prio start)).1.vals ∧
    IsLeastClosedAbove P (startVals default n start)
      (Comp.computeWithMaxSteps P k fuel (Comp.init default prio start)).1.vals :=
  have ⟨hok, hinit⟩ := init_ok hp default start hs
  have hc := computeWithMaxSteps_closed P hL hW hok hinit h hst
  ⟨hc, hc, bounded_between_start_and_least P hL hW hM hp default start hs k fuel h⟩

/-- the bounded loop ends by itself within `n·(2H+3)` iterations over a lattice of height `H` -/
theorem bounded_terminates {H : Nat} {rank : V → Nat} (hR : Ranked P H rank) {prio : List Nat}
    (hp : IsPriorityOrder n prio) (default : Option V) (start : List (Nat × V)) (hs : ∀ x ∈ start, x.1 < n)
    (k fuel : Nat) (hfuel : n * (2 * H + 3) ≤ fuel) :
    (Comp.computeWithMaxSteps P k fuel (Comp.init default prio start)).2.2 = true :=
  loop_ends P hW k (μ := fun b => measure n H rank (absB n b).st)
    (fun a _ hJ hab => (sim_next P hW k hJ hab).2.measure_lt hL hR (absState_wlBounded n a.c))
    fuel _ ⟨(init_ok hp default start hs).1, fun _ hq => nomatch hq⟩
    (Nat.le_trans (measure_le n H rank _) hfuel)

/-- **resuming**: `compute_with_max_steps(k)` followed by `compute()` yields the least solution of
the ORIGINAL start values (the state the bounded variant leaves behind is a valid solver state). -/
theorem resume_least (hM : Monotone P) {prio : List Nat} (hp : IsPriorityOrder n prio) (default : Option V)
    (start : List (Nat × V)) (hs : ∀ x ∈ start, x.1 < n) (k fuel fuel' : Nat)
    (h : (Comp.computeWithMaxSteps P k fuel (Comp.init default prio start)).2.2 = true) (c' : Comp V)
    (h' : Comp.compute P fuel' (Comp.computeWithMaxSteps P k fuel (Comp.init default prio start)).1 = (c', true)) :
    IsLeastClosedAbove P (startVals default n start) c'.vals := by
  obtain ⟨hok, hinit⟩ := init_ok hp default start hs
  obtain ⟨hrun, hdone, hok'⟩ := bounded_run P hW hok h
  obtain ⟨hge, hle⟩ := bounded_between_start_and_least P hL hW hM hp default start hs k fuel h
  obtain ⟨hrun', hemp, -⟩ := compute_run P hW fuel' _ _ hok' h'
  exact run_least_of_between hL hM (hrun.finish_inv hL hinit hdone) hge hle hrun' (absState_stabilized hemp)

end Main

theorem length_insertSet_le (p : Nat) (l : List Nat) : (insertSet p l).length ≤ l.length + 1 := by
  unfold insertSet
  split
  · exact Nat.le_succ _
  · exact Nat.le_refl _

theorem length_updateNode_le (P : Problem V) (c : Comp V) (node : Nat) :
    (c.updateNode P node).worklist.length ≤ c.worklist.length + P.edges.length := by
  have hes : (outEdges P node).length ≤ P.edges.length := by
    rw [outEdges, List.length_reverse]
    exact List.length_filter_le _ _
  refine Nat.le_trans ?_ (Nat.add_le_add_left hes _)
  unfold Comp.updateNode
  generalize outEdges P node = es
  induction es generalizing c with
  | nil => exact Nat.le_refl _
  | cons e es ih =>
    have h1 : (c.updateEdge P e).worklist.length ≤ c.worklist.length + 1 := by
      rcases c.updateEdge_shape P e with h | ⟨v, h⟩ <;> rw [h]
      · exact Nat.le_succ _
      · exact length_insertSet_le _ _
    exact Nat.le_trans (ih _) (Nat.le_trans (Nat.add_le_add_right h1 _) (Nat.le_of_eq (Nat.add_right_comm ..)))

omit [DecidableEq V] in
theorem length_popMax {c c' : Comp V} {p : Nat} (hp : c.popMax = some (p, c')) :
    c'.worklist.length < c.worklist.length := by
  obtain ⟨hmem, rfl⟩ := popMax_some hp
  exact List.length_filter_lt_length_iff_exists.mpr ⟨p, hmem, by simp⟩

/-- termination measure of the bounded loop: worklist size plus `(|E|+1)` for every processing step
that is still allowed -/
def bmeasure (P : Problem V) (n k : Nat) (b : BComp V) : Nat :=
  b.c.worklist.length + (P.edges.length + 1) * sumTo n (fun i => k - b.steps i)

/-- processing a node costs one of its `k` turns, worth `E + 1`, and brings at most `E` nodes back -/
theorem bmeasure_arith {w w1 w2 E S S' : Nat} (h1 : w1 < w) (h2 : w2 ≤ w1 + E) (h3 : S' < S) :
    w2 + (E + 1) * S' < w + (E + 1) * S := by
  have := Nat.mul_le_mul_left (E + 1) h3
  rw [Nat.mul_succ] at this
  omega

theorem next_bmeasure (P : Problem V) {n : Nat} (k : Nat) {b b' : BComp V} (h : PrioOK n b.c)
    (hn : b.next P k = some b') : bmeasure P n k b' < bmeasure P n k b := by
  obtain ⟨⟨p, c1⟩, hp, rfl⟩ := Option.map_eq_some_iff.mp hn
  have hnode := (sim_popMax h hp).1
  have hlen := length_popMax hp
  dsimp only
  generalize b.c.prioToNode.getD p 0 = node at *
  split
  · next hlt =>
    refine bmeasure_arith hlen (length_updateNode_le P c1 node) (sumTo_lt (p := node) (fun i => ?_) hnode ?_)
    · refine Nat.sub_le_sub_left (?_ : b.steps i ≤ if i = node then b.steps i + 1 else b.steps i) k
      split
      · exact Nat.le_succ _
      · exact Nat.le_refl _
    · show k - (if node = node then _ else _) < _
      rw [if_pos rfl]; exact Nat.sub_succ_lt_self k _ hlt
  · exact Nat.add_lt_add_right hlen _

/-- **C07, bounded variant terminates for every lattice**: `compute_with_max_steps(k)` returns after at
most `|worklist₀| + (|E|+1)·n·k` loop iterations — this is what the step bound is for. -/
theorem bounded_terminates_any_lattice (P : Problem V) {n : Nat} (hW : WellFormed P n) {prio : List Nat}
    (hp : IsPriorityOrder n prio) (default : Option V) (start : List (Nat × V)) (hs : ∀ x ∈ start, x.1 < n)
    (k fuel : Nat)
    (hfuel : (Comp.init default prio start).worklist.length + (P.edges.length + 1) * (n * k) ≤ fuel) :
    (Comp.computeWithMaxSteps P k fuel (Comp.init default prio start)).2.2 = true :=
  loop_ends P hW k (fun _ _ hJ hab => next_bmeasure P k hJ.1 hab)
    fuel _ ⟨(init_ok hp default start hs).1, fun _ hq => nomatch hq⟩
    (Nat.le_trans (Nat.add_le_add_left (Nat.mul_le_mul_left _ (sumTo_bound fun _ => Nat.sub_le ..)) _) hfuel)

theorem satB_sound (P : Problem V) (S : Assign V) (e : Edge V) (h : satB P S e = true) : Sat P S e := by
  intro a x ha hx
  unfold satB at h
  rw [ha] at h
  dsimp only at h
  rw [hx] at h
  dsimp only at h
  cases hb : S e.dst with
  | none => rw [hb] at h; cases h
  | some b =>
    rw [hb] at h
    exact ⟨b, rfl, of_decide_eq_true (p := P.join x b = b) h⟩

theorem closedB_sound (P : Problem V) (S : Assign V) (h : closedB P S = true) : Closed P S := by
  intro e he
  exact satB_sound P S e (List.all_eq_true.mp h e he)

theorem kleene_between (P : Problem V) (hL : IsSemilattice P.join) (hM : Monotone P) (fuel : Nat) (S : Assign V) :
    Assign.le P S (kleene P fuel S) ∧
    ∀ T, Closed P T → Assign.le P S T → Assign.le P (kleene P fuel S) T := by
  induction fuel generalizing S with
  | zero => exact ⟨Assign.le_refl hL S, fun _ _ h => h⟩
  | succ fuel ih =>
    unfold kleene
    split
    · exact ⟨Assign.le_refl hL S, fun _ _ h => h⟩
    · have hev := Evolves.of_updateEdges (P := P) (s := ⟨S, fun _ => false⟩) (fun _ h => h) (.refl _)
      obtain ⟨h1, h2⟩ := ih (updateEdges P ⟨S, fun _ => false⟩ P.edges).vals
      exact ⟨Assign.le_trans hL (hev.grows hL) h1, fun T hT h => h2 T hT (hev.le_of_closed hL hM hT h)⟩

/-- **executable specification**: whenever the Kleene iteration of the driver ends in a closed
assignment, that assignment is the least closed assignment above the start values — the value the
theorems above say `compute` returns. -/
theorem kleene_least (P : Problem V) (hL : IsSemilattice P.join) (hM : Monotone P) (A : Assign V) :
    ∀ (fuel : Nat), closedB P (kleene P fuel A) = true → IsLeastClosedAbove P A (kleene P fuel A) :=
  fun fuel hc => ⟨closedB_sound P _ hc, kleene_between P hL hM fuel A⟩

theorem Lat.semilattice (lat : Lat) : IsSemilattice lat.join := by
  cases lat with
  | set => exact ⟨Nat.or_comm, Nat.or_assoc, Nat.or_self⟩
  | chain => exact ⟨Nat.max_comm, Nat.max_assoc, Nat.max_self⟩

theorem and_mono {a b : Nat} (h : a ||| b = b) (m : Nat) : (a &&& m) ||| (b &&& m) = b &&& m := by
  rw [← Nat.and_or_distrib_right, h]

theorem and_zero_of_le {a b : Nat} (h : a ||| b = b) {m : Nat} (hb : b &&& m = 0) : a &&& m = 0 := by
  have := and_mono h m
  rw [hb, Nat.or_zero] at this
  exact this

theorem setTf_monotone (keep gen trig extra block : Nat) {a b x : Nat} (hab : a ||| b = b)
    (hx : (Tf.set keep gen trig extra block).apply a = some x) :
    ∃ y, (Tf.set keep gen trig extra block).apply b = some y ∧ x ||| y = y := by
  have hx : (if block ≠ 0 ∧ a &&& block = 0 then none
    else some ((a &&& keep) ||| gen ||| (if a &&& trig ≠ 0 then extra else 0))) = some x := hx
  split at hx
  · cases hx
  · next hnb =>
    cases hx
    refine ⟨_, if_neg fun hc => hnb ⟨hc.1, and_zero_of_le hab hc.2⟩, ?_⟩
    have hS := Lat.semilattice .set
    refine hS.join_le_join (hS.join_le_join (and_mono hab keep) (Nat.or_self gen)) ?_
    split
    · next hta => rw [if_pos fun hc => hta (and_zero_of_le hab hc)]; exact Nat.or_self extra
    · exact Nat.zero_or _

theorem chainTf_monotone (thr mul add cap : Nat) {a b x : Nat} (hab : max a b = b)
    (hx : (Tf.chain thr mul add cap).apply a = some x) :
    ∃ y, (Tf.chain thr mul add cap).apply b = some y ∧ max x y = y := by
  have hle : a ≤ b := hab ▸ Nat.le_max_left a b
  have hx : (if a < thr then none else some (min cap (a * mul + add))) = some x := hx
  split at hx
  · cases hx
  · next hthr =>
    cases hx
    refine ⟨_, if_neg fun h => hthr (Nat.lt_of_le_of_lt hle h), Nat.max_eq_right ?_⟩
    exact Nat.le_min.mpr ⟨Nat.min_le_left .., Nat.le_trans (Nat.min_le_right ..)
      (Nat.add_le_add_right (Nat.mul_le_mul_right mul hle) add)⟩

def Tf.Matches : Lat → Tf → Prop
  | .set, .set .. => True
  | .chain, .chain .. => True
  | _, _ => False

/-- every problem the harness generates satisfies the hypotheses of the theorems -/
theorem mkProblem_monotone (lat : Lat) (es : List (Nat × Nat × Tf)) (h : ∀ x ∈ es, Tf.Matches lat x.2.2) :
    Monotone (mkProblem lat es) := by
  intro e he a b x hab hx
  obtain ⟨⟨s, d, t⟩, hmem, rfl⟩ := List.mem_map.mp he
  have hm := h _ hmem
  cases lat <;> cases t
  · exact setTf_monotone _ _ _ _ _ hab hx
  · exact hm.elim
  · exact hm.elim
  · exact chainTf_monotone _ _ _ _ hab hx

/-! ### Non-vacuity: all hypotheses instantiated on concrete problems -/

/-- a 3-node loop with a blocking edge over the set lattice -/
def exEdges : List (Nat × Nat × Tf) :=
  [(0, 1, .set 63 2 1 4 0), (1, 2, .set 3 0 0 0 4), (2, 0, .set 63 8 0 0 0), (1, 1, .set 63 0 2 16 0)]

example : IsSemilattice (mkProblem .set exEdges).join := Lat.semilattice .set
example : Monotone (mkProblem .set exEdges) := mkProblem_monotone .set exEdges (by
  intro x hx
  simp only [exEdges, List.mem_cons, List.not_mem_nil, or_false] at hx
  rcases hx with rfl | rfl | rfl | rfl <;> trivial)
example : WellFormed (mkProblem .set exEdges) 3 :=
  show ∀ e ∈ (mkProblem .set exEdges).edges, e.src < 3 ∧ e.dst < 3 by decide
example : IsPriorityOrder 3 [2, 0, 1] := ⟨by decide, rfl, by decide, by decide⟩

/-- two different priority orders, same (non-trivial) least solution; node 2 is reached only
because the blocking edge `1 → 2` opens once bit 2 has arrived at node 1 -/
example : (List.range 3).map (Comp.compute (mkProblem .set exEdges) 50 (Comp.init none [2, 0, 1] [(0, 1)])).1.vals
    = [some 11, some 31, some 3] := by decide +kernel
example : (List.range 3).map (Comp.compute (mkProblem .set exEdges) 50 (Comp.init none [0, 1, 2] [(0, 1)])).1.vals
    = [some 11, some 31, some 3] := by decide +kernel
example : (Comp.compute (mkProblem .set exEdges) 50 (Comp.init none [2, 0, 1] [(0, 1)])).2 = true := by decide +kernel
/-- the bounded variant with bound 1 gives up and says so -/
example : (Comp.computeWithMaxSteps (mkProblem .set exEdges) 1 50 (Comp.init none [2, 0, 1] [(0, 1)])).1.hasStabilized
    = false := by decide +kernel

/-- finite height: reachability (values `Bool`, join = `||`) has height 1 -/
def reachP (es : List (Nat × Nat)) : Problem Bool :=
  { edges := es.map (fun (s, d) => { src := s, dst := d, f := fun b => if b then some true else none })
    join := fun a b => a || b }

theorem reachP_semilattice (es : List (Nat × Nat)) : IsSemilattice (reachP es).join :=
  ⟨by intro a b; cases a <;> cases b <;> rfl,
   by intro a b c; cases a <;> cases b <;> cases c <;> rfl,
   by intro a; cases a <;> rfl⟩

theorem reachP_ranked (es : List (Nat × Nat)) : Ranked (reachP es) 1 (fun b => b.toNat) :=
  ⟨by intro a; cases a <;> decide,
   by intro a b; cases a <;> cases b <;> simp [Problem.le, reachP]⟩

theorem reachP_monotone (es : List (Nat × Nat)) : Monotone (reachP es) := by
  intro e he a b x hab hx
  simp only [reachP, List.mem_map] at he
  obtain ⟨⟨s, d⟩, _, rfl⟩ := he
  cases a
  · cases hx
  · cases b
    · cases hab
    · cases hx; exact ⟨true, rfl, rfl⟩

example : FiniteHeight (reachP [(0, 1)]) 1 := by
  intro l hl
  match l, hl with
  | [], _ => exact Nat.zero_le _
  | [_], _ => exact Nat.le_succ _
  | [_, _], _ => exact Nat.le_refl _
  | a :: b :: c :: rest, ⟨h1, h2, h3, h4, _⟩ =>
    have : ∀ a b c : Bool, (b || a) = a → b ≠ a → (c || b) = b → c ≠ b → False := by decide
    exact (this a b c h1 h2 h3 h4).elim

def exReach : Problem Bool := reachP [(0, 1), (1, 2), (2, 1), (3, 2)]

/-- `compute_terminates` and `compute_least` applied: for EVERY priority order of the 4 nodes the
solver returns within `4·(2·1+3) = 20` iterations with the least closed assignment. -/
example (prio : List Nat) (hp : IsPriorityOrder 4 prio) :
    ∃ c', Comp.compute exReach 20 (Comp.init none prio [(0, true)]) = (c', true) ∧
      IsLeastClosedAbove exReach (startVals none 4 [(0, true)]) c'.vals := by
  have hW : WellFormed exReach 4 := show ∀ e ∈ exReach.edges, e.src < 4 ∧ e.dst < 4 by decide
  have hs : ∀ x ∈ [((0 : Nat), true)], x.1 < 4 := by decide
  have heq : Comp.compute exReach 20 (Comp.init none prio [(0, true)]) = (_, true) :=
    Prod.ext rfl (compute_terminates exReach (reachP_semilattice _) hW (reachP_ranked _) hp
      none [(0, true)] hs 20 (Nat.le_refl _))
  exact ⟨_, heq, (compute_least exReach (reachP_semilattice _) hW (reachP_monotone _) hp none [(0, true)] hs 20 _
    heq).1⟩

/-! ### Non-vacuity of `Fix.sound_of_closed` -/

/-- counter analysis: concrete states are counters, the abstract value `a` describes `c ≤ a`; every
edge that is not a self-loop may increment the counter -/
def cntP : Problem Nat :=
  { edges := [⟨0, 1, fun a => some (a + 1)⟩, ⟨1, 2, fun a => some (a + 1)⟩, ⟨1, 1, fun a => some a⟩]
    join := max }

def cntS : Assign Nat := fun i => if i ≤ 2 then some i else none

theorem cntS_closed : Closed cntP cntS := by
  intro e he
  simp only [cntP, List.mem_cons, List.not_mem_nil, or_false] at he
  rcases he with rfl | rfl | rfl <;> intro a x ha hx <;> cases ha <;> cases hx <;> exact ⟨_, rfl, rfl⟩

example : Closed cntP cntS := cntS_closed

/-- every counter value reachable at node 2 is at most 2 -/
example (c : Nat)
    (hr : Reach cntP (fun i c => i = 0 ∧ c = 0) (fun e c c' => c' ≤ c + (if e.src = e.dst then 0 else 1)) 2 c) : c ≤ 2 := by
  obtain ⟨a, ha, hγ⟩ := sound_of_closed (γ := fun a c => c ≤ a) (P := cntP)
    (fun x b c h => Nat.le_trans h (Nat.le_max_left x b))
    (by
      intro e he a c c' h hs
      simp only [cntP, List.mem_cons, List.not_mem_nil, or_false] at he
      rcases he with rfl | rfl | rfl <;> exact ⟨_, rfl, Nat.le_trans hs (Nat.add_le_add_right h _)⟩)
    cntS_closed (by rintro i c ⟨rfl, rfl⟩; exact ⟨0, rfl, Nat.le_refl _⟩) hr
  cases ha
  exact hγ

end CweModel.C07
